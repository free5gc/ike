/-
  GoSem — the small semantic core every model function is written in.

  * `Bytes`  : Go `[]byte` as a value (nil ≡ empty, which is the equality the
               properties prescribe).
  * `Res α`  : outcome of a Go function: `ok a` (returned a value, nil error),
               `err` (returned a non-nil error), `fault` (the Go statement
               would panic: index / slice out of range, negative make, nil
               dereference — or would read past `len` into spare capacity).
  * checked primitives `goIndex / goSlice / goFrom / goTo / goU16 / goU32 / goU64`
    yield `fault` exactly when Go's bounds rule `lo ≤ hi ≤ len` fails; `goX_ok` rewrites one of them
    to its value under that bound.

  Nothing here imports Mathlib: the compiled driver links against this file.
-/

namespace Ike

abbrev Bytes := List UInt8

inductive Res (α : Type) where
  | ok    : α → Res α
  | err   : Res α
  | fault : Res α
deriving Repr, DecidableEq, BEq, Inhabited

namespace Res

@[inline] def bind {α β : Type} (x : Res α) (f : α → Res β) : Res β :=
  match x with
  | ok a  => f a
  | err   => err
  | fault => fault

@[inline] def map {α β : Type} (f : α → β) (x : Res α) : Res β :=
  match x with
  | ok a  => ok (f a)
  | err   => err
  | fault => fault

instance : Monad Res where
  pure := Res.ok
  bind := Res.bind

@[simp] theorem pure_eq {α : Type} (a : α) : (pure a : Res α) = ok a := rfl
@[simp] theorem bind_ok {α β : Type} (a : α) (f : α → Res β) : (ok a >>= f) = f a := rfl
@[simp] theorem bind_err {α β : Type} (f : α → Res β) : ((err : Res α) >>= f) = err := rfl
@[simp] theorem bind_fault {α β : Type} (f : α → Res β) : ((fault : Res α) >>= f) = fault := rfl
@[simp] theorem map_ok {α β : Type} (f : α → β) (a : α) : (f <$> (ok a : Res α)) = ok (f a) := rfl
@[simp] theorem map_err {α β : Type} (f : α → β) : (f <$> (err : Res α)) = err := rfl
@[simp] theorem map_fault {α β : Type} (f : α → β) : (f <$> (fault : Res α)) = fault := rfl

def isOk {α : Type} : Res α → Bool
  | ok _ => true
  | _ => false

def isFault {α : Type} : Res α → Bool
  | fault => true
  | _ => false

/-- `x >>= f` is not a fault when `x` is not and `f` never produces one on `x`'s value. -/
theorem bind_ne_fault {α β : Type} {x : Res α} {f : α → Res β}
    (hx : x ≠ fault) (hf : ∀ a, x = ok a → f a ≠ fault) : (x >>= f) ≠ fault := by
  cases x with
  | ok a => simpa using hf a rfl
  | err => simp
  | fault => exact absurd rfl hx

/-- a bind that returned a value: both of its parts did -/
theorem bind_eq_ok {α β : Type} {x : Res α} {f : α → Res β} {b : β}
    (h : (x >>= f) = ok b) : ∃ a, x = ok a ∧ f a = ok b := by
  cases x with
  | ok a => exact ⟨a, rfl, by simpa using h⟩
  | err => simp at h
  | fault => simp at h

/-- a Go `if c { return err }` that was passed: `c` was false and the rest returned the value -/
theorem ite_err_eq_ok {α : Type} {c : Prop} [Decidable c] {x : Res α} {y : α}
    (h : (if c then err else x) = ok y) : ¬c ∧ x = ok y := by
  by_cases hc : c
  · rw [if_pos hc] at h; nomatch h
  · rw [if_neg hc] at h; exact ⟨hc, h⟩

theorem ite_bind {α β : Type} (c : Prop) [Decidable c] (x y : Res α) (f : α → Res β) :
    ((if c then x else y) >>= f) = if c then x >>= f else y >>= f := by
  split <;> rfl

end Res

/-- Go `if cond { return err }` as a monadic guard. -/
@[inline] def guardErr (c : Bool) : Res Unit := if c then Res.err else Res.ok ()

@[simp] theorem guardErr_true : guardErr true = Res.err := rfl
@[simp] theorem guardErr_false : guardErr false = Res.ok () := rfl

/-! ### byte access -/

/-- unchecked read: 0 beyond the end -/
def byteAt (b : Bytes) (i : Nat) : UInt8 := b.getD i 0

/-- Go `b[i]`. -/
def goIndex (b : Bytes) (i : Nat) : Res UInt8 :=
  if i < b.length then Res.ok (byteAt b i) else Res.fault

/-- Go `b[lo:hi]`. -/
def goSlice (b : Bytes) (lo hi : Nat) : Res Bytes :=
  if lo ≤ hi ∧ hi ≤ b.length then Res.ok ((b.take hi).drop lo) else Res.fault

/-- Go `b[lo:]`. -/
def goFrom (b : Bytes) (lo : Nat) : Res Bytes :=
  if lo ≤ b.length then Res.ok (b.drop lo) else Res.fault

/-- Go `b[:hi]`. -/
def goTo (b : Bytes) (hi : Nat) : Res Bytes :=
  if hi ≤ b.length then Res.ok (b.take hi) else Res.fault

theorem goIndex_ok {b : Bytes} {i : Nat} (h : i < b.length) : goIndex b i = Res.ok (byteAt b i) := by
  simp [goIndex, h]

theorem goSlice_ok {b : Bytes} {lo hi : Nat} (h1 : lo ≤ hi) (h2 : hi ≤ b.length) :
    goSlice b lo hi = Res.ok ((b.take hi).drop lo) := by
  simp [goSlice, h1, h2]

theorem goFrom_ok {b : Bytes} {lo : Nat} (h : lo ≤ b.length) : goFrom b lo = Res.ok (b.drop lo) := by
  simp [goFrom, h]

theorem goTo_ok {b : Bytes} {hi : Nat} (h : hi ≤ b.length) : goTo b hi = Res.ok (b.take hi) := by
  simp [goTo, h]

theorem goIndex_ne_fault {b : Bytes} {i : Nat} (h : i < b.length) : goIndex b i ≠ Res.fault := by
  simp [goIndex, h]

/-! ### big-endian integers (defined arithmetically so that proofs stay in `omega`) -/

def be16 (b0 b1 : UInt8) : UInt16 := UInt16.ofNat (b0.toNat * 256 + b1.toNat)

def be32 (b0 b1 b2 b3 : UInt8) : UInt32 :=
  UInt32.ofNat (((b0.toNat * 256 + b1.toNat) * 256 + b2.toNat) * 256 + b3.toNat)

def beNat (b : Bytes) : Nat := b.foldl (fun acc x => acc * 256 + x.toNat) 0

def be64 (b : Bytes) : UInt64 := UInt64.ofNat (beNat (b.take 8))

def put16 (v : UInt16) : Bytes := [UInt8.ofNat (v.toNat / 256), UInt8.ofNat (v.toNat % 256)]

def put32 (v : UInt32) : Bytes :=
  [UInt8.ofNat (v.toNat / 16777216), UInt8.ofNat (v.toNat / 65536 % 256),
   UInt8.ofNat (v.toNat / 256 % 256), UInt8.ofNat (v.toNat % 256)]

def put64 (v : UInt64) : Bytes :=
  put32 (UInt32.ofNat (v.toNat / 4294967296)) ++ put32 (UInt32.ofNat (v.toNat % 4294967296))

/-- big-endian encoding of `n` in exactly `len` octets (high octets dropped if it does not fit). -/
def natToBytes (len : Nat) (n : Nat) : Bytes :=
  (List.range len).map (fun i => UInt8.ofNat (n / 256 ^ (len - 1 - i) % 256))

/-- minimal big-endian encoding (Go `big.Int.Bytes()`): empty for 0. -/
def natBytesMin (n : Nat) : Bytes :=
  let rec go (fuel : Nat) (n : Nat) (acc : Bytes) : Bytes :=
    match fuel with
    | 0 => acc
    | fuel + 1 => if n = 0 then acc else go fuel (n / 256) (UInt8.ofNat (n % 256) :: acc)
  go (n + 1) n []

/-- Go `binary.BigEndian.Uint16(b[off:off+2])`. -/
def goU16 (b : Bytes) (off : Nat) : Res UInt16 :=
  if off + 2 ≤ b.length then Res.ok (be16 (byteAt b off) (byteAt b (off + 1))) else Res.fault

/-- Go `binary.BigEndian.Uint32(b[off:off+4])`. -/
def goU32 (b : Bytes) (off : Nat) : Res UInt32 :=
  if off + 4 ≤ b.length then
    Res.ok (be32 (byteAt b off) (byteAt b (off + 1)) (byteAt b (off + 2)) (byteAt b (off + 3)))
  else Res.fault

/-- Go `binary.BigEndian.Uint64(b[off:off+8])`. -/
def goU64 (b : Bytes) (off : Nat) : Res UInt64 :=
  if off + 8 ≤ b.length then Res.ok (be64 (b.drop off)) else Res.fault

theorem goU16_ok {b : Bytes} {off : Nat} (h : off + 2 ≤ b.length) :
    goU16 b off = Res.ok (be16 (byteAt b off) (byteAt b (off + 1))) := by simp [goU16, h]

theorem goU32_ok {b : Bytes} {off : Nat} (h : off + 4 ≤ b.length) :
    goU32 b off = Res.ok (be32 (byteAt b off) (byteAt b (off + 1)) (byteAt b (off + 2)) (byteAt b (off + 3))) := by
  simp [goU32, h]

theorem goU64_ok {b : Bytes} {off : Nat} (h : off + 8 ≤ b.length) :
    goU64 b off = Res.ok (be64 (b.drop off)) := by simp [goU64, h]

/-- `make([]byte, n)`. -/
def zeros (n : Nat) : Bytes := List.replicate n 0

@[simp] theorem zeros_length (n : Nat) : (zeros n).length = n := by simp [zeros]

/-- constant-time comparison `hmac.Equal` — as a function it is plain equality. -/
def bytesEq (a b : Bytes) : Bool := a == b

/-- a builder that refuses under `c` and otherwise returns `x`: what each outcome means -/
theorem Res.ite_err_ok_iff {α : Type} (c : Prop) [Decidable c] (x : α) :
    (∀ y, (if c then Res.err else .ok x) = .ok y ↔ ¬ c ∧ y = x) ∧
    ((if c then Res.err else .ok x) = .err ↔ c) ∧ (if c then Res.err else .ok x) ≠ .fault := by
  by_cases h : c
  · rw [if_pos h]; exact ⟨fun y => ⟨nofun, fun x => absurd h x.1⟩, ⟨fun _ => h, fun _ => rfl⟩, nofun⟩
  · rw [if_neg h]
    exact ⟨fun y => ⟨fun e => ⟨h, (Res.ok.inj e).symm⟩, fun e => e.2 ▸ rfl⟩, ⟨nofun, fun x => absurd x h⟩, nofun⟩

/-- one step `k := ks[:l]; ks = ks[l:]` of a Go re-slicing sequence, `n` octets into a stream that
is long enough: the rest of the computation runs on the slice and on the stream from `n + l` -/
theorem goTo_goFrom_drop {β : Type} (ks : Bytes) (n l : Nat) (h : n + l ≤ ks.length) (f : Bytes → Bytes → Res β) :
    (goTo (ks.drop n) l >>= fun a => goFrom (ks.drop n) l >>= fun r => f a r)
      = f ((ks.drop n).take l) (ks.drop (n + l)) := by
  have hl : l ≤ (ks.drop n).length := by rw [List.length_drop]; omega
  rw [goTo_ok hl, goFrom_ok hl, List.drop_drop]; rfl

/-- the first step: offset 0, where `ks.drop 0` is written `ks` -/
theorem goTo_goFrom {β : Type} (ks : Bytes) (l : Nat) (h : l ≤ ks.length) (f : Bytes → Bytes → Res β) :
    (goTo ks l >>= fun a => goFrom ks l >>= fun r => f a r) = f (ks.take l) (ks.drop l) := by
  simpa using goTo_goFrom_drop ks 0 l (by omega) f

end Ike
