import IkeProofs.Refine.Header
import IkeModel.Message.Build
import IkeModel.Spec.Ts24502
import IkeProofs.Theorems.C19

/-! `message/build.go` (and `NewPayloadEap`, `NewMessage`) as generated ⊑ `Ike.Build`.

For every generated builder `B` there is
* `B_eq`: the direct characterisation — the exact `Res` value `B` returns, as a function of the
  arguments, for EVERY container (no hypothesis); and
* `B_refines`: for a container `c` whose elements all have an abstraction
  (`GenAbs.absPayloads c = some ps`), `B` returns `Res.ok` of a container whose abstraction is what
  the model's builder (`Ike.Build.…`) computes from `ps`; where the Go builder also returns a pointer
  to the element it appended, the generated code returns `(container, element)` and the theorem
  says in addition that the container is `c ++ [element]`.

Sub-container builders are related through `List.map GenAbs.absProposal / absTransform / absTSel /
absCPAttr`.  The two `_spec` theorems at the end compare with TS 24.502 through `Theorems/C19.lean`
(`C19_notifyTcpPort`, `qos_build_eq`), which is why a property file is imported here. -/

namespace Ike.Refine
open Ike Ike.Gen.message

theorem absPayloads_snoc (c : List IKEPayload) (ps : List Payload) (x : IKEPayload) (p : Payload)
    (hc : GenAbs.absPayloads c = some ps) (hx : GenAbs.absPayload x = some p) :
    GenAbs.absPayloads (c ++ [x]) = some (ps ++ [p]) :=
  absPayloads_append c [x] ps [p] hc (by simp [GenAbs.absPayloads, hx])

/-- a builder that appends one payload: the abstraction of its result -/
theorem ok_snoc_refines (c : List IKEPayload) (ps : List Payload) (x : IKEPayload) (p : Payload)
    (hc : GenAbs.absPayloads c = some ps) (hx : GenAbs.absPayload x = some p) :
    (Res.ok (c ++ [x])).map GenAbs.absPayloads = .ok (some (ps ++ [p])) := by
  rw [map_ok', absPayloads_snoc c ps x p hc hx]

theorem absPayloads_nil : GenAbs.absPayloads [] = some [] := rfl

/-- abstraction of a generated `IKEMessage` (header + payload container); the same function as `GenAbs.absMsg` -/
def absMsgB (m : IKEMessage) : Option Msg :=
  (GenAbs.absPayloads m.Payloads).map (fun ps => ⟨GenAbs.absHeader m.IKEHeader, ps⟩)

theorem IKEPayloadContainer_Reset_eq (c : List IKEPayload) : IKEPayloadContainer.Reset c = .ok [] := rfl

set_option linter.unusedVariables false in
theorem IKEPayloadContainer_Reset_refines (c : List IKEPayload) (ps : List Payload)
    (hc : GenAbs.absPayloads c = some ps) :
    (IKEPayloadContainer.Reset c).map GenAbs.absPayloads = .ok (some (Build.reset ps)) := rfl

theorem ConfigurationAttributeContainer_Reset_eq (l : List IndividualConfigurationAttribute) :
    ConfigurationAttributeContainer.Reset l = .ok [] := rfl

theorem ConfigurationAttributeContainer_Reset_refines (l : List IndividualConfigurationAttribute) :
    (ConfigurationAttributeContainer.Reset l).map (List.map GenAbs.absCPAttr)
      = .ok (Build.reset (l.map GenAbs.absCPAttr)) := rfl

theorem IndividualTrafficSelectorContainer_Reset_eq (l : List IndividualTrafficSelector) :
    IndividualTrafficSelectorContainer.Reset l = .ok [] := rfl

theorem IndividualTrafficSelectorContainer_Reset_refines (l : List IndividualTrafficSelector) :
    (IndividualTrafficSelectorContainer.Reset l).map (List.map GenAbs.absTSel)
      = .ok (Build.reset (l.map GenAbs.absTSel)) := rfl

theorem ProposalContainer_Reset_eq (l : List Gen.message.Proposal) : ProposalContainer.Reset l = .ok [] := rfl

theorem ProposalContainer_Reset_refines (l : List Gen.message.Proposal) :
    (ProposalContainer.Reset l).map (List.map GenAbs.absProposal)
      = .ok (Build.reset (l.map GenAbs.absProposal)) := rfl

theorem TransformContainer_Reset_eq (l : List Gen.message.Transform) : TransformContainer.Reset l = .ok [] := rfl

theorem TransformContainer_Reset_refines (l : List Gen.message.Transform) :
    (TransformContainer.Reset l).map (List.map GenAbs.absTransform)
      = .ok (Build.reset (l.map GenAbs.absTransform)) := rfl

/-! ## payload builders that return the container only -/

theorem BuildNotification_eq (c : List IKEPayload) (proto : UInt8) (ntype : UInt16) (spi data : Bytes) :
    IKEPayloadContainer.BuildNotification c proto ntype spi data
      = .ok (c ++ [.Notification { ProtocolID := proto, NotifyMessageType := ntype, SPI := spi,
                                   NotificationData := data }]) := rfl

theorem BuildNotification_refines (c : List IKEPayload) (ps : List Payload)
    (hc : GenAbs.absPayloads c = some ps) (proto : UInt8) (ntype : UInt16) (spi data : Bytes) :
    (IKEPayloadContainer.BuildNotification c proto ntype spi data).map GenAbs.absPayloads
      = .ok (some (Build.buildNotification ps proto ntype spi data)) :=
  ok_snoc_refines c ps _ _ hc rfl

theorem BuildCertificate_eq (c : List IKEPayload) (enc : UInt8) (d : Bytes) :
    IKEPayloadContainer.BuildCertificate c enc d
      = .ok (c ++ [.Certificate { CertificateEncoding := enc, CertificateData := d }]) := rfl

theorem BuildCertificate_refines (c : List IKEPayload) (ps : List Payload)
    (hc : GenAbs.absPayloads c = some ps) (enc : UInt8) (d : Bytes) :
    (IKEPayloadContainer.BuildCertificate c enc d).map GenAbs.absPayloads
      = .ok (some (Build.buildCertificate ps enc d)) :=
  ok_snoc_refines c ps _ _ hc rfl

theorem BUildKeyExchange_eq (c : List IKEPayload) (group : UInt16) (d : Bytes) :
    IKEPayloadContainer.BUildKeyExchange c group d
      = .ok (c ++ [.KeyExchange { DiffieHellmanGroup := group, KeyExchangeData := d }]) := rfl

theorem BUildKeyExchange_refines (c : List IKEPayload) (ps : List Payload)
    (hc : GenAbs.absPayloads c = some ps) (group : UInt16) (d : Bytes) :
    (IKEPayloadContainer.BUildKeyExchange c group d).map GenAbs.absPayloads
      = .ok (some (Build.buildKeyExchange ps group d)) :=
  ok_snoc_refines c ps _ _ hc rfl

theorem BuildIdentificationInitiator_eq (c : List IKEPayload) (t : UInt8) (d : Bytes) :
    IKEPayloadContainer.BuildIdentificationInitiator c t d
      = .ok (c ++ [.IdentificationInitiator { IDType := t, IDData := d }]) := rfl

theorem BuildIdentificationInitiator_refines (c : List IKEPayload) (ps : List Payload)
    (hc : GenAbs.absPayloads c = some ps) (t : UInt8) (d : Bytes) :
    (IKEPayloadContainer.BuildIdentificationInitiator c t d).map GenAbs.absPayloads
      = .ok (some (Build.buildIdentificationInitiator ps t d)) :=
  ok_snoc_refines c ps _ _ hc rfl

theorem BuildIdentificationResponder_eq (c : List IKEPayload) (t : UInt8) (d : Bytes) :
    IKEPayloadContainer.BuildIdentificationResponder c t d
      = .ok (c ++ [.IdentificationResponder { IDType := t, IDData := d }]) := rfl

theorem BuildIdentificationResponder_refines (c : List IKEPayload) (ps : List Payload)
    (hc : GenAbs.absPayloads c = some ps) (t : UInt8) (d : Bytes) :
    (IKEPayloadContainer.BuildIdentificationResponder c t d).map GenAbs.absPayloads
      = .ok (some (Build.buildIdentificationResponder ps t d)) :=
  ok_snoc_refines c ps _ _ hc rfl

theorem BuildAuthentication_eq (c : List IKEPayload) (m : UInt8) (d : Bytes) :
    IKEPayloadContainer.BuildAuthentication c m d
      = .ok (c ++ [.Authentication { AuthenticationMethod := m, AuthenticationData := d }]) := rfl

theorem BuildAuthentication_refines (c : List IKEPayload) (ps : List Payload)
    (hc : GenAbs.absPayloads c = some ps) (m : UInt8) (d : Bytes) :
    (IKEPayloadContainer.BuildAuthentication c m d).map GenAbs.absPayloads
      = .ok (some (Build.buildAuthentication ps m d)) :=
  ok_snoc_refines c ps _ _ hc rfl

theorem BuildNonce_eq (c : List IKEPayload) (d : Bytes) :
    IKEPayloadContainer.BuildNonce c d = .ok (c ++ [.Nonce { NonceData := d }]) := rfl

theorem BuildNonce_refines (c : List IKEPayload) (ps : List Payload)
    (hc : GenAbs.absPayloads c = some ps) (d : Bytes) :
    (IKEPayloadContainer.BuildNonce c d).map GenAbs.absPayloads = .ok (some (Build.buildNonce ps d)) :=
  ok_snoc_refines c ps _ _ hc rfl

theorem BuildDeletePayload_eq (c : List IKEPayload) (proto spiSize : UInt8) (num : UInt16) (spis : List UInt32) :
    IKEPayloadContainer.BuildDeletePayload c proto spiSize num spis
      = .ok (c ++ [.Delete { ProtocolID := proto, SPISize := spiSize, NumberOfSPI := num, SPIs := spis }]) := rfl

theorem BuildDeletePayload_refines (c : List IKEPayload) (ps : List Payload)
    (hc : GenAbs.absPayloads c = some ps) (proto spiSize : UInt8) (num : UInt16) (spis : List UInt32) :
    (IKEPayloadContainer.BuildDeletePayload c proto spiSize num spis).map GenAbs.absPayloads
      = .ok (some (Build.buildDeletePayload ps proto spiSize num spis)) :=
  ok_snoc_refines c ps _ _ hc rfl

theorem BuildEAPSuccess_eq (c : List IKEPayload) (ident : UInt8) :
    IKEPayloadContainer.BuildEAPSuccess c ident = .ok (c ++ [.PayloadEap { EAP := ⟨3, ident, .none⟩ }]) := rfl

theorem BuildEAPSuccess_refines (c : List IKEPayload) (ps : List Payload)
    (hc : GenAbs.absPayloads c = some ps) (ident : UInt8) :
    (IKEPayloadContainer.BuildEAPSuccess c ident).map GenAbs.absPayloads
      = .ok (some (Build.buildEAPSuccess ps ident)) :=
  ok_snoc_refines c ps _ _ hc rfl

theorem BuildEAPfailure_eq (c : List IKEPayload) (ident : UInt8) :
    IKEPayloadContainer.BuildEAPfailure c ident = .ok (c ++ [.PayloadEap { EAP := ⟨4, ident, .none⟩ }]) := rfl

theorem BuildEAPfailure_refines (c : List IKEPayload) (ps : List Payload)
    (hc : GenAbs.absPayloads c = some ps) (ident : UInt8) :
    (IKEPayloadContainer.BuildEAPfailure c ident).map GenAbs.absPayloads
      = .ok (some (Build.buildEAPfailure ps ident)) :=
  ok_snoc_refines c ps _ _ hc rfl

/-! ## payload builders that also return (a copy of) the appended element -/

theorem BuildEncrypted_eq (c : List IKEPayload) (next : UInt8) (d : Bytes) :
    IKEPayloadContainer.BuildEncrypted c next d
      = .ok (c ++ [.Encrypted { NextPayload := next, EncryptedData := d }],
             { NextPayload := next, EncryptedData := d }) := rfl

theorem BuildEncrypted_refines (c : List IKEPayload) (ps : List Payload)
    (hc : GenAbs.absPayloads c = some ps) (next : UInt8) (d : Bytes) :
    ∃ e, IKEPayloadContainer.BuildEncrypted c next d = .ok (c ++ [.Encrypted e], e) ∧
      GenAbs.absPayloads (c ++ [.Encrypted e]) = some (Build.buildEncrypted ps next d) :=
  ⟨_, BuildEncrypted_eq c next d, absPayloads_snoc c ps _ _ hc rfl⟩

theorem BuildConfiguration_eq (c : List IKEPayload) (ctype : UInt8) :
    IKEPayloadContainer.BuildConfiguration c ctype
      = .ok (c ++ [.Configuration { ConfigurationType := ctype, ConfigurationAttribute := [] }],
             { ConfigurationType := ctype, ConfigurationAttribute := [] }) := rfl

theorem BuildConfiguration_refines (c : List IKEPayload) (ps : List Payload)
    (hc : GenAbs.absPayloads c = some ps) (ctype : UInt8) :
    ∃ e, IKEPayloadContainer.BuildConfiguration c ctype = .ok (c ++ [.Configuration e], e) ∧
      GenAbs.absPayloads (c ++ [.Configuration e]) = some (Build.buildConfiguration ps ctype) :=
  ⟨_, BuildConfiguration_eq c ctype, absPayloads_snoc c ps _ _ hc rfl⟩

theorem BuildTrafficSelectorInitiator_eq (c : List IKEPayload) :
    IKEPayloadContainer.BuildTrafficSelectorInitiator c
      = .ok (c ++ [.TrafficSelectorInitiator { TrafficSelectors := [] }], { TrafficSelectors := [] }) := rfl

theorem BuildTrafficSelectorInitiator_refines (c : List IKEPayload) (ps : List Payload)
    (hc : GenAbs.absPayloads c = some ps) :
    ∃ e, IKEPayloadContainer.BuildTrafficSelectorInitiator c = .ok (c ++ [.TrafficSelectorInitiator e], e) ∧
      GenAbs.absPayloads (c ++ [.TrafficSelectorInitiator e]) = some (Build.buildTrafficSelectorInitiator ps) :=
  ⟨_, BuildTrafficSelectorInitiator_eq c, absPayloads_snoc c ps _ _ hc rfl⟩

theorem BuildTrafficSelectorResponder_eq (c : List IKEPayload) :
    IKEPayloadContainer.BuildTrafficSelectorResponder c
      = .ok (c ++ [.TrafficSelectorResponder { TrafficSelectors := [] }], { TrafficSelectors := [] }) := rfl

theorem BuildTrafficSelectorResponder_refines (c : List IKEPayload) (ps : List Payload)
    (hc : GenAbs.absPayloads c = some ps) :
    ∃ e, IKEPayloadContainer.BuildTrafficSelectorResponder c = .ok (c ++ [.TrafficSelectorResponder e], e) ∧
      GenAbs.absPayloads (c ++ [.TrafficSelectorResponder e]) = some (Build.buildTrafficSelectorResponder ps) :=
  ⟨_, BuildTrafficSelectorResponder_eq c, absPayloads_snoc c ps _ _ hc rfl⟩

theorem BuildSecurityAssociation_eq (c : List IKEPayload) :
    IKEPayloadContainer.BuildSecurityAssociation c
      = .ok (c ++ [.SecurityAssociation { Proposals := [] }], { Proposals := [] }) := rfl

theorem BuildSecurityAssociation_refines (c : List IKEPayload) (ps : List Payload)
    (hc : GenAbs.absPayloads c = some ps) :
    ∃ e, IKEPayloadContainer.BuildSecurityAssociation c = .ok (c ++ [.SecurityAssociation e], e) ∧
      GenAbs.absPayloads (c ++ [.SecurityAssociation e]) = some (Build.buildSecurityAssociation ps) :=
  ⟨_, BuildSecurityAssociation_eq c, absPayloads_snoc c ps _ _ hc rfl⟩

theorem BuildEAP_eq (c : List IKEPayload) (code ident : UInt8) :
    IKEPayloadContainer.BuildEAP c code ident
      = .ok (c ++ [.PayloadEap { EAP := ⟨code, ident, .none⟩ }], { EAP := ⟨code, ident, .none⟩ }) := rfl

theorem BuildEAP_refines (c : List IKEPayload) (ps : List Payload)
    (hc : GenAbs.absPayloads c = some ps) (code ident : UInt8) :
    ∃ e, IKEPayloadContainer.BuildEAP c code ident = .ok (c ++ [.PayloadEap e], e) ∧
      GenAbs.absPayloads (c ++ [.PayloadEap e]) = some (Build.buildEAP ps code ident) :=
  ⟨_, BuildEAP_eq c code ident, absPayloads_snoc c ps _ _ hc rfl⟩

/-- `BuildEAP` followed by the caller's assignment `eap.EapTypeData = data` through the returned
pointer — at value level: replacing the last element by the updated copy — is the model's
`buildEAPWith` (the form in which the model uses `BuildEAP` for the EAP-5G builders). -/
theorem BuildEAP_then_set_refines (c : List IKEPayload) (ps : List Payload)
    (hc : GenAbs.absPayloads c = some ps) (code ident : UInt8) (data : EapData) :
    ∃ e, IKEPayloadContainer.BuildEAP c code ident = .ok (c ++ [.PayloadEap e], e) ∧
      GenAbs.absPayloads (c ++ [.PayloadEap { e with EAP := { e.EAP with data := data } }])
        = some (Build.buildEAPWith ps code ident data) :=
  ⟨_, BuildEAP_eq c code ident, absPayloads_snoc c ps _ _ hc rfl⟩

theorem BuildConfigurationAttribute_eq (l : List IndividualConfigurationAttribute) (t : UInt16) (v : Bytes) :
    ConfigurationAttributeContainer.BuildConfigurationAttribute l t v
      = .ok (l ++ [{ Type_ := t, Value := v }]) := rfl

theorem BuildConfigurationAttribute_refines (l : List IndividualConfigurationAttribute) (t : UInt16) (v : Bytes) :
    (ConfigurationAttributeContainer.BuildConfigurationAttribute l t v).map (List.map GenAbs.absCPAttr)
      = .ok (Build.buildConfigurationAttribute (l.map GenAbs.absCPAttr) t v) := by
  rw [BuildConfigurationAttribute_eq, map_ok', List.map_append]
  rfl

theorem BuildIndividualTrafficSelector_eq (l : List IndividualTrafficSelector) (tstype proto : UInt8)
    (sport eport : UInt16) (saddr eaddr : Bytes) :
    IndividualTrafficSelectorContainer.BuildIndividualTrafficSelector l tstype proto sport eport saddr eaddr
      = .ok (l ++ [{ TSType := tstype, IPProtocolID := proto, StartPort := sport, EndPort := eport,
                     StartAddress := saddr, EndAddress := eaddr }]) := rfl

theorem BuildIndividualTrafficSelector_refines (l : List IndividualTrafficSelector) (tstype proto : UInt8)
    (sport eport : UInt16) (saddr eaddr : Bytes) :
    (IndividualTrafficSelectorContainer.BuildIndividualTrafficSelector l tstype proto sport eport saddr eaddr).map
        (List.map GenAbs.absTSel)
      = .ok (Build.buildIndividualTrafficSelector (l.map GenAbs.absTSel) tstype proto sport eport saddr eaddr) := by
  rw [BuildIndividualTrafficSelector_eq, map_ok', List.map_append]
  rfl

theorem BuildProposal_eq (l : List Gen.message.Proposal) (num proto : UInt8) (spi : Bytes) :
    ProposalContainer.BuildProposal l num proto spi
      = .ok (l ++ [{ ProposalNumber := num, ProtocolID := proto, SPI := spi }],
             { ProposalNumber := num, ProtocolID := proto, SPI := spi }) := rfl

theorem BuildProposal_refines (l : List Gen.message.Proposal) (num proto : UInt8) (spi : Bytes) :
    ∃ e, ProposalContainer.BuildProposal l num proto spi = .ok (l ++ [e], e) ∧
      (l ++ [e]).map GenAbs.absProposal = Build.buildProposal (l.map GenAbs.absProposal) num proto spi := by
  refine ⟨_, BuildProposal_eq l num proto spi, ?_⟩
  rw [List.map_append]
  rfl

/-- `BuildTransform`, every argument shape (`none` = nil pointer): the generated code never faults
(the two dereferences are guarded by the nil tests) and returns exactly the model's container,
including the case "attribute type without any value", in which nothing is appended. -/
theorem BuildTransform_eq (l : List Gen.message.Transform) (ttype : UInt8) (tid : UInt16)
    (atype aval : Option UInt16) (vval : Bytes) :
    TransformContainer.BuildTransform l ttype tid atype aval vval = .ok (
      match atype, aval with
      | none, _ => l ++ [{ TransformType := ttype, TransformID := tid }]
      | some ty, some av =>
        l ++ [{ TransformType := ttype, TransformID := tid, AttributePresent := true, AttributeFormat := 1,
                AttributeType := ty, AttributeValue := av }]
      | some ty, none =>
        if vval.length ≠ 0 then
          l ++ [{ TransformType := ttype, TransformID := tid, AttributePresent := true, AttributeFormat := 0,
                  AttributeType := ty, VariableLengthAttributeValue := vval }]
        else l) := by
  unfold TransformContainer.BuildTransform
  cases atype with
  | none => simp
  | some ty =>
    cases aval with
    | some av => simp
    | none =>
      by_cases hv : vval.length = 0
      · simp [hv]
      · simp [hv]

theorem BuildTransform_refines (l : List Gen.message.Transform) (ttype : UInt8) (tid : UInt16)
    (atype aval : Option UInt16) (vval : Bytes) :
    (TransformContainer.BuildTransform l ttype tid atype aval vval).map (List.map GenAbs.absTransform)
      = .ok (Build.buildTransform (l.map GenAbs.absTransform) ttype tid atype aval vval) := by
  rw [BuildTransform_eq, map_ok']
  unfold Build.buildTransform
  cases atype with
  | none => simp [GenAbs.absTransform]
  | some ty =>
    cases aval with
    | some av => simp [GenAbs.absTransform, Facts.attrFormatTV]
    | none =>
      by_cases hv : vval.length = 0
      · simp [hv]
      · simp [hv, GenAbs.absTransform, Facts.attrFormatTLV]

/-- `NewPayloadEap` (no counterpart in `Ike.Build`): the zero EAP packet -/
theorem NewPayloadEap_eq : NewPayloadEap = .ok { EAP := ⟨0, 0, .none⟩ } := rfl

theorem NewPayloadEap_abs :
    NewPayloadEap.map (fun e => GenAbs.absPayload (.PayloadEap e)) = .ok (some (.eap ⟨0, 0, .none⟩)) := rfl

theorem Build_NewHeader_refines (ispi rspi : UInt64) (exch : UInt8) (response initiator : Bool) (mid : UInt32)
    (next : UInt8) (pb : Bytes) :
    (NewHeader ispi rspi exch response initiator mid next pb).map GenAbs.absHeader
      = .ok (newHeader ispi rspi exch response initiator mid next pb) :=
  NewHeader_refines ispi rspi exch response initiator mid next pb

theorem NewMessage_eq (ispi rspi : UInt64) (exch : UInt8) (response initiator : Bool) (mid : UInt32)
    (c : List IKEPayload) :
    NewMessage ispi rspi exch response initiator mid c
      = .ok { IKEHeader := GenAbs.repHeader (newHeader ispi rspi exch response initiator mid 0 []),
              Payloads := c } := by
  unfold NewMessage
  rw [NewHeader_eq]
  rfl

theorem NewMessage_refines (c : List IKEPayload) (ps : List Payload) (hc : GenAbs.absPayloads c = some ps)
    (ispi rspi : UInt64) (exch : UInt8) (response initiator : Bool) (mid : UInt32) :
    (NewMessage ispi rspi exch response initiator mid c).map absMsgB
      = .ok (some (Build.newMessage ispi rspi exch response initiator mid ps)) := by
  rw [NewMessage_eq, map_ok']
  simp only [absMsgB, hc, Option.map_some]
  rfl

private theorem putU16_zeros2 (v : UInt16) : Go.putU16 (zeros 2) 0 2 v = Res.ok (put16 v) := by
  rw [show zeros 2 = [0, 0] from rfl, Go.putU16_head, List.append_nil]

/-- `BuildNotifyNAS_TCP_PORT`: port 0 leaves the container as it is; otherwise one Notify payload
(no protocol, no SPI, type 55506) with the two octets of the port in network order. -/
theorem BuildNotifyNAS_TCP_PORT_eq (c : List IKEPayload) (port : UInt16) :
    IKEPayloadContainer.BuildNotifyNAS_TCP_PORT c port = .ok (
      if port = 0 then c
      else c ++ [.Notification { ProtocolID := 0, NotifyMessageType := 55506, SPI := [],
                                 NotificationData := put16 port }]) := by
  unfold IKEPayloadContainer.BuildNotifyNAS_TCP_PORT
  by_cases hp : port = 0
  · simp [hp]
  · simp only [hp, if_false, zeros_length, putU16_zeros2,
      Res.bind_ok, BuildNotification_eq]

theorem BuildNotifyNAS_TCP_PORT_refines (c : List IKEPayload) (ps : List Payload)
    (hc : GenAbs.absPayloads c = some ps) (port : UInt16) :
    (IKEPayloadContainer.BuildNotifyNAS_TCP_PORT c port).map GenAbs.absPayloads
      = .ok (some (Build.buildNotifyNasTcpPort ps port)) := by
  rw [BuildNotifyNAS_TCP_PORT_eq, map_ok']
  unfold Build.buildNotifyNasTcpPort
  by_cases hp : port = 0
  · simp [hp, hc]
  · simp only [hp, if_false, beq_iff_eq]
    rw [absPayloads_snoc c ps _ _ hc rfl]
    rfl

/-- against TS 24.502: the encoding of the appended payload is `Spec.Ts24502.notifyNasTcpPort` -/
theorem BuildNotifyNAS_TCP_PORT_spec (c : List IKEPayload) (ps : List Payload)
    (hc : GenAbs.absPayloads c = some ps) (port : UInt16) :
    (IKEPayloadContainer.BuildNotifyNAS_TCP_PORT c port).map GenAbs.absPayloads
        = .ok (some (if port = 0 then ps else ps ++ [.notify 0 55506 [] (put16 port)])) ∧
      marshalPayload (.notify 0 55506 [] (put16 port)) = .ok (Spec.Ts24502.notifyNasTcpPort port.toNat) := by
  refine ⟨?_, (C19_notifyTcpPort ps port).2.2⟩
  rw [BuildNotifyNAS_TCP_PORT_refines c ps hc]
  by_cases hp : port = 0
  · rw [(C19_notifyTcpPort ps port).1 hp, if_pos hp]
  · rw [(C19_notifyTcpPort ps port).2.1 hp, if_neg hp]

/-- the notification data `BuildNotify5G_QOS_INFO` assembles octet by octet -/
def qosData (pdu : UInt8) (qfis : Bytes) (isDefault isDSCP : Bool) (dscp : UInt8) : Bytes :=
  let flags : UInt8 := (if isDefault then 2 else 0) ||| (if isDSCP then 1 else 0)
  let body : Bytes := [pdu, UInt8.ofNat qfis.length] ++ qfis ++ [flags] ++ (if isDSCP then [dscp] else [])
  UInt8.ofNat (body.length + 1) :: body

/-- `BuildNotify5G_QOS_INFO`, direct characterisation with both refusal conditions (more than 255
QFIs; more than 255 octets in total); never a fault (the write to `notifyData[0]` is in range). -/
theorem BuildNotify5G_QOS_INFO_eq (c : List IKEPayload) (pdu : UInt8) (qfis : Bytes)
    (isDefault isDSCP : Bool) (dscp : UInt8) :
    IKEPayloadContainer.BuildNotify5G_QOS_INFO c pdu qfis isDefault isDSCP dscp =
      if qfis.length > 255 ∨ (qosData pdu qfis isDefault isDSCP dscp).length > 255 then .err
      else .ok (c ++ [.Notification { ProtocolID := 0, NotifyMessageType := 55501, SPI := [],
                                      NotificationData := qosData pdu qfis isDefault isDSCP dscp }]) := by
  unfold IKEPayloadContainer.BuildNotify5G_QOS_INFO qosData
  by_cases h1 : qfis.length > 255
  · simp only [h1, true_or, if_true]
  · cases isDSCP <;> cases isDefault <;>
      simp only [h1, false_or, Bool.false_eq_true, if_false, if_true, zeros_one, List.cons_append, List.nil_append,
        List.append_assoc, List.length_cons, List.length_append, List.length_nil, Go.setN_cons_zero, Res.bind_ok,
        BuildNotification_eq]
    all_goals rfl

theorem BuildNotify5G_QOS_INFO_refines (c : List IKEPayload) (ps : List Payload)
    (hc : GenAbs.absPayloads c = some ps) (pdu : UInt8) (qfis : Bytes) (isDefault isDSCP : Bool) (dscp : UInt8) :
    (IKEPayloadContainer.BuildNotify5G_QOS_INFO c pdu qfis isDefault isDSCP dscp).map GenAbs.absPayloads
      = (Build.buildNotify5GQosInfo ps pdu qfis isDefault isDSCP dscp).map some := by
  have hsn : ∀ v : Gen.message.Notification, GenAbs.absPayloads (c ++ [.Notification v]) =
      some (ps ++ [.notify v.ProtocolID v.NotifyMessageType v.SPI v.NotificationData]) :=
    fun v => absPayloads_snoc c ps _ _ hc rfl
  rw [BuildNotify5G_QOS_INFO_eq]
  unfold Build.buildNotify5GQosInfo qosData
  by_cases h1 : qfis.length > 255
  · simp only [h1, true_or, if_true]
    rfl
  · cases isDSCP <;> cases isDefault <;>
      simp only [h1, false_or, Bool.false_eq_true, if_false, if_true, List.cons_append, List.nil_append,
        List.append_assoc, List.length_cons, List.length_append, List.length_nil, List.drop_succ_cons, List.drop_zero,
        Res.map_ite, map_ok', map_err', hsn, Build.buildNotification]
    all_goals rfl

/-- against TS 24.502 §9.3.1.1: `BuildNotify5G_QOS_INFO` as generated succeeds iff the value is
encodable (`qosInfoDefined`), then appends exactly the Notify payload carrying `qosInfoData`, and
otherwise returns an error (never a fault). -/
theorem BuildNotify5G_QOS_INFO_spec (c : List IKEPayload) (ps : List Payload)
    (hc : GenAbs.absPayloads c = some ps) (pdu : UInt8) (qfis : Bytes) (isDefault isDSCP : Bool) (dscp : UInt8) :
    (IKEPayloadContainer.BuildNotify5G_QOS_INFO c pdu qfis isDefault isDSCP dscp).map GenAbs.absPayloads
      = if Spec.Ts24502.qosInfoDefined qfis (if isDSCP then some dscp else none) then
          .ok (some (ps ++ [.notify 0 55501 []
            (Spec.Ts24502.qosInfoData pdu qfis isDefault (if isDSCP then some dscp else none))]))
        else .err := by
  rw [BuildNotify5G_QOS_INFO_refines c ps hc, qos_build_eq]
  unfold Spec.Ts24502.qosInfoDefined
  cases isDSCP <;> simp only [Bool.false_eq_true, if_false, if_true, Option.isSome_none, Option.isSome_some]
  all_goals
    split
    · rw [if_neg (by omega)]; rfl
    · rw [if_pos (by omega)]; rfl

end Ike.Refine
