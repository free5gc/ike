import IkeProofs.Refine.Basic
import IkeProofs.Lemmas.NoFault

/-! `message.(*SecurityAssociation).Unmarshal` as generated ⊑ `unmarshalSA`. -/

namespace Ike.Refine
open Ike Ike.Gen.message

/-- the generated `switch transform.TransformType` as a function -/
private def SA_fileG (p : Gen.message.Proposal) (t : Gen.message.Transform) : Gen.message.Proposal :=
  if t.TransformType = (1 : UInt8) then { p with EncryptionAlgorithm := p.EncryptionAlgorithm ++ [t] }
  else if t.TransformType = (2 : UInt8) then { p with PseudorandomFunction := p.PseudorandomFunction ++ [t] }
  else if t.TransformType = (3 : UInt8) then { p with IntegrityAlgorithm := p.IntegrityAlgorithm ++ [t] }
  else if t.TransformType = (4 : UInt8) then { p with DiffieHellmanGroup := p.DiffieHellmanGroup ++ [t] }
  else if t.TransformType = (5 : UInt8) then { p with ExtendedSequenceNumbers := p.ExtendedSequenceNumbers ++ [t] }
  else p

private theorem SA_absProposal_fileG (p : Gen.message.Proposal) (t : Gen.message.Transform) :
    GenAbs.absProposal (SA_fileG p t) = (GenAbs.absProposal p).file (GenAbs.absTransform t) := by
  simp only [SA_fileG, apply_ite GenAbs.absProposal]
  simp only [Proposal.file, GenAbs.absProposal, GenAbs.absTransform, Facts.ttEncr, Facts.ttPrf, Facts.ttInteg,
    Facts.ttDh, Facts.ttEsn, beq_iff_eq, List.map_append, List.map_cons, List.map_nil]

/-- the `switch` on the type of a freshly decoded transform, with the rest of the iteration behind each case -/
private theorem SA_switch_fileG (fuel : Nat) (td : Bytes) (n : Nat) (p : Gen.message.Proposal)
    (tt : UInt8) (tid : UInt16) (pr : Bool) (fm : UInt8) (aty av : UInt16) (vv : Bytes) :
    (if tt = (1 : UInt8) then goFrom td n >>= fun d => SecurityAssociation.Unmarshal.loop2 fuel
        { p with EncryptionAlgorithm := p.EncryptionAlgorithm ++ [⟨tt, tid, pr, fm, aty, av, vv⟩] } d
     else if tt = (2 : UInt8) then goFrom td n >>= fun d => SecurityAssociation.Unmarshal.loop2 fuel
        { p with PseudorandomFunction := p.PseudorandomFunction ++ [⟨tt, tid, pr, fm, aty, av, vv⟩] } d
     else if tt = (3 : UInt8) then goFrom td n >>= fun d => SecurityAssociation.Unmarshal.loop2 fuel
        { p with IntegrityAlgorithm := p.IntegrityAlgorithm ++ [⟨tt, tid, pr, fm, aty, av, vv⟩] } d
     else if tt = (4 : UInt8) then goFrom td n >>= fun d => SecurityAssociation.Unmarshal.loop2 fuel
        { p with DiffieHellmanGroup := p.DiffieHellmanGroup ++ [⟨tt, tid, pr, fm, aty, av, vv⟩] } d
     else if tt = (5 : UInt8) then goFrom td n >>= fun d => SecurityAssociation.Unmarshal.loop2 fuel
        { p with ExtendedSequenceNumbers := p.ExtendedSequenceNumbers ++ [⟨tt, tid, pr, fm, aty, av, vv⟩] } d
     else goFrom td n >>= fun d => SecurityAssociation.Unmarshal.loop2 fuel p d) =
    (goFrom td n >>= fun d => SecurityAssociation.Unmarshal.loop2 fuel (SA_fileG p ⟨tt, tid, pr, fm, aty, av, vv⟩) d) := by
  unfold SA_fileG
  simp only [apply_ite (fun q => goFrom td n >>= fun d => SecurityAssociation.Unmarshal.loop2 fuel q d)]

private theorem SA_loop2_succ (fuel : Nat) (p : Gen.message.Proposal) (td : Bytes) (h8 : 8 ≤ td.length) :
    SecurityAssociation.Unmarshal.loop2 (fuel + 1) p td =
      parseTransform td >>= fun r => goFrom td r.2 >>= fun d =>
        SecurityAssociation.Unmarshal.loop2 fuel (SA_fileG p (GenAbs.repTransform r.1)) d := by
  rw [SecurityAssociation.Unmarshal.loop2, parseTransform]
  simp only [if_pos (show td.length > 0 by omega), if_neg (show ¬ td.length < 8 by omega),
    u16At_eq _ 2 4 rfl, u16At_eq _ 6 8 rfl, u16At_eq _ 8 10 rfl, u16At_eq _ 10 12 rfl,
    Res.bind_assoc, Res.ite_bind, Res.bind_ok, Res.bind_err, SA_switch_fileG, GenAbs.repTransform, List.nil_append,
    beq_iff_eq, bne_iff_ne, ne_eq, ite_not]

theorem SA_loop2_refines : ∀ (fuel : Nat) (p : Gen.message.Proposal) (td : Bytes), td.length < fuel →
    (SecurityAssociation.Unmarshal.loop2 fuel p td).map (fun r => GenAbs.absProposal r.1) =
      unmarshalTransforms td (GenAbs.absProposal p) := by
  intro fuel
  induction fuel with
  | zero => intro p td h; omega
  | succ fuel ih =>
    intro p td hf
    rw [unmarshalTransforms]
    by_cases h0 : td.length = 0
    · rw [SecurityAssociation.Unmarshal.loop2, if_neg (by omega), dif_pos h0, map_ok']
    · by_cases h8 : td.length < 8
      · rw [SecurityAssociation.Unmarshal.loop2, if_pos (by omega), if_pos h8, dif_neg h0, if_pos h8, map_err']
      · rw [SA_loop2_succ fuel p td (by omega), dif_neg h0, if_neg h8]
        cases hp : parseTransform td with
        | err => rfl
        | fault => rfl
        | ok r =>
          obtain ⟨t, n⟩ := r
          have hl := parseTransform_len td (by omega) t n hp
          simp only [Res.bind_ok, goFrom_ok hl.2, dif_pos hl]
          rw [ih _ _ (by rw [List.length_drop]; omega), SA_absProposal_fileG, absTransform_rep]

/-- the transform loop as the proposal loop starts it and uses its result -/
private theorem SA_loop2_init (p : Gen.message.Proposal) (td : Bytes) (n : Nat) :
    (SecurityAssociation.Unmarshal.loop2 (td.length + 1) p td >>= fun r => .ok (GenAbs.absProposal r.1, n)) =
      unmarshalTransforms td (GenAbs.absProposal p) >>= fun q => .ok (q, n) := by
  rw [← SA_loop2_refines _ p td (Nat.lt_succ_self _)]
  cases SecurityAssociation.Unmarshal.loop2 (td.length + 1) p td <;> rfl

/-- one proposal at the front of `b`, as the generated proposal loop decodes it -/
private def SA_gParseProposal (b : Bytes) : Res (Gen.message.Proposal × Nat) :=
  goU16 b 2 >>= fun pl =>
  if pl < 8 then .err else
  if b.length < pl.toNat then .err else
    goIndex b 4 >>= fun num =>
    goIndex b 5 >>= fun proto =>
    goIndex b 6 >>= fun s =>
    (if s.toNat > 0 then
        if pl.toNat < 8 + s.toNat then (.err : Res Bytes) else goSlice b 8 (8 + s.toNat)
      else .ok []) >>= fun spi =>
    goSlice b (8 + s.toNat) pl.toNat >>= fun td =>
    SecurityAssociation.Unmarshal.loop2 (td.length + 1)
      { ProposalNumber := num, ProtocolID := proto, SPI := spi } td >>= fun r =>
    .ok (r.1, pl.toNat)

private theorem SA_loop1_succ (fuel : Nat) (sa : Gen.message.SecurityAssociation) (b : Bytes) (h8 : 8 ≤ b.length) :
    SecurityAssociation.Unmarshal.loop1 (fuel + 1) sa b =
      SA_gParseProposal b >>= fun r => goFrom b r.2 >>= fun d =>
        SecurityAssociation.Unmarshal.loop1 fuel { sa with Proposals := sa.Proposals ++ [r.1] } d := by
  rw [SecurityAssociation.Unmarshal.loop1, SA_gParseProposal]
  simp only [if_pos (show b.length > 0 by omega), if_neg (show ¬ b.length < 8 by omega), u16At_eq _ 2 4 rfl,
    Res.bind_assoc, Res.ite_bind, Res.bind_ok, Res.bind_err, List.nil_append]

theorem SA_gParseProposal_refines (b : Bytes) :
    (SA_gParseProposal b).map (fun r => (GenAbs.absProposal r.1, r.2)) = parseProposal b := by
  unfold SA_gParseProposal parseProposal
  simp only [Res.map_bind, Res.map_ite, map_ok', map_err', Res.ite_bind, Res.bind_ok, Res.bind_err, SA_loop2_init]
  simp only [GenAbs.absProposal, List.map_nil]

theorem SA_loop1_refines : ∀ (fuel : Nat) (sa : Gen.message.SecurityAssociation) (b : Bytes), b.length < fuel →
    (SecurityAssociation.Unmarshal.loop1 fuel sa b).map (fun r => r.1.Proposals.map GenAbs.absProposal) =
      (unmarshalProposals b).map (fun ps => sa.Proposals.map GenAbs.absProposal ++ ps) := by
  intro fuel
  induction fuel with
  | zero => intro sa b h; omega
  | succ fuel ih =>
    intro sa b hf
    rw [unmarshalProposals]
    by_cases h0 : b.length = 0
    · rw [SecurityAssociation.Unmarshal.loop1, if_neg (by omega), dif_pos h0, map_ok', map_ok', List.append_nil]
    · by_cases h8 : b.length < 8
      · rw [SecurityAssociation.Unmarshal.loop1, if_pos (by omega), if_pos h8, dif_neg h0, if_pos h8, map_err', map_err']
      · rw [SA_loop1_succ fuel sa b (by omega), dif_neg h0, if_neg h8, ← SA_gParseProposal_refines b]
        cases hg : SA_gParseProposal b with
        | err => rfl
        | fault => rfl
        | ok r =>
          obtain ⟨p, n⟩ := r
          have hl := parseProposal_len b (by omega) (GenAbs.absProposal p) n
            (by rw [← SA_gParseProposal_refines b, hg]; rfl)
          simp only [map_ok', Res.bind_ok, goFrom_ok hl.2, dif_pos hl]
          rw [ih _ _ (by rw [List.length_drop]; omega)]
          cases unmarshalProposals (b.drop n) <;>
            simp only [map_ok', map_err', map_fault', List.map_append, List.map_cons, List.map_nil,
              List.append_assoc, List.singleton_append]

theorem SecurityAssociation_Unmarshal_refines (b : Bytes) :
    (SecurityAssociation.Unmarshal {} b).map (fun v => GenAbs.absPayload (.SecurityAssociation v)) =
      (unmarshalSA b).map some := by
  unfold SecurityAssociation.Unmarshal unmarshalSA
  have h := congrArg (Res.map fun ps => some (Payload.sa ps)) (SA_loop1_refines (b.length + 1) {} b (Nat.lt_succ_self _))
  rw [Res.map_map, Res.map_map] at h
  rw [Res.bind_ok_eq_map, Res.bind_ok_eq_map, Res.map_map, Res.map_map]
  exact h

end Ike.Refine
