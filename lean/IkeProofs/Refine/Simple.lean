import IkeProofs.Refine.Basic

/-! Refinement of the "flat" payload structs of `Ike.Gen.message` (KE, IDi, IDr, AUTH, CERT,
CERTREQ, Nonce, Vendor ID, SK, Notify, EAP) and the type codes of all 16 payload structs:
generated code ⊑ hand-written model (`IkeModel/Message/Payloads.lean`, `Chain.lean`). -/

namespace Ike.Refine
open Ike Ike.Gen.message

/-! Writes into the `make([]byte, n)` buffers of the flat payloads, in the form this file's proofs use them. -/

private theorem zeros_one : zeros 1 = [0] := rfl
private theorem zeros_four : zeros 4 = [0, 0, 0, 0] := rfl

private theorem setN_cons_zero {α : Type} (a : α) (l : List α) (v : α) :
    Go.setN (a :: l) 0 v = Res.ok (v :: l) := Go.setN_cons_zero a l v

private theorem setN_cons_succ {α : Type} (a : α) (l : List α) (i : Nat) (v : α) :
    Go.setN (a :: l) (i + 1) v = (Go.setN l i v).map (fun t => a :: t) := Go.setN_cons_succ a l i v

/-! Further facts of the same kind (no proof below needs them). -/

private theorem zeros_zero : zeros 0 = [] := rfl

private theorem setN_ok {α : Type} (l : List α) (i : Nat) (v : α) (h : i < l.length) :
    Go.setN l i v = Res.ok (l.set i v) := by
  simp [Go.setN, h]

private theorem setN_fault {α : Type} (l : List α) (i : Nat) (v : α) (h : l.length ≤ i) :
    Go.setN l i v = Res.fault := by
  have : ¬ i < l.length := by omega
  simp [Go.setN, this]

private theorem setN_cons_two {α : Type} (a b c : α) (l : List α) (v : α) :
    Go.setN (a :: b :: c :: l) 2 v = Res.ok (a :: b :: v :: l) := by
  simp only [setN_cons_succ, setN_cons_zero, map_ok']

private theorem setN_cons_three {α : Type} (a b c d : α) (l : List α) (v : α) :
    Go.setN (a :: b :: c :: d :: l) 3 v = Res.ok (a :: b :: c :: v :: l) := by
  simp only [setN_cons_succ, setN_cons_zero, map_ok']

private theorem putU16_ok (d : Bytes) (lo hi : Nat) (v : UInt16) (h1 : lo + 2 ≤ hi) (h2 : hi ≤ d.length) :
    Go.putU16 d lo hi v = Res.ok (Go.splice d lo (put16 v)) := Go.putU16_ok d lo hi v h1 h2

private theorem putU64_ok (d : Bytes) (lo hi : Nat) (v : UInt64) (h1 : lo + 8 ≤ hi) (h2 : hi ≤ d.length) :
    Go.putU64 d lo hi v = Res.ok (d.take lo ++ put64 v ++ d.drop (lo + 8)) := by
  simp [Go.putU64, Go.splice, h1, h2]

private theorem putU16_fault (d : Bytes) (lo hi : Nat) (v : UInt16) (h : hi < lo + 2 ∨ d.length < hi) :
    Go.putU16 d lo hi v = Res.fault := by
  have : ¬ (lo + 2 ≤ hi ∧ hi ≤ d.length) := by omega
  simp [Go.putU16, this]

private theorem putU16_cons_4_6 (a b c d e f : UInt8) (rest : Bytes) (v : UInt16) :
    Go.putU16 (a :: b :: c :: d :: e :: f :: rest) 4 6 v = Res.ok (a :: b :: c :: d :: (put16 v ++ rest)) := by
  simp only [Go.putU16_cons, Go.putU16_head, map_ok']

private theorem putU32_cons_4_8 (a b c d e f g h : UInt8) (rest : Bytes) (v : UInt32) :
    Go.putU32 (a :: b :: c :: d :: e :: f :: g :: h :: rest) 4 8 v =
      Res.ok (a :: b :: c :: d :: (put32 v ++ rest)) :=
  Go.putU32_mid [a, b, c, d] [e, f, g, h] rest 4 8 v rfl rfl rfl

private theorem putU32_zeros4 (v : UInt32) : Go.putU32 (zeros 4) 0 4 v = Res.ok (put32 v) := by
  rw [zeros_four, Go.putU32_head, List.append_nil]

theorem KeyExchange_Unmarshal_refines (b : Bytes) :
    (KeyExchange.Unmarshal {} b).map (fun v => GenAbs.absPayload (.KeyExchange v)) = (unmarshalKE b).map some := by
  unfold KeyExchange.Unmarshal unmarshalKE
  simp only [u16At_eq _ 0 2 rfl, Res.map_ite, Res.map_bind, map_ok', map_err', GenAbs.absPayload, List.nil_append]

theorem IdentificationInitiator_Unmarshal_refines (b : Bytes) :
    (IdentificationInitiator.Unmarshal {} b).map (fun v => GenAbs.absPayload (.IdentificationInitiator v)) =
      (unmarshalT4 .idi b).map some := by
  unfold IdentificationInitiator.Unmarshal unmarshalT4
  simp only [Res.map_ite, Res.map_bind, map_ok', map_err', GenAbs.absPayload, List.nil_append]

theorem IdentificationResponder_Unmarshal_refines (b : Bytes) :
    (IdentificationResponder.Unmarshal {} b).map (fun v => GenAbs.absPayload (.IdentificationResponder v)) =
      (unmarshalT4 .idr b).map some := by
  unfold IdentificationResponder.Unmarshal unmarshalT4
  simp only [Res.map_ite, Res.map_bind, map_ok', map_err', GenAbs.absPayload, List.nil_append]

theorem Authentication_Unmarshal_refines (b : Bytes) :
    (Authentication.Unmarshal {} b).map (fun v => GenAbs.absPayload (.Authentication v)) =
      (unmarshalT4 .auth b).map some := by
  unfold Authentication.Unmarshal unmarshalT4
  simp only [Res.map_ite, Res.map_bind, map_ok', map_err', GenAbs.absPayload, List.nil_append]

theorem Certificate_Unmarshal_refines (b : Bytes) :
    (Certificate.Unmarshal {} b).map (fun v => GenAbs.absPayload (.Certificate v)) =
      (unmarshalT1 .cert b).map some := by
  unfold Certificate.Unmarshal unmarshalT1
  simp only [Res.map_ite, Res.map_bind, map_ok', map_err', GenAbs.absPayload, List.nil_append]

theorem CertificateRequest_Unmarshal_refines (b : Bytes) :
    (CertificateRequest.Unmarshal {} b).map (fun v => GenAbs.absPayload (.CertificateRequest v)) =
      (unmarshalT1 .certreq b).map some := by
  unfold CertificateRequest.Unmarshal unmarshalT1
  simp only [Res.map_ite, Res.map_bind, map_ok', map_err', GenAbs.absPayload, List.nil_append]

theorem Notification_Unmarshal_refines (b : Bytes) :
    (Notification.Unmarshal {} b).map (fun v => GenAbs.absPayload (.Notification v)) = (unmarshalNotify b).map some := by
  unfold Notification.Unmarshal unmarshalNotify
  simp only [u16At_eq _ 2 4 rfl, ite_pos_eq, Res.map_ite, Res.map_bind, map_ok', map_err', GenAbs.absPayload,
    List.nil_append]

/-- `if len(b) > 0 { x = append(x, b...) }` appends `b` in either case -/
private theorem append_if_pos {α : Type} (b : Bytes) (f : Bytes → α) :
    (if b.length > 0 then f ([] ++ b) else f []) = f b := by
  cases b <;> rfl

theorem Nonce_Unmarshal_refines (b : Bytes) :
    (Nonce.Unmarshal {} b).map (fun v => GenAbs.absPayload (.Nonce v)) = Res.ok (some (.nonce b)) := by
  unfold Nonce.Unmarshal
  simp only [Res.map_ite, map_ok', GenAbs.absPayload]
  exact append_if_pos b fun d => Res.ok (some (Payload.nonce d))

theorem VendorID_Unmarshal_refines (b : Bytes) :
    (VendorID.Unmarshal {} b).map (fun v => GenAbs.absPayload (.VendorID v)) = Res.ok (some (.vendor b)) := by
  unfold VendorID.Unmarshal
  simp only [Res.map_ite, map_ok', GenAbs.absPayload]
  exact append_if_pos b fun d => Res.ok (some (Payload.vendor d))

theorem Encrypted_Unmarshal_refines (nx : UInt8) (b : Bytes) :
    (Encrypted.Unmarshal { NextPayload := nx } b).map (fun v => GenAbs.absPayload (.Encrypted v)) =
      Res.ok (some (.sk nx b)) := rfl

theorem PayloadEap_Unmarshal_refines (b : Bytes) :
    (PayloadEap.Unmarshal {} b).map (fun v => GenAbs.absPayload (.PayloadEap v)) =
      ((do let e ← unmarshalEap b; Res.ok (Payload.eap e)) : Res Payload).map some := by
  unfold PayloadEap.Unmarshal GenExt.EAP_Unmarshal
  simp only [Res.map_bind, map_ok', GenAbs.absPayload]

theorem KeyExchange_Marshal_refines (v : Gen.message.KeyExchange) :
    KeyExchange.Marshal v = marshalKE v.DiffieHellmanGroup v.KeyExchangeData := by
  unfold KeyExchange.Marshal marshalKE
  simp only [zeros_four, Go.putU16_head, Res.bind_ok]

theorem IdentificationInitiator_Marshal_refines (v : Gen.message.IdentificationInitiator) :
    IdentificationInitiator.Marshal v = marshalT4 v.IDType v.IDData := by
  unfold IdentificationInitiator.Marshal marshalT4
  simp only [zeros_four, setN_cons_zero, Res.bind_ok]

theorem IdentificationResponder_Marshal_refines (v : Gen.message.IdentificationResponder) :
    IdentificationResponder.Marshal v = marshalT4 v.IDType v.IDData := by
  unfold IdentificationResponder.Marshal marshalT4
  simp only [zeros_four, setN_cons_zero, Res.bind_ok]

theorem Authentication_Marshal_refines (v : Gen.message.Authentication) :
    Authentication.Marshal v = marshalT4 v.AuthenticationMethod v.AuthenticationData := by
  unfold Authentication.Marshal marshalT4
  simp only [zeros_four, setN_cons_zero, Res.bind_ok]

theorem Certificate_Marshal_refines (v : Gen.message.Certificate) :
    Certificate.Marshal v = marshalT1 v.CertificateEncoding v.CertificateData := by
  unfold Certificate.Marshal marshalT1
  simp only [zeros_one, setN_cons_zero, Res.bind_ok]

theorem CertificateRequest_Marshal_refines (v : Gen.message.CertificateRequest) :
    CertificateRequest.Marshal v = marshalT1 v.CertificateEncoding v.CertificationAuthority := by
  unfold CertificateRequest.Marshal marshalT1
  simp only [zeros_one, setN_cons_zero, Res.bind_ok]

theorem Nonce_Marshal_refines (v : Gen.message.Nonce) : Nonce.Marshal v = marshalRaw v.NonceData := rfl

theorem VendorID_Marshal_refines (v : Gen.message.VendorID) : VendorID.Marshal v = marshalRaw v.VendorIDData := rfl

theorem Encrypted_Marshal_refines (v : Gen.message.Encrypted) : Encrypted.Marshal v = marshalSK v.EncryptedData := rfl

theorem Notification_Marshal_refines (v : Gen.message.Notification) :
    Notification.Marshal v = marshalNotify v.ProtocolID v.NotifyMessageType v.SPI v.NotificationData := by
  unfold Notification.Marshal marshalNotify
  simp only [zeros_four, setN_cons_zero, setN_cons_succ, Go.putU16_cons, Go.putU16_head, map_ok', Res.bind_ok,
    List.cons_append, List.nil_append, List.append_assoc]

theorem PayloadEap_Marshal_refines (v : Gen.message.PayloadEap) : PayloadEap.Marshal v = marshalEap v.EAP :=
  Res.bind_ok_eq_map (marshalEap v.EAP) id |>.trans (by cases marshalEap v.EAP <;> rfl)

theorem SecurityAssociation_Type_refines (v : Gen.message.SecurityAssociation) :
    SecurityAssociation.Type_ v = Res.ok Facts.typeSA := rfl
theorem KeyExchange_Type_refines (v : Gen.message.KeyExchange) :
    KeyExchange.Type_ v = Res.ok Facts.typeKE := rfl
theorem IdentificationInitiator_Type_refines (v : Gen.message.IdentificationInitiator) :
    IdentificationInitiator.Type_ v = Res.ok Facts.typeIDi := rfl
theorem IdentificationResponder_Type_refines (v : Gen.message.IdentificationResponder) :
    IdentificationResponder.Type_ v = Res.ok Facts.typeIDr := rfl
theorem Certificate_Type_refines (v : Gen.message.Certificate) :
    Certificate.Type_ v = Res.ok Facts.typeCERT := rfl
theorem CertificateRequest_Type_refines (v : Gen.message.CertificateRequest) :
    CertificateRequest.Type_ v = Res.ok Facts.typeCERTreq := rfl
theorem Authentication_Type_refines (v : Gen.message.Authentication) :
    Authentication.Type_ v = Res.ok Facts.typeAUTH := rfl
theorem Nonce_Type_refines (v : Gen.message.Nonce) :
    Nonce.Type_ v = Res.ok Facts.typeNiNr := rfl
theorem Notification_Type_refines (v : Gen.message.Notification) :
    Notification.Type_ v = Res.ok Facts.typeN := rfl
theorem Delete_Type_refines (v : Gen.message.Delete) :
    Delete.Type_ v = Res.ok Facts.typeD := rfl
theorem VendorID_Type_refines (v : Gen.message.VendorID) :
    VendorID.Type_ v = Res.ok Facts.typeV := rfl
theorem TrafficSelectorInitiator_Type_refines (v : Gen.message.TrafficSelectorInitiator) :
    TrafficSelectorInitiator.Type_ v = Res.ok Facts.typeTSi := rfl
theorem TrafficSelectorResponder_Type_refines (v : Gen.message.TrafficSelectorResponder) :
    TrafficSelectorResponder.Type_ v = Res.ok Facts.typeTSr := rfl
theorem Encrypted_Type_refines (v : Gen.message.Encrypted) :
    Encrypted.Type_ v = Res.ok Facts.typeSK := rfl
theorem Configuration_Type_refines (v : Gen.message.Configuration) :
    Configuration.Type_ v = Res.ok Facts.typeCP := rfl
theorem PayloadEap_Type_refines (v : Gen.message.PayloadEap) :
    PayloadEap.Type_ v = Res.ok Facts.typeEAP := rfl

end Ike.Refine
