import IkeProofs.Refine.Basic

/-! `message/header.go` as generated ⊑ the hand-written model (`IkeModel/Message/Header.lean`). -/

namespace Ike.Refine
open Ike Ike.Gen.message

/-- a value read twice is the value read once -/
private theorem bind_bind_self {α β : Type} (x : Res α) (f : α → α → Res β) :
    (x >>= fun a => x >>= fun b => f a b) = x >>= fun a => f a a := by
  cases x <;> rfl

theorem ParseHeader_refines (b : Bytes) : (ParseHeader b).map GenAbs.absHeader = parseHeader b := by
  unfold ParseHeader parseHeader
  simp only [u32At_eq _ 24 28 rfl, u32At_eq _ 20 24 rfl, u64At_eq _ 0 8 rfl, u64At_eq _ 8 16 rfl,
    show Facts.ikeHeaderLen = 28 from rfl, show UInt32.ofNat 28 = (28 : UInt32) from rfl,
    bind_bind_self, Res.map_ite, Res.map_bind, map_ok', map_err', GenAbs.absHeader]

private theorem put64_length (v : UInt64) : (put64 v).length = 8 := rfl

private theorem putU64_ok (d : Bytes) (lo hi : Nat) (v : UInt64) (h1 : lo + 8 ≤ hi) (h2 : hi ≤ d.length) :
    Go.putU64 d lo hi v = Res.ok (Go.splice d lo (put64 v)) := by
  simp [Go.putU64, h1, h2]

private theorem putU64_mid (a w c : Bytes) (lo hi : Nat) (v : UInt64) (ho : lo = a.length)
    (hw : w.length = 8) (hh : hi = lo + 8) :
    Go.putU64 (a ++ w ++ c) lo hi v = Res.ok (a ++ put64 v ++ c) := by
  have hlen : hi ≤ (a ++ w ++ c).length := by
    rw [hh, ho, List.length_append, List.length_append, hw]; exact Nat.le_add_right _ _
  rw [putU64_ok _ _ _ _ (Nat.le_of_eq hh.symm) hlen, Go.splice_mid a w c _ lo ho (hw.trans (put64_length v).symm)]

private theorem setN_append_right {α : Type} (p l : List α) (i : Nat) (v : α) :
    Go.setN (p ++ l) (p.length + i) v = (Go.setN l i v).map (fun t => p ++ t) := Go.setN_append_right p l i v

private theorem setN_skip {α : Type} (p l : List α) (n i : Nat) (v : α) (hn : p.length = n) :
    Go.setN (p ++ l) (n + i) v = (Go.setN l i v).map (fun t => p ++ t) := by
  subst hn; exact setN_append_right p l i v

/-! Further facts about windows of a buffer, in the form proofs about this file's buffers would use them
(no proof below needs them). -/

private theorem putU64_last (a w : Bytes) (lo hi : Nat) (v : UInt64) (ho : lo = a.length)
    (hw : w.length = 8) (hh : hi = lo + 8) :
    Go.putU64 (a ++ w) lo hi v = Res.ok (a ++ put64 v) := by
  have := putU64_mid a w [] lo hi v ho hw hh
  simpa using this

private theorem putU16_last (a w : Bytes) (lo hi : Nat) (v : UInt16) (ho : lo = a.length)
    (hw : w.length = 2) (hh : hi = lo + 2) :
    Go.putU16 (a ++ w) lo hi v = Res.ok (a ++ put16 v) := by
  have := Go.putU16_mid a w [] lo hi v ho hw hh
  simpa using this

private theorem splice_head (w c v : Bytes) (hw : w.length = v.length) :
    Go.splice (w ++ c) 0 v = v ++ c :=
  Go.splice_mid [] w c v 0 rfl hw

private theorem splice_last (a w v : Bytes) (off : Nat) (ho : off = a.length) (hw : w.length = v.length) :
    Go.splice (a ++ w) off v = a ++ v := by
  have := Go.splice_mid a w [] v off ho hw
  simpa using this

private theorem split_window (d : Bytes) (off n : Nat) (h : off + n ≤ d.length) :
    d = d.take off ++ (d.drop off).take n ++ d.drop (off + n) ∧
      (d.take off).length = off ∧ ((d.drop off).take n).length = n := by
  have h1 : off ≤ d.length := Nat.le_trans (Nat.le_add_right off n) h
  refine ⟨?_, ?_, ?_⟩
  · rw [List.append_assoc, ← List.drop_drop, List.take_append_drop, List.take_append_drop]
  · rw [List.length_take, Nat.min_eq_left h1]
  · rw [List.length_take, List.length_drop, Nat.min_eq_left (Nat.le_sub_of_add_le' h)]

/-- the 28 fixed octets, written field by field into `zeros 28` -/
private theorem marshal_fixed (i r : UInt64) (np v ex fl : UInt8) (mid : UInt32) (k : Bytes → Res Bytes) :
    ((Go.putU64 (zeros 28) 0 8 i) >>= fun t1 =>
     (Go.putU64 t1 8 16 r) >>= fun t2 =>
     (Go.setN t2 16 np) >>= fun t3 =>
     (Go.setN t3 17 v) >>= fun t4 =>
     (Go.setN t4 18 ex) >>= fun t5 =>
     (Go.setN t5 19 fl) >>= fun t6 =>
     (Go.putU32 t6 20 24 mid) >>= k) =
    k (put64 i ++ put64 r ++ [np, v, ex, fl] ++ put32 mid ++ zeros 4) := by
  -- `zeros 28` is cut into the windows of the fields; each write then replaces the window behind what is written already
  rw [show zeros 28 = [] ++ zeros 8 ++ (zeros 8 ++ (0 :: 0 :: 0 :: 0 :: (zeros 4 ++ zeros 4))) from rfl,
    putU64_mid [] (zeros 8) _ 0 8 i rfl rfl rfl, Res.bind_ok, List.nil_append,
    ← List.append_assoc, putU64_mid (put64 i) (zeros 8) _ 8 16 r rfl rfl rfl, Res.bind_ok,
    setN_skip (put64 i ++ put64 r) _ 16 0 np rfl, Go.setN_cons_zero, map_ok', Res.bind_ok,
    setN_skip (put64 i ++ put64 r) _ 16 1 v rfl]
  simp only [Go.setN_cons_succ, Go.setN_cons_zero, map_ok', Res.bind_ok]
  rw [setN_skip (put64 i ++ put64 r) _ 16 2 ex rfl]
  simp only [Go.setN_cons_succ, Go.setN_cons_zero, map_ok', Res.bind_ok]
  rw [setN_skip (put64 i ++ put64 r) _ 16 3 fl rfl]
  simp only [Go.setN_cons_succ, Go.setN_cons_zero, map_ok', Res.bind_ok]
  rw [show put64 i ++ put64 r ++ np :: v :: ex :: fl :: (zeros 4 ++ zeros 4) =
      (put64 i ++ put64 r ++ [np, v, ex, fl]) ++ zeros 4 ++ zeros 4 by
        simp only [List.append_assoc, List.cons_append, List.nil_append],
    Go.putU32_mid _ (zeros 4) _ 20 24 mid rfl rfl rfl, Res.bind_ok]

theorem IKEHeader_Marshal_refines (h : Gen.message.IKEHeader) :
    IKEHeader.Marshal h = marshalHeader (GenAbs.absHeader h) := by
  unfold IKEHeader.Marshal marshalHeader
  dsimp only
  rw [marshal_fixed]
  have hn : Facts.ikeHeaderLen = 28 := rfl
  simp only [GenAbs.absHeader, hn]
  by_cases ht : 28 + h.PayloadBytes.length > 4294967295
  · simp only [ht, if_true]
  · simp only [ht, if_false]
    rw [Go.putU32_last _ (zeros 4) 24 28 _ (by simp) (by simp) rfl]
    simp only [Res.bind_ok]
    by_cases hp : h.PayloadBytes.length > 0
    · simp only [hp, if_true]
    · have : h.PayloadBytes = [] := List.eq_nil_of_length_eq_zero (by omega)
      simp [this]

theorem NewHeader_eq (i r : UInt64) (ex : UInt8) (resp init : Bool) (mid : UInt32) (np : UInt8) (pb : Bytes) :
    NewHeader i r ex resp init mid np pb = .ok (GenAbs.repHeader (newHeader i r ex resp init mid np pb)) := by
  cases resp <;> cases init <;>
    simp [NewHeader, newHeader, GenAbs.repHeader, Facts.responseBit, Facts.initiatorBit]

theorem NewHeader_refines (i r : UInt64) (ex : UInt8) (resp init : Bool) (mid : UInt32) (np : UInt8)
    (pb : Bytes) :
    (NewHeader i r ex resp init mid np pb).map GenAbs.absHeader =
      Res.ok (newHeader i r ex resp init mid np pb) := by
  rw [NewHeader_eq]
  rfl

private theorem decide_ne_eq_bne {α : Type} [DecidableEq α] (a b : α) : decide (a ≠ b) = (a != b) := by
  by_cases h : a = b <;> simp [h]

theorem IsResponse_refines (h : Gen.message.IKEHeader) :
    IKEHeader.IsResponse h = Res.ok (GenAbs.absHeader h).isResponse := by
  unfold IKEHeader.IsResponse Header.isResponse
  rw [decide_ne_eq_bne]
  rfl

theorem IsInitiator_refines (h : Gen.message.IKEHeader) :
    IKEHeader.IsInitiator h = Res.ok (GenAbs.absHeader h).isInitiator := by
  unfold IKEHeader.IsInitiator Header.isInitiator
  rw [decide_ne_eq_bne]
  rfl

end Ike.Refine
