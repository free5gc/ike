import IkeModel.GenAbs
import IkeModel.Message.Chain
import IkeProofs.Lemmas.Bytes

/-! Vocabulary of the refinement proofs `generated code ⊑ hand-written model` (`IkeProofs/Refine*`).
A generated function and its model are the same `Res` program up to the abstraction of the result: both sides
are brought to one normal form by pushing the abstraction to the leaves (`Res.map_bind`, `Res.map_ite`, `map_ok'`),
turning the GoRt readers into the GoSem readers (`u16At_eq` …) and evaluating writes into a `make([]byte, n)`
buffer on the cons-list (`Go.setN_cons_succ`, `Go.putU16_cons`, `Go.putU16_head` …).
The lemmas stand in the namespace of what they are about: `Ike.Res` (the monad), `Ike.Go` (GoRt primitives),
`Ike` (`zeros`, `put16`), `Ike.Refine` (abstraction functions, readers, `Res` facts used under these names elsewhere).
After `unfold f` of a generated `f`, a bare `simp only []` or `dsimp only` only β/ζ-reduces the generated `let`s. -/

namespace Ike.Refine
open Ike

@[simp] theorem map_ok' {α β : Type} (f : α → β) (a : α) : (Res.ok a).map f = Res.ok (f a) := rfl
@[simp] theorem map_err' {α β : Type} (f : α → β) : (Res.err : Res α).map f = Res.err := rfl
@[simp] theorem map_fault' {α β : Type} (f : α → β) : (Res.fault : Res α).map f = Res.fault := rfl

theorem bind_ok_id {α : Type} (x : Res α) : (x >>= fun r => Res.ok r) = x := by
  cases x <;> rfl

theorem map_bind_ok {α β γ : Type} (x : Res α) (c : α → β) (f : β → γ) :
    (x >>= fun r => Res.ok (c r)).map f = x.map (fun v => f (c v)) := by
  cases x <;> rfl

theorem map_ne_fault {α β : Type} {x : Res α} {f : α → β} (h : x.map f ≠ .fault) : x ≠ .fault := by
  intro e; rw [e] at h; exact h rfl

theorem map_some_ne_fault {α : Type} {x : Res α} (h : x ≠ .fault) : x.map some ≠ .fault := by
  cases x <;> simp_all [Res.map]

/-- Go tests `len(b) > 0`, the model `b.length = 0` with the branches exchanged -/
theorem ite_pos_eq {α : Type} (n : Nat) (a b : α) : (if n > 0 then a else b) = if n = 0 then b else a := by
  cases n <;> rfl

/-- selecting a branch of a conditional in a hypothesis `… = x` without simplifying either branch -/
theorem of_ite_pos {α : Type} {c : Prop} [Decidable c] {a b x : α} (h : (if c then a else b) = x) (hc : c) :
    a = x :=
  (if_pos hc).symm.trans h

theorem of_ite_neg {α : Type} {c : Prop} [Decidable c] {a b x : α} (h : (if c then a else b) = x) (hc : ¬ c) :
    b = x :=
  (if_neg hc).symm.trans h

/-- two conditionals on the same condition are related when their branches are -/
theorem ite_rel {α β : Type} {R : α → β → Prop} (c : Prop) [Decidable c] {a b : α} {a' b' : β}
    (ha : R a a') (hb : R b b') : R (if c then a else b) (if c then a' else b') := by
  split <;> assumption

/-! Boolean tests of the model on machine integers, as propositions (the `LawfulBEq` instance is found here,
not at every rewrite). -/

theorem u8_beq (a b : UInt8) : ((a == b) = true) = (a = b) := propext beq_iff_eq
theorem u8_bne (a b : UInt8) : ((a != b) = true) = ¬ a = b := propext bne_iff_ne
theorem u16_beq (a b : UInt16) : ((a == b) = true) = (a = b) := propext beq_iff_eq

theorem beq_or2 {t a b : UInt8} : ((t == a || t == b) = true) ↔ (t = a ∨ t = b) := by
  simp only [Bool.or_eq_true, u8_beq]

theorem beq_or3 {t a b c : UInt8} : ((t == a || t == b || t == c) = true) ↔ (t = a ∨ t = b ∨ t = c) := by
  simp only [Bool.or_eq_true, u8_beq, or_assoc]

end Ike.Refine

namespace Ike.Res

theorem map_bind {α β γ : Type} (x : Res α) (f : α → Res β) (g : β → γ) :
    (x >>= f).map g = x >>= fun a => (f a).map g := by
  cases x <;> rfl

theorem map_map {α β γ : Type} (x : Res α) (f : α → β) (g : β → γ) :
    (x.map f).map g = x.map (fun a => g (f a)) := by
  cases x <;> rfl

theorem map_ite {α β : Type} (c : Prop) [Decidable c] (x y : Res α) (g : α → β) :
    (if c then x else y).map g = if c then x.map g else y.map g := by
  split <;> rfl

theorem bind_ok_eq_map {α β : Type} (x : Res α) (f : α → β) : (x >>= fun a => Res.ok (f a)) = x.map f := by
  cases x <;> rfl

theorem bind_assoc {α β γ : Type} (x : Res α) (f : α → Res β) (g : β → Res γ) :
    (x >>= f) >>= g = x >>= fun a => f a >>= g := by
  cases x <;> rfl

/-- two programs that agree through the abstractions `f`, `g` still agree after continuations that
agree on related values -/
theorem map_bind_congr {α β γ δ ε ζ : Type} {x : Res α} {y : Res β} {f : α → γ} {g : β → γ}
    (h : x.map f = y.map g) {k : α → Res δ} {l : β → Res ε} {F : δ → ζ} {G : ε → ζ}
    (hk : ∀ a b, f a = g b → (k a).map F = (l b).map G) : (x >>= k).map F = (y >>= l).map G := by
  cases x <;> cases y <;> first | rfl | exact hk _ _ (Res.ok.inj h) | cases h

end Ike.Res

namespace Ike.Refine
open Ike

theorem absTransform_rep (t : Transform) : GenAbs.absTransform (GenAbs.repTransform t) = t := rfl

theorem map_abs_rep {α β : Type} (f : α → β) (g : β → α) (h : ∀ x, g (f x) = x) (l : List α) :
    (l.map f).map g = l := by
  induction l with
  | nil => rfl
  | cons a l ih => rw [List.map_cons, List.map_cons, h a, ih]

theorem map_absTransform_rep (l : List Transform) : (l.map GenAbs.repTransform).map GenAbs.absTransform = l :=
  map_abs_rep _ _ absTransform_rep l

theorem map_absTSel_rep (l : List TSel) : (l.map GenAbs.repTSel).map GenAbs.absTSel = l :=
  map_abs_rep _ _ (fun _ => rfl) l

theorem map_absCPAttr_rep (l : List CPAttr) : (l.map GenAbs.repCPAttr).map GenAbs.absCPAttr = l :=
  map_abs_rep _ _ (fun _ => rfl) l

theorem absProposal_rep (p : Proposal) : GenAbs.absProposal (GenAbs.repProposal p) = p := by
  cases p
  simp only [GenAbs.absProposal, GenAbs.repProposal, map_absTransform_rep]

theorem map_absProposal_rep (l : List Proposal) : (l.map GenAbs.repProposal).map GenAbs.absProposal = l :=
  map_abs_rep _ _ absProposal_rep l

theorem absPayloads_append (c d : List Gen.message.IKEPayload) (ps qs : List Payload)
    (hc : GenAbs.absPayloads c = some ps) (hd : GenAbs.absPayloads d = some qs) :
    GenAbs.absPayloads (c ++ d) = some (ps ++ qs) := by
  unfold GenAbs.absPayloads at *
  simp [List.mapM_append, hc, hd]

theorem take_drop_byteAt (b : Bytes) (lo k n : Nat) (h : k < n) :
    byteAt ((b.take (lo + n)).drop lo) k = byteAt b (lo + k) := by
  unfold byteAt
  rw [List.getD_eq_getElem?_getD, List.getD_eq_getElem?_getD, List.getElem?_drop, List.getElem?_take,
    if_pos (Nat.add_lt_add_left h lo)]

theorem goSlice_window (b : Bytes) (lo n : Nat) :
    goSlice b lo (lo + n) = if lo + n ≤ b.length then .ok ((b.take (lo + n)).drop lo) else .fault := by
  unfold goSlice
  by_cases h : lo + n ≤ b.length
  · rw [if_pos h, if_pos ⟨Nat.le_add_right lo n, h⟩]
  · rw [if_neg h, if_neg fun hh => h hh.2]

theorem window_length (b : Bytes) (lo n : Nat) (h : lo + n ≤ b.length) : ((b.take (lo + n)).drop lo).length = n := by
  rw [List.length_drop, List.length_take, Nat.min_eq_left h, Nat.add_sub_cancel_left]

theorem u16At_eq (b : Bytes) (lo hi : Nat) (h : hi = lo + 2) : Go.u16At b lo hi = goU16 b lo := by
  subst h
  unfold Go.u16At goU16
  rw [goSlice_window]
  by_cases hl : lo + 2 ≤ b.length
  · rw [if_pos hl, if_pos hl, Res.bind_ok, Go.beU16, if_pos (Nat.le_of_eq (window_length b lo 2 hl).symm),
      take_drop_byteAt b lo 0 2 (by decide), take_drop_byteAt b lo 1 2 (by decide)]
    rfl
  · rw [if_neg hl, if_neg hl]
    rfl

theorem u32At_eq (b : Bytes) (lo hi : Nat) (h : hi = lo + 4) : Go.u32At b lo hi = goU32 b lo := by
  subst h
  unfold Go.u32At goU32
  rw [goSlice_window]
  by_cases hl : lo + 4 ≤ b.length
  · rw [if_pos hl, if_pos hl, Res.bind_ok, Go.beU32, if_pos (Nat.le_of_eq (window_length b lo 4 hl).symm),
      take_drop_byteAt b lo 0 4 (by decide), take_drop_byteAt b lo 1 4 (by decide),
      take_drop_byteAt b lo 2 4 (by decide), take_drop_byteAt b lo 3 4 (by decide)]
    rfl
  · rw [if_neg hl, if_neg hl]
    rfl

theorem u64At_eq (b : Bytes) (lo hi : Nat) (h : hi = lo + 8) : Go.u64At b lo hi = goU64 b lo := by
  subst h
  unfold Go.u64At goU64
  rw [goSlice_window]
  by_cases hl : lo + 8 ≤ b.length
  · rw [if_pos hl, if_pos hl, Res.bind_ok, Go.beU64, if_pos (Nat.le_of_eq (window_length b lo 8 hl).symm), be64, be64,
      List.drop_take, List.take_take, Nat.add_sub_cancel_left, Nat.min_self]
  · rw [if_neg hl, if_neg hl]
    rfl

end Ike.Refine

namespace Ike

theorem zeros_one : zeros 1 = [0] := rfl
theorem zeros_four : zeros 4 = [0, 0, 0, 0] := rfl

theorem put16_append (v : UInt16) (l : Bytes) :
    put16 v ++ l = UInt8.ofNat (v.toNat / 256) :: UInt8.ofNat (v.toNat % 256) :: l := rfl

end Ike

namespace Ike.Go
open Ike Ike.Refine

theorem setN_cons_zero {α : Type} (a : α) (l : List α) (v : α) :
    Go.setN (a :: l) 0 v = Res.ok (v :: l) := by
  simp [Go.setN]

theorem setN_cons_succ {α : Type} (a : α) (l : List α) (i : Nat) (v : α) :
    Go.setN (a :: l) (i + 1) v = (Go.setN l i v).map (fun t => a :: t) := by
  unfold Go.setN
  by_cases h : i < l.length <;> simp [h]

/-- both branches write the same cell: Go's `if c { d[i] = x } else { d[i] = y }` -/
theorem setN_ite {α : Type} (c : Prop) [Decidable c] (l : List α) (i : Nat) (x y : α) :
    (if c then Go.setN l i x else Go.setN l i y) = Go.setN l i (if c then x else y) := by
  split <;> rfl

theorem setN_append_right {α : Type} (p l : List α) (i : Nat) (v : α) :
    Go.setN (p ++ l) (p.length + i) v = (Go.setN l i v).map (fun t => p ++ t) := by
  induction p with
  | nil =>
    rw [List.nil_append, List.length_nil, Nat.zero_add]
    cases Go.setN l i v <;> rfl
  | cons a p ih =>
    rw [List.cons_append, List.length_cons, Nat.add_right_comm, setN_cons_succ, ih, Res.map_map]
    rfl

theorem splice_zero (d v : Bytes) : Go.splice d 0 v = v ++ d.drop v.length := by
  simp [Go.splice]

theorem splice_mid (a w c v : Bytes) (off : Nat) (ho : off = a.length) (hw : w.length = v.length) :
    Go.splice (a ++ w ++ c) off v = a ++ v ++ c := by
  subst ho
  unfold Go.splice
  rw [List.append_assoc a w c, List.take_left, ← hw, ← List.append_assoc a w c,
    ← List.length_append, List.drop_left]

/-! `Go.putU16` / `Go.putU32`: in range a write is a `splice` (`putU#_ok`); on a cons-list with literal bounds it is
evaluated by peeling the octets in front of the window (`putU16_cons`) and writing at the head (`putU#_head`); on
`a ++ w ++ c` with symbolic lengths the window `w` is replaced (`putU#_mid`).  (`putU64` occurs in the header
only: its lemmas are in `Refine/Header.lean`.) -/

theorem putU16_ok (d : Bytes) (lo hi : Nat) (v : UInt16) (h1 : lo + 2 ≤ hi) (h2 : hi ≤ d.length) :
    Go.putU16 d lo hi v = Res.ok (Go.splice d lo (put16 v)) := by
  simp [Go.putU16, h1, h2]

theorem putU32_ok (d : Bytes) (lo hi : Nat) (v : UInt32) (h1 : lo + 4 ≤ hi) (h2 : hi ≤ d.length) :
    Go.putU32 d lo hi v = Res.ok (Go.splice d lo (put32 v)) := by
  simp [Go.putU32, h1, h2]

theorem putU16_cons (a : UInt8) (d : Bytes) (lo hi : Nat) (v : UInt16) :
    Go.putU16 (a :: d) (lo + 1) (hi + 1) v = (Go.putU16 d lo hi v).map (a :: ·) := by
  unfold Go.putU16
  simp only [List.length_cons, Nat.add_right_comm lo 1 2, Nat.add_le_add_iff_right, Res.map_ite, map_ok', map_fault',
    Go.splice, List.take_succ_cons, List.drop_succ_cons, List.cons_append, Nat.add_right_comm lo 1]

theorem putU16_head (x y : UInt8) (rest : Bytes) (v : UInt16) :
    Go.putU16 (x :: y :: rest) 0 2 v = Res.ok (put16 v ++ rest) := by
  rw [putU16_ok _ _ _ _ (Nat.le_refl _) (by simp), splice_zero]
  rfl

theorem putU32_head (x0 x1 x2 x3 : UInt8) (rest : Bytes) (v : UInt32) :
    Go.putU32 (x0 :: x1 :: x2 :: x3 :: rest) 0 4 v = Res.ok (put32 v ++ rest) := by
  rw [putU32_ok _ _ _ _ (Nat.le_refl _) (by simp), splice_zero]
  rfl

theorem putU16_mid (a w c : Bytes) (lo hi : Nat) (v : UInt16) (ho : lo = a.length)
    (hw : w.length = 2) (hh : hi = lo + 2) :
    Go.putU16 (a ++ w ++ c) lo hi v = Res.ok (a ++ put16 v ++ c) := by
  have hlen : hi ≤ (a ++ w ++ c).length := by
    rw [hh, ho, List.length_append, List.length_append, hw]; exact Nat.le_add_right _ _
  rw [putU16_ok _ _ _ _ (Nat.le_of_eq hh.symm) hlen, splice_mid a w c _ lo ho (hw.trans rfl)]

theorem putU32_mid (a w c : Bytes) (lo hi : Nat) (v : UInt32) (ho : lo = a.length)
    (hw : w.length = 4) (hh : hi = lo + 4) :
    Go.putU32 (a ++ w ++ c) lo hi v = Res.ok (a ++ put32 v ++ c) := by
  have hlen : hi ≤ (a ++ w ++ c).length := by
    rw [hh, ho, List.length_append, List.length_append, hw]; exact Nat.le_add_right _ _
  rw [putU32_ok _ _ _ _ (Nat.le_of_eq hh.symm) hlen, splice_mid a w c _ lo ho (hw.trans rfl)]

theorem putU32_last (a w : Bytes) (lo hi : Nat) (v : UInt32) (ho : lo = a.length)
    (hw : w.length = 4) (hh : hi = lo + 4) :
    Go.putU32 (a ++ w) lo hi v = Res.ok (a ++ put32 v) := by
  have := putU32_mid a w [] lo hi v ho hw hh
  simpa using this

/-- `make([]byte, n)` for a length that is a natural number -/
theorem make_natCast (k : Nat) : Go.make (α := UInt8) (k : Int) = .ok (zeros k) := by
  unfold Go.make
  rw [if_pos (Int.natCast_nonneg k), Int.toNat_natCast]
  rfl

/-- `uint8(x)` of a non-negative `int` -/
theorem toU8_natCast (n : Nat) : Go.toU8 (n : Int) = UInt8.ofNat n := by
  unfold Go.toU8
  rw [show (256 : Int) = ((256 : Nat) : Int) from rfl, ← Int.natCast_emod, Int.toNat_natCast]
  exact UInt8.toNat_inj.mp (by simp [UInt8.toNat_ofNat'])

/-- `l[len(l)-k]` -/
theorem index_len_sub (l : Bytes) (k : Nat) (h1 : 0 < k) (hk : k ≤ l.length) :
    Go.index l ((l.length : Int) - (k : Int)) = .ok (byteAt l (l.length - k)) := by
  unfold Go.index
  rw [if_pos (by omega), Int.toNat_sub]
  rfl

/-- `l[:len(l)-k]` -/
theorem sliceTo_len_sub {α : Type} (l : List α) (k : Nat) (hk : k ≤ l.length) :
    Go.sliceTo l ((l.length : Int) - (k : Int)) = .ok (l.take (l.length - k)) := by
  unfold Go.sliceTo
  rw [if_pos (by omega), Int.toNat_sub]

/-- `l[len(l)-k:]` -/
theorem sliceFrom_len_sub {α : Type} (l : List α) (k : Nat) (hk : k ≤ l.length) :
    Go.sliceFrom l ((l.length : Int) - (k : Int)) = .ok (l.drop (l.length - k)) := by
  unfold Go.sliceFrom
  rw [if_pos (by omega), Int.toNat_sub]

/-- `l[len(l)-k] = v` -/
theorem set_len_sub {α : Type} (l : List α) (k : Nat) (v : α) (h1 : 0 < k) (hk : k ≤ l.length) :
    Go.set l ((l.length : Int) - (k : Int)) v = .ok (l.set (l.length - k) v) := by
  unfold Go.set
  rw [if_pos (by omega), Int.toNat_sub]

end Ike.Go

namespace Ike.Res

theorem bind_map {α β γ : Type} (x : Res α) (f : α → β) (g : β → Res γ) :
    (x.map f) >>= g = x >>= fun a => g (f a) := by
  cases x <;> rfl

theorem map_bind_ok {α β γ : Type} (x : Res α) (f : α → β) (g : β → γ) :
    (x >>= fun r => Res.ok (f r)).map g = x.map (fun r => g (f r)) := by
  cases x <;> rfl

end Ike.Res

namespace Ike.Go

/-- `copy(f, c)` onto the whole of `f` -/
theorem copyInto_whole (f c : Bytes) :
    Go.copyInto f 0 f.length c =
      .ok (c.take (min f.length c.length) ++ f.drop (min f.length c.length), min f.length c.length) := by
  simp [Go.copyInto]

end Ike.Go
