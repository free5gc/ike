import IkeProofs.Refine.Simple
import IkeProofs.Refine.DeleteCP
import IkeProofs.Refine.TS
import IkeProofs.Refine.SAUnmarshal
import IkeProofs.Refine.SAMarshal
import IkeProofs.Refine.Header
import IkeProofs.Refine.ChainMsg

/-! The per-payload and header refinement theorems discharge the hypotheses of the chain- and
message-level theorems: the functions of package `message` AS TRANSLATED FROM THE CURRENT SOURCE
(`Ike.Gen.message.*`) compute exactly what the hand-written model computes, for every input (`Gen_*`, without
hypotheses). -/


namespace Ike.Refine
open Ike Ike.Gen.message

theorem IKEPayload_Marshal_rep (p : Payload) : IKEPayload.Marshal (GenAbs.repPayload p) = marshalPayload p := by
  cases p <;> simp only [GenAbs.repPayload, IKEPayload.Marshal, marshalPayload]
  case sa ps => rw [bind_ok_id, SecurityAssociation_Marshal_refines]; simp only [map_absProposal_rep]
  case ke g d => rw [bind_ok_id, KeyExchange_Marshal_refines]
  case idi t d => rw [bind_ok_id, IdentificationInitiator_Marshal_refines]
  case idr t d => rw [bind_ok_id, IdentificationResponder_Marshal_refines]
  case cert e d => rw [bind_ok_id, Certificate_Marshal_refines]
  case certreq e d => rw [bind_ok_id, CertificateRequest_Marshal_refines]
  case auth m d => rw [bind_ok_id, Authentication_Marshal_refines]
  case nonce d => rw [bind_ok_id, Nonce_Marshal_refines]
  case notify a b c d => rw [bind_ok_id, Notification_Marshal_refines]
  case delete a b c d => rw [bind_ok_id, Delete_Marshal_refines]
  case vendor d => rw [bind_ok_id, VendorID_Marshal_refines]
  case tsi l => rw [bind_ok_id, TrafficSelectorInitiator_Marshal_refines]; simp only [map_absTSel_rep]
  case tsr l => rw [bind_ok_id, TrafficSelectorResponder_Marshal_refines]; simp only [map_absTSel_rep]
  case sk n d => rw [bind_ok_id, Encrypted_Marshal_refines]
  case cp t a => rw [bind_ok_id, Configuration_Marshal_refines]; simp only [map_absCPAttr_rep]
  case eap e => rw [bind_ok_id, PayloadEap_Marshal_refines]

theorem IKEPayload_Unmarshal_new (t nx : UInt8) (body : Bytes) (hk : knownType t = true) :
    ((match newPayload t nx with | some g => IKEPayload.Unmarshal g body | none => Res.fault).map GenAbs.absPayload)
      = (unmarshalPayload t nx body).map some := by
  rcases type_cases t with (rfl|rfl|rfl|rfl|rfl|rfl|rfl|rfl|rfl|rfl|rfl|rfl|rfl|rfl|rfl|rfl) |
    ⟨h33, h34, h35, h36, h37, h38, h39, h40, h41, h42, h43, h44, h45, h46, h47, h48⟩
  · exact (Res.map_bind_ok _ _ _).trans (SecurityAssociation_Unmarshal_refines body)
  · exact (Res.map_bind_ok _ _ _).trans (KeyExchange_Unmarshal_refines body)
  · exact (Res.map_bind_ok _ _ _).trans (IdentificationInitiator_Unmarshal_refines body)
  · exact (Res.map_bind_ok _ _ _).trans (IdentificationResponder_Unmarshal_refines body)
  · exact (Res.map_bind_ok _ _ _).trans (Certificate_Unmarshal_refines body)
  · exact (Res.map_bind_ok _ _ _).trans (CertificateRequest_Unmarshal_refines body)
  · exact (Res.map_bind_ok _ _ _).trans (Authentication_Unmarshal_refines body)
  · exact (Res.map_bind_ok _ _ _).trans (Nonce_Unmarshal_refines body)
  · exact (Res.map_bind_ok _ _ _).trans (Notification_Unmarshal_refines body)
  · exact (Res.map_bind_ok _ _ _).trans (Delete_Unmarshal_refines body)
  · exact (Res.map_bind_ok _ _ _).trans (VendorID_Unmarshal_refines body)
  · exact (Res.map_bind_ok _ _ _).trans (TrafficSelectorInitiator_Unmarshal_refines body)
  · exact (Res.map_bind_ok _ _ _).trans (TrafficSelectorResponder_Unmarshal_refines body)
  · exact (Res.map_bind_ok _ _ _).trans (Encrypted_Unmarshal_refines nx body)
  · exact (Res.map_bind_ok _ _ _).trans (Configuration_Unmarshal_refines body)
  · exact (Res.map_bind_ok _ _ _).trans (PayloadEap_Unmarshal_refines body)
  · exfalso
    -- `t` is none of 33 … 48, the sixteen codes `knownType` tests
    have : knownType t = false := by
      simp [knownType, Facts.typeSA, Facts.typeKE, Facts.typeIDi, Facts.typeIDr, Facts.typeCERT,
        Facts.typeCERTreq, Facts.typeAUTH, Facts.typeNiNr, Facts.typeN, Facts.typeD, Facts.typeV, Facts.typeTSi,
        Facts.typeTSr, Facts.typeSK, Facts.typeCP, Facts.typeEAP, *]
    rw [this] at hk; exact Bool.noConfusion hk

theorem payloadRefines : PayloadRefines :=
  ⟨IKEPayload_Marshal_rep, IKEPayload_Type_rep, IKEPayload_Unmarshal_new⟩

theorem headerRefines : HeaderRefines := ⟨ParseHeader_refines, IKEHeader_Marshal_refines⟩

theorem Gen_Encode_chain (ps : List Payload) : IKEPayloadContainer.Encode (ps.map GenAbs.repPayload) = encodeChain ps :=
  Encode_chain_refines payloadRefines ps

theorem Gen_Decode_chain (t : UInt8) (b : Bytes) :
    (IKEPayloadContainer.Decode [] t b).map GenAbs.absPayloads = (decodeChain t b).map some :=
  Decode_chain_refines payloadRefines t b

theorem Gen_Decode_msg (b : Bytes) : (IKEMessage.Decode {} b).map GenAbs.absMsg = (decodeMsg b).map some :=
  Decode_msg_refines payloadRefines headerRefines b

theorem Gen_Encode_msg (m : Msg) :
    (IKEMessage.Encode (GenAbs.repMsg m)).map (fun r => (r.2, GenAbs.absHeader r.1.IKEHeader)) = encodeMsg m :=
  Encode_msg_refines payloadRefines headerRefines m

theorem Gen_ParseHeader (b : Bytes) : (ParseHeader b).map GenAbs.absHeader = parseHeader b := ParseHeader_refines b

end Ike.Refine
