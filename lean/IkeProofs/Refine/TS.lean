import IkeProofs.Refine.Basic

/-! `message.(*TrafficSelectorInitiator)` / `(*TrafficSelectorResponder)` `.Marshal` / `.Unmarshal`
as generated ⊑ `marshalTS` / `unmarshalTS`. -/

namespace Ike.Refine
open Ike Ike.Gen.message

private theorem zeros_eight : zeros 8 = [0, 0, 0, 0, 0, 0, 0, 0] := rfl

/-! Facts about `Go.splice` in the form proofs about this file's buffers would use them (no proof below needs them). -/

private theorem splice_length (d : Bytes) (off : Nat) (v : Bytes) (h : off + v.length ≤ d.length) :
    (Go.splice d off v).length = d.length := by
  simp [Go.splice]; omega

private theorem splice_cons_succ (a : UInt8) (d : Bytes) (off : Nat) (v : Bytes) :
    Go.splice (a :: d) (off + 1) v = a :: Go.splice d off v := by
  simp [Go.splice, Nat.add_right_comm]

private theorem splice_append_left (d e : Bytes) (off : Nat) (v : Bytes) (h : off + v.length ≤ d.length) :
    Go.splice (d ++ e) off v = Go.splice d off v ++ e := by
  unfold Go.splice
  rw [List.take_append_of_le_length (by omega), List.drop_append_of_le_length h]
  simp only [List.append_assoc]

private theorem TSI_Marshal_loop (xs : List IndividualTrafficSelector) (idx : Nat) (acc : Bytes) :
    TrafficSelectorInitiator.Marshal.loop1 xs idx acc
      = (marshalTSels (xs.map GenAbs.absTSel)).map (acc ++ ·) := by
  induction xs generalizing idx acc with
  | nil => rw [TrafficSelectorInitiator.Marshal.loop1, List.map_nil, marshalTSels, map_ok', List.append_nil]
  | cons x rest ih =>
    rw [TrafficSelectorInitiator.Marshal.loop1, List.map_cons, marshalTSels, marshalTSel]
    simp only [GenAbs.absTSel, Facts.tsIPv4, Facts.tsIPv6, beq_iff_eq]
    -- the tests first, so that the code of the other address family is dropped without being simplified;
    -- then the straight-line code that fills the buffer
    by_cases h7 : x.TSType = 7
    · rw [if_pos h7, if_pos h7]
      by_cases hs : x.StartAddress.length = 4
      · by_cases he : x.EndAddress.length = 4
        · simp only [ne_eq, not_true_eq_false, if_false, zeros_eight, Go.setN_cons_zero, Go.setN_cons_succ, Go.putU16_cons,
            Go.putU16_head, put16_append, map_ok', Res.bind_ok, List.cons_append, List.length_cons, List.length_append,
            hs, he, List.length_nil, ih, Nat.reduceAdd, Nat.reduceLT, gt_iff_lt, if_false]
          rw [Res.bind_ok_eq_map, Res.map_map]
          simp only [List.append_assoc, List.nil_append, List.cons_append, put16_append]
          rfl
        · simp only [he, ne_eq, not_true_eq_false, not_false_eq_true, if_true, if_false, hs, Res.bind_err, map_err']
      · simp only [ne_eq, not_false_eq_true, if_true, hs, Res.bind_err, map_err']
    · rw [if_neg h7, if_neg h7]
      by_cases h8 : x.TSType = 8
      · rw [if_pos h8, if_pos h8]
        by_cases hs : x.StartAddress.length = 16
        · by_cases he : x.EndAddress.length = 16
          · simp only [ne_eq, not_true_eq_false, if_false, zeros_eight, Go.setN_cons_zero, Go.setN_cons_succ, Go.putU16_cons,
              Go.putU16_head, put16_append, map_ok', Res.bind_ok, List.cons_append, List.length_cons, List.length_append,
              hs, he, List.length_nil, ih, Nat.reduceAdd, Nat.reduceLT, gt_iff_lt, if_false]
            rw [Res.bind_ok_eq_map, Res.map_map]
            simp only [List.append_assoc, List.nil_append, List.cons_append, put16_append]
            rfl
          · simp only [he, ne_eq, not_true_eq_false, not_false_eq_true, if_true, if_false, hs, Res.bind_err, map_err']
        · simp only [ne_eq, not_false_eq_true, if_true, hs, Res.bind_err, map_err']
      · rw [if_neg h8, if_neg h8]
        rfl

/-- Initiator and Responder are the same Go code: the two generated loops coincide -/
private theorem TSR_Marshal_loop_eq (xs : List IndividualTrafficSelector) (idx : Nat) (acc : Bytes) :
    TrafficSelectorResponder.Marshal.loop1 xs idx acc
      = TrafficSelectorInitiator.Marshal.loop1 xs idx acc := by
  induction xs generalizing idx acc with
  | nil => simp [TrafficSelectorInitiator.Marshal.loop1, TrafficSelectorResponder.Marshal.loop1]
  | cons x rest ih =>
    unfold TrafficSelectorInitiator.Marshal.loop1 TrafficSelectorResponder.Marshal.loop1
    simp only [ih]

theorem TrafficSelectorInitiator_Marshal_refines (v : Gen.message.TrafficSelectorInitiator) :
    TrafficSelectorInitiator.Marshal v = marshalTS (v.TrafficSelectors.map GenAbs.absTSel) := by
  unfold TrafficSelectorInitiator.Marshal marshalTS
  simp only [TSI_Marshal_loop, List.length_map]
  by_cases h0 : v.TrafficSelectors.length = 0
  · simp [h0]
  · by_cases h1 : v.TrafficSelectors.length > 255
    · simp [h0, h1]
    · cases marshalTSels (v.TrafficSelectors.map GenAbs.absTSel) <;>
        simp [h0, h1, zeros_four, Go.setN_cons_zero]

theorem TrafficSelectorResponder_Marshal_refines (v : Gen.message.TrafficSelectorResponder) :
    TrafficSelectorResponder.Marshal v = marshalTS (v.TrafficSelectors.map GenAbs.absTSel) := by
  unfold TrafficSelectorResponder.Marshal marshalTS
  simp only [TSR_Marshal_loop_eq, TSI_Marshal_loop, List.length_map]
  by_cases h0 : v.TrafficSelectors.length = 0
  · simp [h0]
  · have h0' : v.TrafficSelectors.length > 0 := by omega
    by_cases h1 : v.TrafficSelectors.length > 255
    · simp [h0, h0', h1]
    · cases marshalTSels (v.TrafficSelectors.map GenAbs.absTSel) <;>
        simp [h0, h0', h1, zeros_four, Go.setN_cons_zero]

private theorem u8_pos_of_toNat {n : UInt8} {k : Nat} (h : n.toNat = k + 1) : n > (0 : UInt8) := by
  show (0 : UInt8) < n
  rw [UInt8.lt_iff_toNat_lt]; simp [h]

private theorem u8_pred_toNat {n : UInt8} {k : Nat} (h : n.toNat = k + 1) : (n - 1).toNat = k := by
  have h1 : (1 : UInt8) ≤ n := by rw [UInt8.le_iff_toNat_le]; simp [h]
  rw [UInt8.toNat_sub_of_le n 1 h1, h]; rfl

private theorem u8_not_pos_of_toNat {n : UInt8} (h : n.toNat = 0) : ¬ n > (0 : UInt8) := by
  show ¬ (0 : UInt8) < n
  rw [UInt8.lt_iff_toNat_lt]; simp [h]

/- One selector of wire length `L` (addresses `b[8:mid]`, `b[mid:L]`), after the type octet has been dispatched.
Both address families need the same steps, which end with the induction hypothesis of `TSI_Unmarshal_loop`; the
steps are therefore a tactic abbreviation that refers BY NAME to that proof's context (hence `hygiene false`):
`b` the input, `n` the remaining count with `hn : n.toNat = k + 1`, `f` the remaining fuel with `hf' : k < f`, and
`ih` for `k`.  It can be used only where these names are in scope with these meanings. -/
set_option hygiene false in
local macro "ts_branch " L:num mid:num : tactic => `(tactic| (
  cases goU16 b 2 with
  | err => simp
  | fault => simp
  | ok sl =>
    simp only [Res.bind_ok]
    by_cases hsl : sl = $L
    · subst hsl
      simp only [show ($L : UInt16).toNat = $L from rfl]
      by_cases hlen : b.length < $L
      · simp [hlen]
      · have hL : $L ≤ b.length := by omega
        simp only [hlen, if_false, ne_eq, not_true_eq_false,
          goIndex_ok (show 1 < b.length by omega), goU16_ok (show 4 + 2 ≤ b.length by omega),
          goU16_ok (show 6 + 2 ≤ b.length by omega),
          goSlice_ok (show 8 ≤ $mid by omega) (show $mid ≤ b.length by omega),
          goSlice_ok (show $mid ≤ $L by omega) hL, goFrom_ok hL, Res.bind_ok, hL, if_true]
        rw [ih (n - 1) (u8_pred_toNat hn) f hf']
        cases unmarshalTSels k (b.drop $L) <;> simp [GenAbs.absTSel]
    · simp [hsl]))

private theorem TSI_Unmarshal_loop_succ (fuel : Nat) (ts : TrafficSelectorInitiator) (b : Bytes) (n : UInt8)
    (hn : n > 0) (h4 : ¬ b.length < 4) :
    TrafficSelectorInitiator.Unmarshal.loop1 (fuel + 1) ts b n =
      parseTSel b >>= fun r => goFrom b r.2 >>= fun b' =>
        TrafficSelectorInitiator.Unmarshal.loop1 fuel
          { ts with TrafficSelectors := ts.TrafficSelectors ++
            [{ TSType := r.1.tstype, IPProtocolID := r.1.proto, StartPort := r.1.sport, EndPort := r.1.eport,
               StartAddress := r.1.saddr, EndAddress := r.1.eaddr }] } b' (n - 1) := by
  rw [TrafficSelectorInitiator.Unmarshal.loop1, parseTSel]
  simp only [hn, h4, if_true, if_false, u16At_eq _ 2 4 rfl, u16At_eq _ 4 6 rfl, u16At_eq _ 6 8 rfl, Facts.tsIPv4,
    Facts.tsIPv6, beq_iff_eq, bne_iff_ne, Res.bind_assoc, Res.ite_bind, Res.bind_ok, Res.bind_err, List.nil_append,
    goIndex_ok (show 0 < b.length by omega)]

private theorem TSI_Unmarshal_loop (k : Nat) : ∀ (n : UInt8), n.toNat = k → ∀ fuel, k < fuel →
    ∀ (ts : TrafficSelectorInitiator) (b : Bytes),
    (TrafficSelectorInitiator.Unmarshal.loop1 fuel ts b n).map
        (fun s => s.1.TrafficSelectors.map GenAbs.absTSel)
      = (unmarshalTSels k b).map (fun l => ts.TrafficSelectors.map GenAbs.absTSel ++ l) := by
  induction k with
  | zero =>
    intro n hn fuel hf ts b
    cases fuel with
    | zero => omega
    | succ f =>
      rw [TrafficSelectorInitiator.Unmarshal.loop1, if_neg (u8_not_pos_of_toNat hn), unmarshalTSels, map_ok', map_ok',
        List.append_nil]
  | succ k ih =>
    intro n hn fuel hf ts b
    cases fuel with
    | zero => omega
    | succ f =>
      have hf' : k < f := by omega
      rw [unmarshalTSels]
      by_cases h4 : b.length < 4
      · rw [TrafficSelectorInitiator.Unmarshal.loop1, if_pos (u8_pos_of_toNat hn), if_pos h4, if_pos h4]
        rfl
      · rw [TSI_Unmarshal_loop_succ f ts b n (u8_pos_of_toNat hn) h4, if_neg h4]
        unfold parseTSel
        simp only [Facts.tsIPv4, Facts.tsIPv6, beq_iff_eq, bne_iff_ne, goIndex_ok (show 0 < b.length by omega),
          Res.bind_ok]
        by_cases h7 : byteAt b 0 = 7
        · simp only [h7, if_true]
          ts_branch 16 12
        · simp only [h7, if_false]
          by_cases h8 : byteAt b 0 = 8
          · simp only [h8, if_true]
            ts_branch 40 24
          · simp [h8]

/-- Initiator and Responder are the same Go code over two struct types with the same field -/
private theorem TSR_Unmarshal_loop_eq (fuel : Nat) : ∀ (ts : TrafficSelectorResponder) (b : Bytes) (n : UInt8),
    (TrafficSelectorResponder.Unmarshal.loop1 fuel ts b n).map (fun s => s.1.TrafficSelectors)
      = (TrafficSelectorInitiator.Unmarshal.loop1 fuel { TrafficSelectors := ts.TrafficSelectors } b n).map
          (fun s => s.1.TrafficSelectors) := by
  induction fuel with
  | zero => intro ts b n; rfl
  | succ fuel ih =>
    intro ts b n
    unfold TrafficSelectorResponder.Unmarshal.loop1 TrafficSelectorInitiator.Unmarshal.loop1
    simp only [Res.map_ite, Res.map_bind, map_ok', map_err', ih]

/-- the decoder loop as both `Unmarshal` functions start it, seen through a payload constructor `mk` -/
private theorem TSI_Unmarshal_loop_init (mk : List TSel → Payload) (b : Bytes) (n : UInt8) :
    (TrafficSelectorInitiator.Unmarshal.loop1 (n.toNat + 1) {} b n).map
        (fun s => some (mk (s.1.TrafficSelectors.map GenAbs.absTSel)))
      = (unmarshalTSels n.toNat b).map (fun l => some (mk l)) := by
  have h := congrArg (Res.map (fun l => some (mk l)))
    (TSI_Unmarshal_loop n.toNat n rfl (n.toNat + 1) (Nat.lt_succ_self _) {} b)
  rwa [Res.map_map, Res.map_map] at h

private theorem TSR_Unmarshal_loop_init (mk : List TSel → Payload) (b : Bytes) (n : UInt8) :
    (TrafficSelectorResponder.Unmarshal.loop1 (n.toNat + 1) {} b n).map
        (fun s => some (mk (s.1.TrafficSelectors.map GenAbs.absTSel)))
      = (unmarshalTSels n.toNat b).map (fun l => some (mk l)) := by
  have h := congrArg (Res.map (fun l : List IndividualTrafficSelector => some (mk (l.map GenAbs.absTSel))))
    (TSR_Unmarshal_loop_eq (n.toNat + 1) {} b n)
  rw [Res.map_map, Res.map_map] at h
  exact h.trans (TSI_Unmarshal_loop_init mk b n)

theorem TrafficSelectorInitiator_Unmarshal_refines (b : Bytes) :
    (TrafficSelectorInitiator.Unmarshal {} b).map (fun v => GenAbs.absPayload (.TrafficSelectorInitiator v))
      = (unmarshalTS .tsi b).map some := by
  unfold TrafficSelectorInitiator.Unmarshal unmarshalTS
  simp only [ite_pos_eq, Res.bind_ok_eq_map, Res.map_ite, Res.map_bind, Res.map_map, map_ok', map_err', GenAbs.absPayload,
    TSI_Unmarshal_loop_init, List.map_nil]

theorem TrafficSelectorResponder_Unmarshal_refines (b : Bytes) :
    (TrafficSelectorResponder.Unmarshal {} b).map (fun v => GenAbs.absPayload (.TrafficSelectorResponder v))
      = (unmarshalTS .tsr b).map some := by
  unfold TrafficSelectorResponder.Unmarshal unmarshalTS
  simp only [ite_pos_eq, Res.bind_ok_eq_map, Res.map_ite, Res.map_bind, Res.map_map, map_ok', map_err', GenAbs.absPayload,
    TSR_Unmarshal_loop_init, List.map_nil]

end Ike.Refine
