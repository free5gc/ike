import IkeProofs.Refine.Build

/-! The three EAP-5G builders of `message/build.go` as translated: `BuildEapExpanded`, `BuildEAP5GStart`,
`BuildEAP5GNAS`.  They assign `eap.EapTypeData` through the pointer `BuildEAP` returned after appending it to the
container; the translation keeps that pointer as a view of the container's last element (`Go.setAt`).
`BuildEAP_eq` and `ok_snoc_refines` are those of `Refine/Build.lean`. -/

namespace Ike.Refine
open Ike Ike.Gen.message

theorem BuildEapExpanded_eq (v t : UInt32) (d : Bytes) :
    BuildEapExpanded v t d = .ok { VendorID := v, VendorType := t, VendorData := d } := by
  unfold BuildEapExpanded
  simp

private theorem setAt_last {α : Type} (c : List α) (x y : α) : Go.setAt (c ++ [x]) ((c ++ [x]).length - 1) y = c ++ [y] := by
  unfold Go.setAt
  have h : (c ++ [x]).length - 1 = c.length := by simp
  rw [h]
  induction c with
  | nil => rfl
  | cons a rest ih => simp [ih]

private theorem getElem_last {α : Type} (c : List α) (x : α) : (c ++ [x])[(c ++ [x]).length - 1]? = some x := by
  have h : (c ++ [x]).length - 1 = c.length := by simp
  rw [h]; simp

/-- closed form: the container gains ONE EAP Request payload carrying the Expanded type data -/
theorem BuildEAP5GStart_eq (c : List IKEPayload) (ident : UInt8) :
    IKEPayloadContainer.BuildEAP5GStart c ident =
      .ok (c ++ [.PayloadEap { EAP := ⟨1, ident, .expanded 10415 3 [1, 0]⟩ }]) := by
  unfold IKEPayloadContainer.BuildEAP5GStart
  rw [BuildEAP_eq, BuildEapExpanded_eq]
  simp only [Res.bind_ok, getElem_last, setAt_last]
  rfl

theorem BuildEAP5GStart_refines (c : List IKEPayload) (ps : List Payload)
    (hc : GenAbs.absPayloads c = some ps) (ident : UInt8) :
    (IKEPayloadContainer.BuildEAP5GStart c ident).map GenAbs.absPayloads
      = .ok (some (Build.buildEAP5GStart ps ident)) := by
  rw [BuildEAP5GStart_eq]
  exact ok_snoc_refines c ps _ _ hc rfl

/-- closed form of `BuildEAP5GNAS`: refused for an empty or oversize PDU (container untouched: an error carries no
state), otherwise ONE EAP Request / Expanded payload whose vendor data is message id 2, spare 0, the 16-bit length
and the PDU -/
theorem BuildEAP5GNAS_eq (c : List IKEPayload) (ident : UInt8) (nas : Bytes) :
    IKEPayloadContainer.BuildEAP5GNAS c ident nas =
      if nas.length = 0 then .err else if nas.length > 65535 then .err else
      .ok (c ++ [.PayloadEap { EAP := ⟨1, ident,
        .expanded 10415 3 ([2, 0] ++ put16 (UInt16.ofNat nas.length) ++ nas)⟩ }]) := by
  unfold IKEPayloadContainer.BuildEAP5GNAS
  simp only [zeros_four, Go.setN_cons_zero, Go.putU16_cons, Go.putU16_head, map_ok', Res.bind_ok, BuildEAP_eq,
    BuildEapExpanded_eq, getElem_last, setAt_last, List.nil_append, List.append_nil]
  rfl

theorem BuildEAP5GNAS_refines (c : List IKEPayload) (ps : List Payload)
    (hc : GenAbs.absPayloads c = some ps) (ident : UInt8) (nas : Bytes) :
    (IKEPayloadContainer.BuildEAP5GNAS c ident nas).map GenAbs.absPayloads
      = (Build.buildEAP5GNAS ps ident nas).map some := by
  rw [BuildEAP5GNAS_eq]
  unfold Build.buildEAP5GNAS
  by_cases h0 : nas.length = 0
  · rw [if_pos h0, if_pos h0]; rfl
  · rw [if_neg h0, if_neg h0]
    by_cases h1 : nas.length > 65535
    · rw [if_pos h1, if_pos (by simpa using h1)]; rfl
    · rw [if_neg h1, if_neg (by simpa using h1)]
      rw [map_ok', absPayloads_snoc c ps _ _ hc rfl]
      rfl

end Ike.Refine
