import IkeProofs.Refine.Glue

/-! The library functions as translated from the current source, seen through the abstraction:
`genDecode` / `genEncode` are `message.(*IKEMessage).Decode / Encode` of `Gen_message.lean`.
By the refinement theorems they ARE the model's `decodeMsg` / `encodeMsg`; every property
theorem about the model is restated over them in `Theorems/CxxGen.lean`. -/

namespace Ike.Refine
open Ike Ike.Gen.message

/-- `new(IKEMessage).Decode(b)` of the generated code; `none` would be a nil interface in the payload list -/
def genDecode (b : Bytes) : Res (Option Msg) := (IKEMessage.Decode {} b).map GenAbs.absMsg

/-- `m.Encode()` of the generated code: the datagram and the header as updated by the call -/
def genEncode (m : Msg) : Res (Bytes × Header) :=
  (IKEMessage.Encode (GenAbs.repMsg m)).map (fun r => (r.2, GenAbs.absHeader r.1.IKEHeader))

/-- `container.Decode(t, b)` of the generated code on an empty container -/
def genDecodeChain (t : UInt8) (b : Bytes) : Res (Option (List Payload)) :=
  (IKEPayloadContainer.Decode [] t b).map GenAbs.absPayloads

theorem genDecode_eq (b : Bytes) : genDecode b = (decodeMsg b).map some := Gen_Decode_msg b
theorem genEncode_eq (m : Msg) : genEncode m = encodeMsg m := Gen_Encode_msg m
theorem genDecodeChain_eq (t : UInt8) (b : Bytes) : genDecodeChain t b = (decodeChain t b).map some := Gen_Decode_chain t b

theorem genDecode_ok {b : Bytes} {m : Msg} : genDecode b = .ok (some m) ↔ decodeMsg b = .ok m := by
  rw [genDecode_eq]; cases decodeMsg b <;> simp [Res.map]

end Ike.Refine
