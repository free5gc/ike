import IkeProofs.Refine.Basic

/-! `message.(*Delete).{Unmarshal,Marshal}` and `message.(*Configuration).{Unmarshal,Marshal}` as
generated ⊑ `unmarshalDelete` / `marshalDelete` / `unmarshalCP` / `marshalCP`. -/

namespace Ike.Refine
open Ike Ike.Gen.message

/-! `Res.map_bind` and the buffer writes, in the form this file's proofs use them. -/

private theorem map_bind' {α β γ : Type} (x : Res α) (f : α → Res β) (g : β → γ) :
    (x >>= f).map g = x >>= fun a => (f a).map g := Res.map_bind x f g

private theorem splice_zero (d v : Bytes) : Go.splice d 0 v = v ++ d.drop v.length := Go.splice_zero d v

private theorem put32_length (v : UInt32) : (put32 v).length = 4 := rfl

private theorem putU16_cons (a : UInt8) (d : Bytes) (lo hi : Nat) (v : UInt16) :
    Go.putU16 (a :: d) (lo + 1) (hi + 1) v = (Go.putU16 d lo hi v).map (a :: ·) := Go.putU16_cons a d lo hi v

private theorem putU32_ok (d : Bytes) (lo hi : Nat) (v : UInt32) (h1 : lo + 4 ≤ hi) (h2 : hi ≤ d.length) :
    Go.putU32 d lo hi v = Res.ok (Go.splice d lo (put32 v)) := Go.putU32_ok d lo hi v h1 h2

private theorem putU32_fault (d : Bytes) (lo hi : Nat) (v : UInt32) (h : hi < lo + 4 ∨ d.length < hi) :
    Go.putU32 d lo hi v = Res.fault := by
  have : ¬ (lo + 4 ≤ hi ∧ hi ≤ d.length) := by omega
  simp [Go.putU32, this]

/-! Further facts of the same kind (no proof below needs them). -/

private theorem zeros_succ (n : Nat) : zeros (n + 1) = 0 :: zeros n := rfl

private theorem zeros_add (m n : Nat) : zeros (m + n) = zeros m ++ zeros n := by
  simp [zeros, List.replicate_append_replicate]

private theorem setN_zeros (n i : Nat) (v : UInt8) (h : i < n) :
    Go.setN (zeros n) i v = Res.ok (zeros i ++ v :: zeros (n - i - 1)) := by
  obtain ⟨k, rfl⟩ : ∃ k, n = i + (k + 1) := ⟨n - i - 1, by omega⟩
  have hw := Go.setN_append_right (zeros i) (0 :: zeros k) 0 v
  rw [zeros_length, Nat.add_zero, Go.setN_cons_zero] at hw
  rw [zeros_add, zeros_succ, hw, Nat.add_sub_cancel_left, Nat.add_sub_cancel]
  rfl

private theorem take_zeros (n k : Nat) : (zeros n).take k = zeros (min k n) := by
  simp [zeros]

private theorem splice_length (d v : Bytes) (off : Nat) (h : off + v.length ≤ d.length) :
    (Go.splice d off v).length = d.length := by
  have h1 : off ≤ d.length := Nat.le_trans (Nat.le_add_right off _) h
  unfold Go.splice
  rw [List.length_append, List.length_append, List.length_take, List.length_drop, Nat.min_eq_left h1,
    Nat.add_sub_cancel' h]

private theorem putU32_cons (a : UInt8) (d : Bytes) (lo hi : Nat) (v : UInt32) :
    Go.putU32 (a :: d) (lo + 1) (hi + 1) v = (Go.putU32 d lo hi v).map (a :: ·) := by
  unfold Go.putU32
  simp only [List.length_cons, Nat.add_right_comm lo 1 4, Nat.add_le_add_iff_right, Res.map_ite, map_ok', map_fault',
    Go.splice, List.take_succ_cons, List.drop_succ_cons, List.cons_append, Nat.add_right_comm lo 1]

private theorem deleteSPIs_succ (m : Nat) (b : Bytes) :
    deleteSPIs (m + 1) b = goU32 b 0 >>= fun v => (deleteSPIs m (b.drop 4)).map (v :: ·) := by
  match b with
  | [] | [_] | [_, _] | [_, _, _] => rfl
  | b0 :: b1 :: b2 :: b3 :: rest =>
    rw [goU32_ok (Nat.le_add_left 4 rest.length), deleteSPIs]
    simp only [byteAt_cons_zero, byteAt_cons_succ, Res.bind_ok, List.drop_succ_cons, List.drop_zero]
    cases deleteSPIs m rest <;> rfl

private theorem goU32_drop (b : Bytes) (i : Nat) : goU32 (b.drop i) 0 = goU32 b i := by
  unfold goU32 byteAt
  simp only [List.length_drop, List.getD_eq_getElem?_getD, List.getElem?_drop, Nat.add_zero, Nat.zero_add]
  by_cases h : i + 4 ≤ b.length
  · rw [if_pos h, if_pos (by omega)]
  · rw [if_neg h, if_neg (by omega)]

private theorem Delete_Unmarshal_loop (b : Bytes) (n : UInt16) (m : Nat) :
    ∀ (fuel i : Nat) (d : Gen.message.Delete) (spi : UInt32), i + 4 * m = 4 * n.toNat → m < fuel →
      (Delete.Unmarshal.loop1 fuel b n d spi i).map (·.1)
        = (deleteSPIs m (b.drop i)).map (fun l => { d with SPIs := d.SPIs ++ l }) := by
  induction m with
  | zero =>
    intro fuel i d spi hi hf
    cases fuel with
    | zero => omega
    | succ fuel =>
      rw [Delete.Unmarshal.loop1, if_neg (by omega), deleteSPIs, map_ok', map_ok', List.append_nil]
  | succ m ih =>
    intro fuel i d spi hi hf
    cases fuel with
    | zero => omega
    | succ fuel =>
      rw [Delete.Unmarshal.loop1, if_pos (by omega), u32At_eq b i (i + 4) rfl, deleteSPIs_succ, goU32_drop,
        map_bind', map_bind']
      simp only [ih fuel (i + 4) _ _ (by omega) (by omega), Res.map_map, List.drop_drop, List.append_assoc,
        List.singleton_append]

/-- the loop as `Delete.Unmarshal` starts it -/
private theorem Delete_Unmarshal_loop_init (b : Bytes) (n : UInt16) (d : Gen.message.Delete) (spi : UInt32) :
    (Delete.Unmarshal.loop1 (4 * n.toNat - 0 + 2) b n d spi 0).map (·.1)
      = (deleteSPIs n.toNat b).map (fun l => { d with SPIs := d.SPIs ++ l }) :=
  Delete_Unmarshal_loop b n n.toNat _ 0 d spi (by omega) (by omega)

theorem Delete_Unmarshal_refines (b : Bytes) :
    (Delete.Unmarshal {} b).map (fun v => GenAbs.absPayload (.Delete v)) = (unmarshalDelete b).map some := by
  unfold Delete.Unmarshal unmarshalDelete
  simp only [u16At_eq _ 2 4 rfl, ite_pos_eq, Res.bind_ok_eq_map, Delete_Unmarshal_loop_init, Res.map_ite, map_bind', Res.map_map,
    map_ok', map_err', GenAbs.absPayload, List.nil_append, gt_iff_lt, UInt16.lt_iff_toNat_lt, UInt16.toNat_zero,
    Bool.and_eq_true, decide_eq_true_eq, bne_iff_ne, ne_eq]

/-- Go reuses ONE buffer `byteSlice := make([]byte, SPISize)` for all SPIs and `PutUint32` overwrites only its first four
octets: behind them it stays zero, which is the hypothesis on `bs`. -/
private theorem Delete_Marshal_loop :
    ∀ (xs : List UInt32) (idx : Nat) (dd bs : Bytes), bs.drop 4 = zeros (bs.length - 4) →
      (Delete.Marshal.loop1 xs idx dd bs).map (·.1) = (marshalDeleteSPIs bs.length xs).map (dd ++ ·) := by
  intro xs
  induction xs with
  | nil => intro idx dd bs _; simp [Delete.Marshal.loop1, marshalDeleteSPIs]
  | cons v rest ih =>
    intro idx dd bs hz
    unfold Delete.Marshal.loop1 marshalDeleteSPIs
    by_cases hl : bs.length < 4
    · simp [putU32_fault bs 0 bs.length v (Or.inl hl), hl]
    · have hl' : 4 ≤ bs.length := by omega
      rw [putU32_ok bs 0 bs.length v hl' (Nat.le_refl _), splice_zero, put32_length]
      simp only [Res.bind_ok, hl, if_false]
      have hlen : (put32 v ++ bs.drop 4).length = bs.length := by
        rw [List.length_append, put32_length, List.length_drop]; omega
      have hz' : (put32 v ++ bs.drop 4).drop 4 = zeros ((put32 v ++ bs.drop 4).length - 4) := by
        rw [hlen, ← hz]; simp [put32]
      rw [ih (idx + 1) _ _ hz', hlen, hz]
      cases marshalDeleteSPIs bs.length rest <;> simp

theorem Delete_Marshal_refines (v : Gen.message.Delete) :
    Delete.Marshal v = marshalDelete v.ProtocolID v.SPISize v.NumberOfSPI v.SPIs := by
  unfold Delete.Marshal marshalDelete
  by_cases hn : v.SPIs.length ≠ v.NumberOfSPI.toNat
  · simp [hn]
  · simp only [hn, if_false, zeros_four, Go.setN_cons_zero, Go.setN_cons_succ, putU16_cons, Go.putU16_head, Res.bind_ok,
      map_ok', List.append_nil]
    by_cases hp : v.NumberOfSPI.toNat > 0
    · simp only [hp, if_true, Res.bind_ok_eq_map]
      have := Delete_Marshal_loop v.SPIs 0 ([v.ProtocolID, v.SPISize] ++ put16 v.NumberOfSPI)
        (zeros v.SPISize.toNat) (by simp [zeros])
      rw [zeros_length] at this
      exact this
    · simp [hp]

private theorem parseCPAttr_ok (d : Bytes) (len : UInt16) (hl : goU16 d 2 = .ok len) (h : 4 + len.toNat ≤ d.length) :
    parseCPAttr d =
      .ok (⟨be16 (byteAt d 0) (byteAt d 1) &&& 0x7fff, (d.take (4 + len.toNat)).drop 4⟩, 4 + len.toNat) := by
  unfold parseCPAttr
  simp only [hl, Res.bind_ok, if_neg (Nat.not_lt.mpr h), goU16_ok (show 0 + 2 ≤ d.length by omega),
    goSlice_ok (Nat.le_add_right 4 len.toNat) h]

private theorem Configuration_Unmarshal_loop :
    ∀ (fuel : Nat) (c : Gen.message.Configuration) (d : Bytes), d.length < fuel →
      (Configuration.Unmarshal.loop1 fuel c d).map (·.1) = (unmarshalCPAttrs d).map
        (fun l => { c with ConfigurationAttribute := c.ConfigurationAttribute ++ l.map GenAbs.repCPAttr }) := by
  intro fuel
  induction fuel with
  | zero => intro c d h; omega
  | succ fuel ih =>
    intro c d hf
    rw [unmarshalCPAttrs, Configuration.Unmarshal.loop1]
    by_cases h0 : d.length = 0
    · simp only [h0, Nat.lt_irrefl, gt_iff_lt, if_false, dite_true, map_ok', List.map_nil, List.append_nil]
    · simp only [h0, if_pos (Nat.pos_of_ne_zero h0), dite_false, gt_iff_lt]
      by_cases h4 : d.length < 4
      · simp only [h4, if_true, map_err']
      · have hl : goU16 d 2 = .ok (be16 (byteAt d 2) (byteAt d 3)) := goU16_ok (by omega)
        generalize be16 (byteAt d 2) (byteAt d 3) = len at hl
        simp only [h4, if_false, u16At_eq _ 2 4 rfl, u16At_eq _ 0 2 rfl, hl, Res.bind_ok]
        by_cases hlen : d.length < 4 + len.toNat
        · simp only [hlen, if_true, map_err', parseCPAttr, hl, Res.bind_ok]
        · have hle : 4 + len.toNat ≤ d.length := Nat.not_lt.mp hlen
          -- the Go code slices `d[4:][:len]`, the model `d[4:4+len]`
          simp only [hlen, if_false, parseCPAttr_ok d len hl hle, goU16_ok (show 0 + 2 ≤ d.length by omega),
            goFrom_ok (show 4 ≤ d.length by omega), Res.bind_ok,
            goSlice_ok (b := d.drop 4) (Nat.zero_le len.toNat) (by rw [List.length_drop]; omega),
            goFrom_ok (b := d.drop 4) (lo := len.toNat) (by rw [List.length_drop]; omega),
            List.drop_drop, List.drop_zero, hle]
          rw [dif_pos ⟨Nat.add_pos_left (by decide) _, trivial⟩, ih _ _ (by rw [List.length_drop]; omega),
            List.drop_take, Nat.add_sub_cancel_left]
          cases unmarshalCPAttrs (d.drop (4 + len.toNat)) <;>
            simp only [map_ok', map_err', map_fault', List.map_cons, List.append_assoc, List.singleton_append,
              List.nil_append, GenAbs.repCPAttr]

/-- the loop as `Configuration.Unmarshal` starts it -/
private theorem Configuration_Unmarshal_loop_init (c : Gen.message.Configuration) (d : Bytes) :
    (Configuration.Unmarshal.loop1 (d.length + 1) c d).map (·.1) = (unmarshalCPAttrs d).map
      (fun l => { c with ConfigurationAttribute := c.ConfigurationAttribute ++ l.map GenAbs.repCPAttr }) :=
  Configuration_Unmarshal_loop _ c d (Nat.lt_succ_self _)

theorem Configuration_Unmarshal_refines (b : Bytes) :
    (Configuration.Unmarshal {} b).map (fun v => GenAbs.absPayload (.Configuration v)) = (unmarshalCP b).map some := by
  unfold Configuration.Unmarshal unmarshalCP
  simp only [Res.bind_ok_eq_map, Configuration_Unmarshal_loop_init, Res.map_ite, map_bind', Res.map_map, map_err',
    GenAbs.absPayload, List.nil_append, map_absCPAttr_rep]

private theorem Configuration_Marshal_loop :
    ∀ (xs : List Gen.message.IndividualConfigurationAttribute) (idx : Nat) (acc : Bytes),
      Configuration.Marshal.loop1 xs idx acc = (marshalCPAttrs (xs.map GenAbs.absCPAttr)).map (acc ++ ·) := by
  intro xs
  induction xs with
  | nil => intro idx acc; simp [Configuration.Marshal.loop1, marshalCPAttrs]
  | cons a rest ih =>
    intro idx acc
    unfold Configuration.Marshal.loop1
    simp only [List.map_cons, marshalCPAttrs, GenAbs.absCPAttr, zeros_four, Go.putU16_head, putU16_cons, put16_append,
      map_ok', Res.bind_ok, ih]
    by_cases hl : a.Value.length > 65535
    · simp [hl]
    · cases marshalCPAttrs (rest.map GenAbs.absCPAttr) <;> simp [hl, put16]

theorem Configuration_Marshal_refines (v : Gen.message.Configuration) :
    Configuration.Marshal v = marshalCP v.ConfigurationType (v.ConfigurationAttribute.map GenAbs.absCPAttr) := by
  unfold Configuration.Marshal marshalCP
  simp only [zeros_four, Go.setN_cons_zero, Res.bind_ok, Configuration_Marshal_loop]
  cases marshalCPAttrs (v.ConfigurationAttribute.map GenAbs.absCPAttr) <;> simp

end Ike.Refine
