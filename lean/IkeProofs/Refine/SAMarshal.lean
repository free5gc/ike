import IkeProofs.Refine.Basic

/-! `message.(*SecurityAssociation).Marshal` as generated ⊑ `marshalSA`. -/

namespace Ike.Refine
open Ike Ike.Gen.message

/-! Buffer writes in the form this file's proofs use them. -/

private theorem zeros_8 : zeros 8 = [0, 0, 0, 0, 0, 0, 0, 0] := rfl
private theorem zeros_4 : zeros 4 = [0, 0, 0, 0] := rfl
private theorem zeros_0 : zeros 0 = [] := rfl

private theorem put16_length (v : UInt16) : (put16 v).length = 2 := rfl

private theorem put16_append (v : UInt16) (l : Bytes) :
    put16 v ++ l = UInt8.ofNat (v.toNat / 256) :: UInt8.ofNat (v.toNat % 256) :: l := rfl

private theorem putU16_cons_6_8 (a b c d e f g h : UInt8) (rest : Bytes) (v : UInt16) :
    Go.putU16 (a :: b :: c :: d :: e :: f :: g :: h :: rest) 6 8 v =
      Res.ok (a :: b :: c :: d :: e :: f :: (put16 v ++ rest)) := by
  simp only [Go.putU16_cons, Go.putU16_head, map_ok']

/-! A `range` loop that marks its last element: both loops of `SecurityAssociation.Marshal` walk a list `whole` of
length `N` and write a "more follows" marker computed from the index; the model recurses on the list and tests
`rest.isEmpty`. -/

private theorem marked_loop_eq {σ τ : Type} (abs : σ → τ) (N : Nat) (loop : List σ → Nat → Bytes → Res Bytes)
    (step : Bool → τ → Res Bytes) (all : List τ → Res Bytes)
    (hnil : ∀ idx acc, loop [] idx acc = .ok acc)
    (hcons : ∀ x rest idx acc, loop (x :: rest) idx acc =
      step (!decide (idx + 1 < N)) (abs x) >>= fun d => loop rest (idx + 1) (acc ++ d))
    (anil : all [] = .ok [])
    (acons : ∀ t rest, all (t :: rest) = step rest.isEmpty t >>= fun h => all rest >>= fun tl => .ok (h ++ tl)) :
    ∀ (xs : List σ) (idx : Nat) (acc : Bytes), idx + xs.length = N →
      loop xs idx acc = (all (xs.map abs)).map (fun d => acc ++ d) := by
  intro xs
  induction xs with
  | nil => intro idx acc _; rw [hnil, List.map_nil, anil, map_ok', List.append_nil]
  | cons t rest ih =>
    intro idx acc h
    have hm : (!decide (idx + 1 < N)) = (rest.map abs).isEmpty := by
      cases rest with
      | nil => simp at h ⊢; omega
      | cons a l => simp at h ⊢; omega
    rw [hcons, hm, List.map_cons, acons, Res.map_bind]
    refine congrArg _ (funext fun d => ?_)
    rw [ih (idx + 1) (acc ++ d) (by rw [List.length_cons] at h; omega), Res.bind_ok_eq_map, Res.map_map]
    simp only [List.append_assoc]

private theorem putU16_2_4 (a0 a1 a2 a3 : UInt8) (l : Bytes) (v : UInt16) :
    Go.putU16 (a0 :: a1 :: a2 :: a3 :: l) 2 4 v = .ok (a0 :: a1 :: (put16 v ++ l)) := by
  simp only [Go.putU16_cons, Go.putU16_head, map_ok']

private theorem putU16_2_4_put16 (w v : UInt16) (a2 a3 : UInt8) (l : Bytes) :
    Go.putU16 (put16 w ++ a2 :: a3 :: l) 2 4 v = .ok (put16 w ++ (put16 v ++ l)) := by
  rw [put16_append, putU16_2_4]
  rfl

/-- patching the length field of a finished transform substructure -/
private theorem transform_fix {β : Type} (m ty : UInt8) (tid : UInt16) (a : Bytes) (k : Bytes → Res β) :
    (if ((m :: 0 :: 0 :: 0 :: ty :: 0 :: (put16 tid ++ [])) ++ a).length > 65535 then Res.err
     else Go.putU16 ((m :: 0 :: 0 :: 0 :: ty :: 0 :: (put16 tid ++ [])) ++ a) 2 4
            (UInt16.ofNat ((m :: 0 :: 0 :: 0 :: ty :: 0 :: (put16 tid ++ [])) ++ a).length) >>= k) =
    (if 8 + a.length > 65535 then Res.err
     else Res.ok ([m, 0] ++ put16 (UInt16.ofNat (8 + a.length)) ++ [ty, 0] ++ put16 tid ++ a)) >>= k := by
  have hlen : ((m :: 0 :: 0 :: 0 :: ty :: 0 :: (put16 tid ++ [])) ++ a).length = 8 + a.length := by
    simp only [List.length_append, List.length_cons, List.length_nil, put16_length]
  rw [hlen]
  split
  · rfl
  · simp [putU16_2_4]

private theorem Marshal_loop2_cons (t : Gen.message.Transform) (rest whole : List Gen.message.Transform)
    (idx : Nat) (acc : Bytes) :
    SecurityAssociation.Marshal.loop2 (t :: rest) idx whole acc =
      (marshalTransform (!decide (idx + 1 < whole.length)) (GenAbs.absTransform t)) >>= fun d =>
        SecurityAssociation.Marshal.loop2 rest (idx + 1) whole (acc ++ d) := by
  obtain ⟨ty, tid, pres, fmt, atype, aval, vval⟩ := t
  rw [SecurityAssociation.Marshal.loop2]
  unfold marshalTransform marshalAttr
  -- the last-substructure marker is the only difference between the two branches of the first test
  simp only [← Res.ite_bind, Go.setN_ite]
  simp only [zeros_8, zeros_4, GenAbs.absTransform, Go.setN_cons_zero, Go.setN_cons_succ, putU16_cons_6_8, Go.putU16_head, map_ok',
    Res.bind_ok, Bool.not_eq_true', decide_eq_false_iff_not, ite_not]
  generalize (if idx + 1 < whole.length then (3 : UInt8) else 0) = m
  cases pres
  · simp [putU16_2_4]
  · by_cases hf : fmt = 0
    · by_cases h0 : vval.length = 0
      · simp [hf, h0]
      · by_cases h1 : vval.length > 65535
        · simp [hf, h0, h1]
        · simp only [hf, h0, h1, if_true, if_false, putU16_2_4_put16, Res.bind_ok, transform_fix]
          simp
    · simp only [hf, if_true, if_false, putU16_2_4_put16, Res.bind_ok, transform_fix]
      simp [hf]

private theorem Marshal_loop2_eq (whole : List Gen.message.Transform) :
    ∀ (xs : List Gen.message.Transform) (idx : Nat) (acc : Bytes),
      idx + xs.length = whole.length →
      SecurityAssociation.Marshal.loop2 xs idx whole acc =
        (marshalTransforms (xs.map GenAbs.absTransform)).map (fun d => acc ++ d) :=
  marked_loop_eq GenAbs.absTransform whole.length (fun xs idx acc => SecurityAssociation.Marshal.loop2 xs idx whole acc)
    marshalTransform marshalTransforms (fun _ _ => rfl) (fun x rest idx acc => Marshal_loop2_cons x rest whole idx acc)
    rfl (fun _ _ => rfl)

private theorem absProposal_transforms (p : Gen.message.Proposal) :
    (GenAbs.absProposal p).transforms =
      (p.EncryptionAlgorithm ++ p.PseudorandomFunction ++ p.IntegrityAlgorithm ++
        p.DiffieHellmanGroup ++ p.ExtendedSequenceNumbers).map GenAbs.absTransform := by
  simp [GenAbs.absProposal, Proposal.transforms]

private theorem setN_7_append (a0 a1 a2 a3 a4 a5 a6 a7 v : UInt8) (l : Bytes) :
    Go.setN ([a0, a1, a2, a3, a4, a5, a6, a7] ++ l) 7 v =
      .ok (a0 :: a1 :: a2 :: a3 :: a4 :: a5 :: a6 :: v :: l) := by
  simp only [List.cons_append, List.nil_append, Go.setN_cons_succ, Go.setN_cons_zero, map_ok']

/-- patching the length field of a finished proposal substructure -/
private theorem proposal_fix {β : Type} (m num proto s n : UInt8) (spi td : Bytes) (k : Bytes → Res β) :
    (if ((m :: 0 :: 0 :: 0 :: num :: proto :: s :: n :: spi) ++ td).length > 65535 then Res.err
     else Go.putU16 ((m :: 0 :: 0 :: 0 :: num :: proto :: s :: n :: spi) ++ td) 2 4
            (UInt16.ofNat ((m :: 0 :: 0 :: 0 :: num :: proto :: s :: n :: spi) ++ td).length) >>= k) =
    (if 8 + spi.length + td.length > 65535 then Res.err
     else Res.ok ([m, 0] ++ put16 (UInt16.ofNat (8 + spi.length + td.length)) ++ [num, proto, s, n] ++
            spi ++ td)) >>= k := by
  have hlen : ((m :: 0 :: 0 :: 0 :: num :: proto :: s :: n :: spi) ++ td).length =
      8 + spi.length + td.length := by
    simp; omega
  rw [hlen]
  split
  · rfl
  · simp [putU16_2_4]

private theorem Marshal_loop1_cons (p : Gen.message.Proposal) (rest : List Gen.message.Proposal)
    (sa : Gen.message.SecurityAssociation) (idx : Nat) (acc : Bytes) :
    SecurityAssociation.Marshal.loop1 (p :: rest) idx sa acc =
      (marshalProposal (!decide (idx + 1 < sa.Proposals.length)) (GenAbs.absProposal p)) >>= fun d =>
        SecurityAssociation.Marshal.loop1 rest (idx + 1) sa (acc ++ d) := by
  obtain ⟨num, proto, spi, e1, e2, e3, e4, e5⟩ := p
  rw [SecurityAssociation.Marshal.loop1]
  unfold marshalProposal
  simp only [absProposal_transforms, List.nil_append]
  generalize e1 ++ e2 ++ e3 ++ e4 ++ e5 = ts
  simp only [← Res.ite_bind, Go.setN_ite]
  simp only [zeros_8, zeros_0, GenAbs.absProposal, List.length_map, Marshal_loop2_eq ts ts 0 [] (by simp),
    Go.setN_cons_zero, Go.setN_cons_succ, map_ok', Res.bind_ok, Bool.not_eq_true', decide_eq_false_iff_not, ite_not]
  generalize (if idx + 1 < sa.Proposals.length then (2 : UInt8) else 0) = m
  by_cases h1 : spi.length > 255
  · simp [h1]
  by_cases h2 : ts.length = 0
  · simp [h1, h2]
  by_cases h3 : ts.length > 255
  · simp [h1, h2, h3]
  simp only [h1, h2, h3, if_false]
  by_cases h0 : spi.length > 0
  · simp only [h0, if_true, setN_7_append, Res.bind_ok]
    cases marshalTransforms (List.map GenAbs.absTransform ts) with
    | err => simp
    | fault => simp
    | ok td =>
      simp only [map_ok', Res.bind_ok, List.nil_append, proposal_fix]
  · have : spi = [] := by cases spi <;> simp_all
    subst this
    simp only [h0, if_false]
    cases marshalTransforms (List.map GenAbs.absTransform ts) with
    | err => simp
    | fault => simp
    | ok td =>
      simp only [map_ok', Res.bind_ok, List.nil_append, proposal_fix]

private theorem Marshal_loop1_eq (sa : Gen.message.SecurityAssociation) :
    ∀ (xs : List Gen.message.Proposal) (idx : Nat) (acc : Bytes),
      idx + xs.length = sa.Proposals.length →
      SecurityAssociation.Marshal.loop1 xs idx sa acc =
        (marshalProposals (xs.map GenAbs.absProposal)).map (fun d => acc ++ d) :=
  marked_loop_eq GenAbs.absProposal sa.Proposals.length (fun xs idx acc => SecurityAssociation.Marshal.loop1 xs idx sa acc)
    marshalProposal marshalProposals (fun _ _ => rfl) (fun x rest idx acc => Marshal_loop1_cons x rest sa idx acc)
    rfl (fun _ _ => rfl)

theorem SecurityAssociation_Marshal_refines (v : Gen.message.SecurityAssociation) :
    SecurityAssociation.Marshal v = marshalSA (v.Proposals.map GenAbs.absProposal) := by
  unfold SecurityAssociation.Marshal marshalSA
  simp only [zeros_0]
  rw [Marshal_loop1_eq v v.Proposals 0 [] (by simp)]
  cases marshalProposals (List.map GenAbs.absProposal v.Proposals) <;> simp

end Ike.Refine
