import IkeProofs.Refine.Basic

/-! Chain- and message-level refinement: the generated `IKEPayloadContainer.Encode/Decode`,
`IKEMessage.Encode/Decode` ⊑ `encodeChain/decodeChain`, `encodeMsg/decodeMsg`, from the per-payload
and per-header refinement statements bundled in `PayloadRefines` / `HeaderRefines`.  The bundles are hypotheses
here because this file does not import the payload files; `Refine/Glue.lean` proves them and instantiates. -/

namespace Ike.Refine
open Ike Ike.Gen.message

/-- `payload = new(S)` as selected by the `switch` of `IKEPayloadContainer.Decode`
(message.go:120); `nx` is `b[0]`, stored in a fresh Encrypted payload.  (`GenAbs.newPayload`, which `GenDriver.lean`
runs, is the same function written with the `Facts` constants.) -/
def newPayload (t nx : UInt8) : Option Gen.message.IKEPayload :=
  if t = 33 then some (.SecurityAssociation {})
  else if t = 34 then some (.KeyExchange {})
  else if t = 35 then some (.IdentificationInitiator {})
  else if t = 36 then some (.IdentificationResponder {})
  else if t = 37 then some (.Certificate {})
  else if t = 38 then some (.CertificateRequest {})
  else if t = 39 then some (.Authentication {})
  else if t = 40 then some (.Nonce {})
  else if t = 41 then some (.Notification {})
  else if t = 42 then some (.Delete {})
  else if t = 43 then some (.VendorID {})
  else if t = 44 then some (.TrafficSelectorInitiator {})
  else if t = 45 then some (.TrafficSelectorResponder {})
  else if t = 46 then some (.Encrypted { NextPayload := nx })
  else if t = 47 then some (.Configuration {})
  else if t = 48 then some (.PayloadEap { EAP := GenExt.EAP_zero })
  else none

/-- what the chain / message theorems need from the per-payload refinement theorems -/
structure PayloadRefines : Prop where
  marshal : ∀ p : Payload, IKEPayload.Marshal (GenAbs.repPayload p) = marshalPayload p
  type_ : ∀ p : Payload, IKEPayload.Type_ (GenAbs.repPayload p) = Res.ok p.typeCode
  unmarshal : ∀ (t nx : UInt8) (body : Bytes), knownType t = true →
    ((match newPayload t nx with
      | some g => IKEPayload.Unmarshal g body
      | none => Res.fault).map GenAbs.absPayload) = (unmarshalPayload t nx body).map some

/-- what the message theorems need from the header refinement theorems -/
structure HeaderRefines : Prop where
  parse : ∀ b : Bytes, (ParseHeader b).map GenAbs.absHeader = parseHeader b
  marshal : ∀ h : Gen.message.IKEHeader, IKEHeader.Marshal h = marshalHeader (GenAbs.absHeader h)

/-- the `type_` field needs no payload file (every generated `S.Type_` is a constant); it is a field so that the
theorems below depend on the bundle alone -/
theorem IKEPayload_Type_rep (p : Payload) : IKEPayload.Type_ (GenAbs.repPayload p) = Res.ok p.typeCode := by
  cases p <;> rfl

theorem absPayload_rep (p : Payload) : GenAbs.absPayload (GenAbs.repPayload p) = some p := by
  cases p <;>
    simp only [GenAbs.absPayload, GenAbs.repPayload, map_absProposal_rep, map_absTSel_rep, map_absCPAttr_rep]

theorem absPayloads_rep (ps : List Payload) : GenAbs.absPayloads (ps.map GenAbs.repPayload) = some ps := by
  unfold GenAbs.absPayloads
  induction ps with
  | nil => rfl
  | cons p ps ih => simp [List.mapM_cons, absPayload_rep, ih]

theorem absHeader_rep (h : Header) : GenAbs.absHeader (GenAbs.repHeader h) = h := rfl

theorem typeCode_sk (p : Payload) (h : p.typeCode = 46) : ∃ n d, p = .sk n d := by
  cases p <;> first | exact ⟨_, _, rfl⟩ | (simp only [Payload.typeCode] at h; exact absurd h (by decide))

private theorem nextField_last (p : Payload) (h : ¬ p.typeCode = 46) : nextField p [] = 0 := by
  cases p <;> first | rfl | exact absurd rfl h

private theorem Encode_tail (x : UInt8) (acc : Bytes) (m tl : Res Bytes) :
    ((Go.setN (zeros 4) 0 x) >>= fun t6 =>
      m >>= fun t1 =>
      if (t6 ++ t1).length > 65535 then Res.err
      else
        (Go.putU16 (t6 ++ t1) 2 4 (UInt16.ofNat (t6 ++ t1).length)) >>= fun t2 =>
        Res.map (fun r => acc ++ t2 ++ r) tl) =
    Res.map (fun r => acc ++ r) (m >>= fun data =>
      if 4 + data.length > 65535 then Res.err
      else tl >>= fun tl => Res.ok ([x, 0] ++ put16 (UInt16.ofNat (4 + data.length)) ++ data ++ tl)) := by
  rw [zeros_four, Go.setN_cons_zero]
  cases m with
  | ok data =>
    simp only [Res.bind_ok, List.length_cons, List.length_nil, List.length_append]
    have : 0 + 1 + 1 + 1 + 1 + data.length = 4 + data.length := by omega
    rw [this]
    split
    · rfl
    · simp only [List.cons_append, List.nil_append, Go.putU16_cons, Go.putU16_head, map_ok', Res.bind_ok]
      cases tl <;> simp
  | err => rfl
  | fault => rfl

theorem Encode_loop_refines (hp : PayloadRefines) (rest pre : List Payload) (acc : Bytes) :
    IKEPayloadContainer.Encode.loop1 (rest.map GenAbs.repPayload) pre.length
      ((pre ++ rest).map GenAbs.repPayload) acc = (encodeChain rest).map (fun r => acc ++ r) := by
  induction rest generalizing pre acc with
  | nil => simp [IKEPayloadContainer.Encode.loop1, encodeChain]
  | cons p rest ih =>
    have ih' := fun acc' => ih (pre ++ [p]) acc'
    simp only [List.append_assoc, List.singleton_append, List.length_append, List.length_singleton] at ih'
    rw [List.map_cons, encodeChain]
    unfold IKEPayloadContainer.Encode.loop1
    simp only [ih']
    cases rest with
    | nil =>
      have hlt : ¬ pre.length + 1 < ((pre ++ [p]).map GenAbs.repPayload).length := by
        simp
      simp only [hlt, if_false, hp.type_, hp.marshal, Res.bind_ok]
      by_cases h46 : p.typeCode = 46
      · obtain ⟨n, d, rfl⟩ := typeCode_sk p h46
        simp only [h46, if_true, GenAbs.repPayload, Res.bind_ok]
        exact Encode_tail _ _ _ _
      · simp only [h46, if_false, nextField_last p h46]
        exact Encode_tail _ _ _ _
    | cons q rest =>
      have hlt : pre.length + 1 < ((pre ++ p :: q :: rest).map GenAbs.repPayload).length := by
        simp
      have hidx : Go.indexN ((pre ++ p :: q :: rest).map GenAbs.repPayload) (pre.length + 1)
          = Res.ok (GenAbs.repPayload q) := by
        unfold Go.indexN
        rw [if_pos hlt]
        simp [List.getD_eq_getElem?_getD]
      simp only [hlt, if_true, hidx, Res.bind_ok, hp.type_, hp.marshal, nextField]
      exact Encode_tail _ _ _ _

theorem Encode_chain_refines (hp : PayloadRefines) (ps : List Payload) :
    IKEPayloadContainer.Encode (ps.map GenAbs.repPayload) = encodeChain ps := by
  unfold IKEPayloadContainer.Encode
  have h := Encode_loop_refines hp ps [] []
  simp only [List.length_nil, List.nil_append] at h
  simp only [zeros, List.replicate_zero, h]
  cases encodeChain ps <;> simp

theorem type_cases (t : UInt8) :
    (t = 33 ∨ t = 34 ∨ t = 35 ∨ t = 36 ∨ t = 37 ∨ t = 38 ∨ t = 39 ∨ t = 40 ∨ t = 41 ∨ t = 42 ∨ t = 43 ∨
      t = 44 ∨ t = 45 ∨ t = 46 ∨ t = 47 ∨ t = 48) ∨
    (¬ t = 33 ∧ ¬ t = 34 ∧ ¬ t = 35 ∧ ¬ t = 36 ∧ ¬ t = 37 ∧ ¬ t = 38 ∧ ¬ t = 39 ∧ ¬ t = 40 ∧ ¬ t = 41 ∧
      ¬ t = 42 ∧ ¬ t = 43 ∧ ¬ t = 44 ∧ ¬ t = 45 ∧ ¬ t = 46 ∧ ¬ t = 47 ∧ ¬ t = 48) := by
  by_cases h : (t = 33 ∨ t = 34 ∨ t = 35 ∨ t = 36 ∨ t = 37 ∨ t = 38 ∨ t = 39 ∨ t = 40 ∨ t = 41 ∨ t = 42 ∨
      t = 43 ∨ t = 44 ∨ t = 45 ∨ t = 46 ∨ t = 47 ∨ t = 48)
  · exact Or.inl h
  · simp only [not_or] at h
    exact Or.inr h

private theorem ite_true_eq_or (c : Prop) [Decidable c] (b : Bool) : (if c then true else b) = (decide c || b) := by
  by_cases h : c <;> simp [h]

theorem newPayload_known (t nx : UInt8) : (newPayload t nx).isSome = knownType t := by
  unfold newPayload knownType
  simp only [apply_ite Option.isSome, Option.isSome_some, Option.isSome_none, ite_true_eq_or, Bool.or_false,
    Bool.or_assoc, Bool.beq_eq_decide_eq, Facts.typeSA, Facts.typeKE, Facts.typeIDi, Facts.typeIDr, Facts.typeCERT,
    Facts.typeCERTreq, Facts.typeAUTH, Facts.typeNiNr, Facts.typeN, Facts.typeD, Facts.typeV, Facts.typeTSi,
    Facts.typeTSr, Facts.typeSK, Facts.typeCP, Facts.typeEAP]

/-- the `switch nextPayload` of `IKEPayloadContainer.Decode` with the rest of the iteration `k` behind each
case (`e46`: `case TypeSK`, which has tests and a read of its own; `d`: the `default` case) is a `match` on
`newPayload` -/
theorem newPayload_switch {α : Type} (t nx : UInt8) (k : IKEPayload → α) (e46 d : α) :
    (if t = 33 then k (.SecurityAssociation {})
     else if t = 34 then k (.KeyExchange {})
     else if t = 35 then k (.IdentificationInitiator {})
     else if t = 36 then k (.IdentificationResponder {})
     else if t = 37 then k (.Certificate {})
     else if t = 38 then k (.CertificateRequest {})
     else if t = 39 then k (.Authentication {})
     else if t = 40 then k (.Nonce {})
     else if t = 41 then k (.Notification {})
     else if t = 42 then k (.Delete {})
     else if t = 43 then k (.VendorID {})
     else if t = 44 then k (.TrafficSelectorInitiator {})
     else if t = 45 then k (.TrafficSelectorResponder {})
     else if t = 46 then e46
     else if t = 47 then k (.Configuration {})
     else if t = 48 then k (.PayloadEap { EAP := GenExt.EAP_zero })
     else d) =
    if t = 46 then e46
    else match newPayload t nx with
      | some g => k g
      | none => d := by
  rcases type_cases t with (rfl|rfl|rfl|rfl|rfl|rfl|rfl|rfl|rfl|rfl|rfl|rfl|rfl|rfl|rfl|rfl) |
    ⟨h33, h34, h35, h36, h37, h38, h39, h40, h41, h42, h43, h44, h45, h46, h47, h48⟩
  all_goals first
    | rfl
    | simp only [newPayload, h33, h34, h35, h36, h37, h38, h39, h40, h41, h42, h43, h44, h45, h46, h47, h48, if_false]

/-- one iteration of the decoder loop on a well-framed generic payload header -/
private theorem Decode_loop_succ (fuel : Nat) (c : List IKEPayload) (t : UInt8) (b : Bytes) (pl : UInt16)
    (hlen : 4 ≤ b.length) (hpl : goU16 b 2 = Res.ok pl) (h4 : ¬ pl < 4) (hle : ¬ b.length < pl.toNat) :
    IKEPayloadContainer.Decode.loop1 (fuel + 1) c t b =
      match newPayload t (byteAt b 0) with
      | some g =>
        if t = 46 ∧ b.length ≠ pl.toNat then Res.err
        else (IKEPayload.Unmarshal g ((b.take pl.toNat).drop 4)) >>= fun p' =>
          IKEPayloadContainer.Decode.loop1 fuel (c ++ [p']) (byteAt b 0) (b.drop pl.toNat)
      | none =>
        if (byteAt b 1 &&& 128) >>> 7 = 0 then
          IKEPayloadContainer.Decode.loop1 fuel c (byteAt b 0) (b.drop pl.toNat)
        else Res.err := by
  have hpl4 : 4 ≤ pl.toNat := u16_not_lt_toNat h4
  have hi0 : goIndex b 0 = .ok (byteAt b 0) := goIndex_ok (by omega)
  rw [IKEPayloadContainer.Decode.loop1]
  -- the framing tests and reads in front of the `switch`
  refine (if_pos (show b.length > 0 by omega)).trans ((if_neg (show ¬ b.length < 4 by omega)).trans
    ((congrArg (· >>= _) ((u16At_eq b 2 4 rfl).trans hpl)).trans ((if_neg h4).trans ((if_neg hle).trans
      ((congrArg (· >>= _) (goIndex_ok (show 1 < b.length by omega))).trans ?_)))))
  -- the `switch`: the rest of the iteration behind each case, with its reads still unresolved
  refine (newPayload_switch t (byteAt b 0)
    (fun g => goSlice b 4 pl.toNat >>= fun t4 => IKEPayload.Unmarshal g t4 >>= fun t5 => goIndex b 0 >>= fun t6 =>
      goFrom b pl.toNat >>= fun t7 => IKEPayloadContainer.Decode.loop1 fuel (c ++ [t5]) t6 t7) _ _).trans ?_
  have hsl := goSlice_ok hpl4 (Nat.not_lt.mp hle)
  have hfr := goFrom_ok (Nat.not_lt.mp hle)
  by_cases h46 : t = 46
  · subst h46
    simp only [if_true, true_and, hi0, hsl, hfr, Res.bind_ok]
    rfl
  · rw [if_neg h46]
    cases newPayload t (byteAt b 0) <;> simp only [h46, false_and, if_false, hi0, hsl, hfr, Res.bind_ok]

private theorem Decode_loop_done (fuel : Nat) (c : List IKEPayload) (t : UInt8) (b : Bytes) (h0 : b.length = 0) :
    IKEPayloadContainer.Decode.loop1 (fuel + 1) c t b = .ok (c, t, b) := by
  rw [IKEPayloadContainer.Decode.loop1]
  exact if_neg (by omega)

/-- a generic payload header that is cut short or whose length field is out of range -/
private theorem Decode_loop_malformed (fuel : Nat) (c : List IKEPayload) (t : UInt8) (b : Bytes) (h0 : b.length ≠ 0)
    (h : b.length < 4 ∨ ∃ pl, goU16 b 2 = .ok pl ∧ (pl < 4 ∨ b.length < pl.toNat)) :
    IKEPayloadContainer.Decode.loop1 (fuel + 1) c t b = .err := by
  rw [IKEPayloadContainer.Decode.loop1]
  refine (if_pos (Nat.pos_of_ne_zero h0)).trans ?_
  rcases h with hl4 | ⟨pl, hpl, hbad⟩
  · exact if_pos hl4
  · by_cases hl4 : b.length < 4
    · exact if_pos hl4
    · refine (if_neg hl4).trans ((congrArg (· >>= _) ((u16At_eq b 2 4 rfl).trans hpl)).trans ?_)
      by_cases h4 : pl < 4
      · exact if_pos h4
      · exact (if_neg h4).trans (if_pos (hbad.resolve_left h4))

private theorem absPayloads_snoc (c : List IKEPayload) (cs : List Payload) (g : IKEPayload) (p : Payload)
    (hc : GenAbs.absPayloads c = some cs) (hg : GenAbs.absPayload g = some p) :
    GenAbs.absPayloads (c ++ [g]) = some (cs ++ [p]) :=
  absPayloads_append c [g] cs [p] hc (by simp [GenAbs.absPayloads, hg])

theorem Decode_loop_refines (hp : PayloadRefines) (fuel : Nat) :
    ∀ (c : List IKEPayload) (cs : List Payload) (t : UInt8) (b : Bytes), b.length < fuel →
      GenAbs.absPayloads c = some cs →
      (IKEPayloadContainer.Decode.loop1 fuel c t b).map (fun r => GenAbs.absPayloads r.1) =
        (decodeChain t b).map (fun ps => some (cs ++ ps)) := by
  induction fuel with
  | zero => intro c cs t b h; omega
  | succ fuel ih =>
    intro c cs t b hfuel hc
    rw [decodeChain]
    by_cases h0 : b.length = 0
    · rw [Decode_loop_done fuel c t b h0, dif_pos h0, map_ok', map_ok', List.append_nil, hc]
    · rw [dif_neg h0]
      by_cases hl4 : b.length < 4
      · rw [Decode_loop_malformed fuel c t b h0 (Or.inl hl4), chainStep, if_pos hl4]
        rfl
      · have hpl : goU16 b 2 = Res.ok (be16 (byteAt b 2) (byteAt b 3)) := goU16_ok (by omega)
        generalize be16 (byteAt b 2) (byteAt b 3) = pl at hpl
        by_cases hbad : pl < 4 ∨ b.length < pl.toNat
        · rw [Decode_loop_malformed fuel c t b h0 (Or.inr ⟨pl, hpl, hbad⟩), chainStep, if_neg hl4, hpl]
          by_cases h4 : pl < 4
          · simp only [Res.bind_ok, h4, if_true]
            rfl
          · simp only [Res.bind_ok, h4, if_false, hbad.resolve_left h4, if_true]
            rfl
        have h4 : ¬ pl < 4 := fun h => hbad (Or.inl h)
        have hle : ¬ b.length < pl.toNat := fun h => hbad (Or.inr h)
        have hpl4 : 4 ≤ pl.toNat := u16_not_lt_toNat h4
        have hn : 0 < pl.toNat ∧ pl.toNat ≤ b.length := by omega
        have hrec : (b.drop pl.toNat).length < fuel := by rw [List.length_drop]; omega
        -- the generated code takes the `default` case exactly when the model's `knownType t` is false
        have hk := newPayload_known t (byteAt b 0)
        rw [Decode_loop_succ fuel c t b pl (by omega) hpl h4 hle, chainStep]
        simp only [hl4, if_false, hpl, Res.bind_ok, h4, hle, goIndex_ok (show 0 < b.length by omega),
          goIndex_ok (show 1 < b.length by omega), goSlice_ok hpl4 hn.2, Bool.and_eq_true, beq_iff_eq,
          decide_eq_true_eq, Facts.typeSK]
        cases hg : newPayload t (byteAt b 0) with
        | none =>
          rw [hg] at hk
          simp only [← hk, Option.isSome_none, Bool.false_eq_true, if_false]
          by_cases hcrit : (byteAt b 1 &&& 128) >>> 7 = 0
          · simp only [hcrit, if_true, dif_pos hn]
            rw [ih c cs _ _ hrec hc]
            cases decodeChain (byteAt b 0) (b.drop pl.toNat) <;> rfl
          · simp only [hcrit, if_false]
            rfl
        | some g =>
          rw [hg] at hk
          have hu := hp.unmarshal t (byteAt b 0) ((b.take pl.toNat).drop 4) hk.symm
          rw [hg] at hu
          simp only [← hk, Option.isSome_some, if_true]
          -- one payload decoded by both sides (`hu`), then the rest of the chain (`ih`)
          have hstep : ((IKEPayload.Unmarshal g ((b.take pl.toNat).drop 4)) >>= fun p' =>
                IKEPayloadContainer.Decode.loop1 fuel (c ++ [p']) (byteAt b 0) (b.drop pl.toNat)).map
                  (fun r => GenAbs.absPayloads r.1) =
              ((unmarshalPayload t (byteAt b 0) ((b.take pl.toNat).drop 4)) >>= fun p =>
                (decodeChain (byteAt b 0) (b.drop pl.toNat)).map (p :: ·)).map (fun ps => some (cs ++ ps)) :=
            Res.map_bind_congr hu fun g' p hgp => by
              rw [ih (c ++ [g']) (cs ++ [p]) _ _ hrec (absPayloads_snoc c cs g' p hc hgp), Res.map_map]
              simp only [List.append_assoc, List.singleton_append]
          by_cases hsk : t = 46 ∧ b.length ≠ pl.toNat
          · simp only [if_pos hsk]
            rfl
          · simp only [if_neg hsk]
            rw [hstep]
            cases unmarshalPayload t (byteAt b 0) ((b.take pl.toNat).drop 4) with
            | err => rfl
            | fault => rfl
            | ok p =>
              simp only [Res.bind_ok, dif_pos hn]
              cases decodeChain (byteAt b 0) (b.drop pl.toNat) <;> rfl

/-- general version: decoding appends to a container that already holds `cs` -/
theorem Decode_chain_refines_append (hp : PayloadRefines) (c : List IKEPayload) (cs : List Payload)
    (hc : GenAbs.absPayloads c = some cs) (t : UInt8) (b : Bytes) :
    (IKEPayloadContainer.Decode c t b).map GenAbs.absPayloads =
      (decodeChain t b).map (fun ps => some (cs ++ ps)) := by
  unfold IKEPayloadContainer.Decode
  rw [← Decode_loop_refines hp (b.length + 1) c cs t b (by omega) hc]
  cases IKEPayloadContainer.Decode.loop1 (b.length + 1) c t b <;> rfl

theorem Decode_chain_refines (hp : PayloadRefines) (t : UInt8) (b : Bytes) :
    (IKEPayloadContainer.Decode [] t b).map GenAbs.absPayloads = (decodeChain t b).map some := by
  have h := Decode_chain_refines_append hp [] [] rfl t b
  simpa using h

theorem Decode_msg_refines (hp : PayloadRefines) (hh : HeaderRefines) (b : Bytes) :
    (IKEMessage.Decode {} b).map (fun m => (GenAbs.absPayloads m.Payloads).map
        (fun ps => (⟨GenAbs.absHeader m.IKEHeader, ps⟩ : Msg))) = (decodeMsg b).map some := by
  unfold IKEMessage.Decode IKEMessage.DecodePayload decodeMsg
  rw [← hh.parse b]
  cases ParseHeader b with
  | ok h =>
    simp only [Res.bind_ok, map_ok']
    have hd := Decode_chain_refines hp h.NextPayload h.PayloadBytes
    have e1 : (GenAbs.absHeader h).next = h.NextPayload := rfl
    have e2 : (GenAbs.absHeader h).payloadBytes = h.PayloadBytes := rfl
    rw [e1, e2]
    rw [bind_ok_id]
    exact Res.map_bind_congr hd fun l ps hl => by simp only [map_ok', hl, Option.map_some]
  | err => rfl
  | fault => rfl

theorem Encode_msg_refines (hp : PayloadRefines) (hh : HeaderRefines) (m : Msg) :
    (IKEMessage.Encode { IKEHeader := GenAbs.repHeader m.hdr, Payloads := m.payloads.map GenAbs.repPayload }).map
      (fun r => (r.2, GenAbs.absHeader r.1.IKEHeader)) = encodeMsg m := by
  unfold IKEMessage.Encode encodeMsg
  simp only [Encode_chain_refines hp, hh.marshal]
  cases hps : m.payloads with
  | nil =>
    simp only [List.map_nil, List.length_nil, Nat.lt_irrefl, gt_iff_lt, if_false, firstType, Res.map_bind, map_ok',
      GenAbs.absHeader, GenAbs.repHeader]
    rfl
  | cons p ps =>
    have hlen : (List.map GenAbs.repPayload (p :: ps)).length > 0 := by simp
    have hidx : Go.indexN (List.map GenAbs.repPayload (p :: ps)) 0 = Res.ok (GenAbs.repPayload p) := by
      simp [Go.indexN]
    simp only [hlen, if_true, hidx, Res.bind_ok, hp.type_, firstType, Res.map_bind, map_ok', GenAbs.absHeader,
      GenAbs.repHeader]

end Ike.Refine
