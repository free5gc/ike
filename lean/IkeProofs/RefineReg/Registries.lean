import IkeProofs.RefineReg.Maps
import IkeModel.Security.Registry
import IkeModel.Generated.Gen_encr
import IkeModel.Generated.Gen_integ
import IkeModel.Generated.Gen_prf
import IkeModel.Generated.Gen_esn

/-! The algorithm registries `security/encr`, `security/integ`, `security/prf`, `security/esn` as
generated (package-level maps filled by the translated `init`) ⊑ the table search of
`Ike.Registry`.

The abstractions defined here (`absEncr`, `absEncrK`, `absInteg`, `absIntegK`, `absPrf`, `absEsn`; `absDh` in
`Dh.lean`) send the nil interface to `none`, as the registry functions need it.  The SA level uses total
ones (`GenAbsSa.absEncrInfo`, `absIntegInfo`, `absPrfInfo`, `RefineSa.absDhInfo`; nil ↦ a zero record);
`absEncr_eq_some` … `absDh_eq_some` in `RefineSa/Select.lean` relate the two on non-nil values. -/

namespace Ike.RefineReg
open Ike Ike.Refine

/-- the package-level variables of `security/encr` once Go has run the package's `init()`; likewise below -/
def encrG : Gen.encr.Globals := match Gen.encr.init_ {} with | .ok G => G | _ => {}
def integG : Gen.integ.Globals := match Gen.integ.init_ {} with | .ok G => G | _ => {}
def prfG : Gen.prf.Globals := match Gen.prf.init_ {} with | .ok G => G | _ => {}
def esnG : Gen.esn.Globals := match Gen.esn.init_ {} with | .ok G => G | _ => {}

theorem encr_init_ok : Gen.encr.init_ {} = .ok encrG := rfl
theorem integ_init_ok : Gen.integ.init_ {} = .ok integG := rfl
theorem prf_init_ok : Gen.prf.init_ {} = .ok prfG := rfl
theorem esn_init_ok : Gen.esn.init_ {} = .ok esnG := rfl

def nENCR_AES_CBC_128 : Bytes := [69, 78, 67, 82, 95, 65, 69, 83, 95, 67, 66, 67, 95, 49, 50, 56]
def nENCR_AES_CBC_192 : Bytes := [69, 78, 67, 82, 95, 65, 69, 83, 95, 67, 66, 67, 95, 49, 57, 50]
def nENCR_AES_CBC_256 : Bytes := [69, 78, 67, 82, 95, 65, 69, 83, 95, 67, 66, 67, 95, 50, 53, 54]

theorem encrG_encrString :
    encrG.encrString = some [(12, Gen.encr.toString_ENCR_AES_CBC)] := rfl
theorem encrG_encrTypes :
    encrG.encrTypes = some [(nENCR_AES_CBC_128, .EncrAesCbc ⟨16⟩), (nENCR_AES_CBC_192, .EncrAesCbc ⟨24⟩),
      (nENCR_AES_CBC_256, .EncrAesCbc ⟨32⟩)] := rfl
theorem encrG_encrKTypes :
    encrG.encrKTypes = some [(nENCR_AES_CBC_128, .EncrAesCbc ⟨16⟩), (nENCR_AES_CBC_192, .EncrAesCbc ⟨24⟩),
      (nENCR_AES_CBC_256, .EncrAesCbc ⟨32⟩)] := rfl

def absEncr : Gen.encr.ENCRType → Option EncrInfo
  | .nil_ => none
  | .EncrAesCbc v => some ⟨12, v.keyLength.toNat⟩

def absEncrK : Gen.encr.ENCRKType → Option Registry.EncrKInfo
  | .nil_ => none
  | .EncrAesCbc v => some ⟨12, v.keyLength.toNat⟩

/-- the model's search `keyLen * 8 = aval` in the concrete table, as the case distinction of the
Go stringifier -/
theorem aesCbcRow_table (atype aval : UInt16) :
    Registry.aesCbcRow [(12, 16), (12, 24), (12, 32)] atype aval =
      if atype = 14 then
        (if aval = 128 then some (12, 16) else if aval = 192 then some (12, 24)
         else if aval = 256 then some (12, 32) else none)
      else none := by
  by_cases h14 : atype = 14
  · subst h14
    by_cases a1 : aval = 128
    · subst a1; rfl
    by_cases a2 : aval = 192
    · subst a2; rfl
    by_cases a3 : aval = 256
    · subst a3; rfl
    have e (n : Nat) (k : UInt16) (hk : k.toNat = n) (hne : ¬ aval = k) : (n == aval.toNat) = false :=
      beq_false_of_ne fun h => hne (UInt16.toNat_inj.mp (hk ▸ h.symm))
    simp only [a1, a2, a3, if_false, if_true, Registry.aesCbcRow, Facts.attrTypeKeyLength, u16_beq, List.find?_cons,
      e (16 * 8) 128 rfl a1, e (24 * 8) 192 rfl a2, e (32 * 8) 256 rfl a3, List.find?_nil]
  · simp only [Registry.aesCbcRow, Facts.attrTypeKeyLength, u16_beq, h14, if_false]

theorem encr_DecodeTransform_eval (t : Transform) :
    Gen.encr.DecodeTransform encrG t = .ok
      (if t.tid = 12 then if t.atype = 14 then
        (if t.aval = 128 then .EncrAesCbc ⟨16⟩ else if t.aval = 192 then .EncrAesCbc ⟨24⟩
         else if t.aval = 256 then .EncrAesCbc ⟨32⟩ else .nil_) else .nil_ else .nil_) := by
  show decodeVia encrG.encrString encrG.encrTypes t = _
  rw [encrG_encrString, encrG_encrTypes]
  simp only [decodeVia_cons, decodeVia_nil, Gen.encr.toString_ENCR_AES_CBC, Res.ite_bind, Res.bind_ok]
  simp only [← apply_ite Res.ok]
  rfl

theorem encr_DecodeTransformChildSA_eval (t : Transform) :
    Gen.encr.DecodeTransformChildSA encrG t = .ok
      (if t.tid = 12 then if t.atype = 14 then
        (if t.aval = 128 then .EncrAesCbc ⟨16⟩ else if t.aval = 192 then .EncrAesCbc ⟨24⟩
         else if t.aval = 256 then .EncrAesCbc ⟨32⟩ else .nil_) else .nil_ else .nil_) := by
  show decodeVia encrG.encrString encrG.encrKTypes t = _
  rw [encrG_encrString, encrG_encrKTypes]
  simp only [decodeVia_cons, decodeVia_nil, Gen.encr.toString_ENCR_AES_CBC, Res.ite_bind, Res.bind_ok]
  simp only [← apply_ite Res.ok]
  rfl

theorem encr_DecodeTransform_refines (t : Transform) :
    (Gen.encr.DecodeTransform encrG t).map absEncr = .ok (Registry.decodeEncr t) := by
  rw [encr_DecodeTransform_eval]
  unfold Registry.decodeEncr Registry.decodeEncrRow
  simp only [Facts.encrTable, aesCbcRow_table, Facts.encrAesCbcId, u16_beq, map_ok']
  have hr := @ite_rel _ _ (fun x (o : Option (UInt16 × Nat)) =>
    absEncr x = match o with | some r => some (⟨r.1, r.2⟩ : EncrInfo) | none => none)
  exact congrArg Res.ok (hr _ (hr _ (hr _ rfl (hr _ rfl (hr _ rfl rfl))) rfl) rfl)

theorem encr_DecodeTransformChildSA_refines (t : Transform) :
    (Gen.encr.DecodeTransformChildSA encrG t).map absEncrK = .ok (Registry.decodeEncrChild t) := by
  rw [encr_DecodeTransformChildSA_eval]
  unfold Registry.decodeEncrChild Registry.decodeEncrRow
  simp only [Facts.encrChildTable, aesCbcRow_table, Facts.encrAesCbcId, u16_beq, map_ok']
  have hr := @ite_rel _ _ (fun x (o : Option (UInt16 × Nat)) =>
    absEncrK x = match o with | some r => some (⟨r.1, r.2⟩ : Registry.EncrKInfo) | none => none)
  exact congrArg Res.ok (hr _ (hr _ (hr _ rfl (hr _ rfl (hr _ rfl rfl))) rfl) rfl)

def nAUTH_HMAC_MD5_96 : Bytes := [65, 85, 84, 72, 95, 72, 77, 65, 67, 95, 77, 68, 53, 95, 57, 54]
def nAUTH_HMAC_SHA1_96 : Bytes := [65, 85, 84, 72, 95, 72, 77, 65, 67, 95, 83, 72, 65, 49, 95, 57, 54]
def nAUTH_HMAC_SHA2_256_128 : Bytes :=
  [65, 85, 84, 72, 95, 72, 77, 65, 67, 95, 83, 72, 65, 50, 95, 50, 53, 54, 95, 49, 50, 56]

theorem integG_integString :
    integG.integString = some [(1, Gen.integ.toString_AUTH_HMAC_MD5_96), (2, Gen.integ.toString_AUTH_HMAC_SHA1_96),
      (12, Gen.integ.toString_AUTH_HMAC_SHA2_256_128)] := rfl
theorem integG_integTypes :
    integG.integTypes = some [(nAUTH_HMAC_MD5_96, .AuthHmacMd5_95 ⟨16, 12⟩), (nAUTH_HMAC_SHA1_96, .AuthHmacSha1_96 ⟨20, 12⟩),
      (nAUTH_HMAC_SHA2_256_128, .AuthHmacSha2_256_128 ⟨32, 16⟩)] := rfl
theorem integG_integKTypes :
    integG.integKTypes = some [(nAUTH_HMAC_MD5_96, .AuthHmacMd5_95 ⟨16, 12⟩), (nAUTH_HMAC_SHA1_96, .AuthHmacSha1_96 ⟨20, 12⟩),
      (nAUTH_HMAC_SHA2_256_128, .AuthHmacSha2_256_128 ⟨32, 16⟩)] := rfl

/-- hash numbers as in `Init`: `Go.Mac.new 0` md5, `1` sha1, `2` sha256 -/
def absInteg : Gen.integ.INTEGType → Option IntegInfo
  | .nil_ => none
  | .AuthHmacMd5_95 v => some ⟨1, v.keyLength.toNat, v.outputLength.toNat, 0⟩
  | .AuthHmacSha1_96 v => some ⟨2, v.keyLength.toNat, v.outputLength.toNat, 1⟩
  | .AuthHmacSha2_256_128 v => some ⟨12, v.keyLength.toNat, v.outputLength.toNat, 2⟩

def absIntegK : Gen.integ.INTEGKType → Option Registry.IntegKInfo
  | .nil_ => none
  | .AuthHmacMd5_95 v => some ⟨1, v.keyLength.toNat⟩
  | .AuthHmacSha1_96 v => some ⟨2, v.keyLength.toNat⟩
  | .AuthHmacSha2_256_128 v => some ⟨12, v.keyLength.toNat⟩

theorem findId_nil (id : UInt16) : Registry.findId [] id = none := rfl

/-- the model's table search, one row at a time (with the test oriented as in the `_eval` forms) -/
theorem findId_cons (r : UInt16 × Nat × Nat × Nat) (tbl : List (UInt16 × Nat × Nat × Nat)) (id : UInt16) :
    Registry.findId (r :: tbl) id = if id = r.1 then some r else Registry.findId tbl id := by
  unfold Registry.findId
  rw [List.find?_cons]
  by_cases h : id = r.1
  · simp only [h, beq_self_eq_true, if_true]
  · have : (r.1 == id) = false := by simpa using fun e => h e.symm
    simp only [this, h, if_false]

theorem integ_DecodeTransform_eval (t : Transform) :
    Gen.integ.DecodeTransform integG t = .ok
      (if t.tid = 1 then Gen.integ.INTEGType.AuthHmacMd5_95 ⟨16, 12⟩ else if t.tid = 2 then Gen.integ.INTEGType.AuthHmacSha1_96 ⟨20, 12⟩
       else if t.tid = 12 then Gen.integ.INTEGType.AuthHmacSha2_256_128 ⟨32, 16⟩ else Gen.integ.INTEGType.nil_) := by
  show decodeVia integG.integString integG.integTypes t = _
  rw [integG_integString, integG_integTypes]
  simp only [decodeVia_cons, decodeVia_nil, Gen.integ.toString_AUTH_HMAC_MD5_96, Gen.integ.toString_AUTH_HMAC_SHA1_96,
    Gen.integ.toString_AUTH_HMAC_SHA2_256_128, Res.bind_ok, ← apply_ite Res.ok]
  rfl

theorem integ_DecodeTransform_refines (t : Transform) :
    (Gen.integ.DecodeTransform integG t).map absInteg = .ok (Registry.decodeInteg t) := by
  rw [integ_DecodeTransform_eval]
  unfold Registry.decodeInteg
  simp only [Facts.integTable, findId_cons, findId_nil, map_ok']
  have hr := @ite_rel _ _ (fun x (o : Option (UInt16 × Nat × Nat × Nat)) =>
    absInteg x = match o with | some r => some (⟨r.1, r.2.1, r.2.2.1, r.2.2.2⟩ : IntegInfo) | none => none)
  exact congrArg Res.ok (hr _ rfl (hr _ rfl (hr _ rfl rfl)))

theorem integ_DecodeTransformChildSA_eval (t : Transform) :
    Gen.integ.DecodeTransformChildSA integG t = .ok
      (if t.tid = 1 then Gen.integ.INTEGKType.AuthHmacMd5_95 ⟨16, 12⟩ else if t.tid = 2 then Gen.integ.INTEGKType.AuthHmacSha1_96 ⟨20, 12⟩
       else if t.tid = 12 then Gen.integ.INTEGKType.AuthHmacSha2_256_128 ⟨32, 16⟩ else Gen.integ.INTEGKType.nil_) := by
  show decodeVia integG.integString integG.integKTypes t = _
  rw [integG_integString, integG_integKTypes]
  simp only [decodeVia_cons, decodeVia_nil, Gen.integ.toString_AUTH_HMAC_MD5_96, Gen.integ.toString_AUTH_HMAC_SHA1_96,
    Gen.integ.toString_AUTH_HMAC_SHA2_256_128, Res.bind_ok, ← apply_ite Res.ok]
  rfl

theorem integ_DecodeTransformChildSA_refines (t : Transform) :
    (Gen.integ.DecodeTransformChildSA integG t).map absIntegK = .ok (Registry.decodeIntegChild t) := by
  rw [integ_DecodeTransformChildSA_eval]
  unfold Registry.decodeIntegChild
  simp only [Facts.integChildTable, findId_cons, findId_nil, map_ok']
  have hr := @ite_rel _ _ (fun x (o : Option (UInt16 × Nat × Nat × Nat)) =>
    absIntegK x = match o with | some r => some (⟨r.1, r.2.1⟩ : Registry.IntegKInfo) | none => none)
  exact congrArg Res.ok (hr _ rfl (hr _ rfl (hr _ rfl rfl)))

def nPRF_HMAC_MD5 : Bytes := [80, 82, 70, 95, 72, 77, 65, 67, 95, 77, 68, 53]
def nPRF_HMAC_SHA1 : Bytes := [80, 82, 70, 95, 72, 77, 65, 67, 95, 83, 72, 65, 49]
def nPRF_HMAC_SHA2_256 : Bytes := [80, 82, 70, 95, 72, 77, 65, 67, 95, 83, 72, 65, 50, 95, 50, 53, 54]

theorem prfG_prfString :
    prfG.prfString = some [(1, Gen.prf.toString_PRF_HMAC_MD5), (2, Gen.prf.toString_PRF_HMAC_SHA1),
      (5, Gen.prf.toString_PRF_HMAC_SHA2_256)] := rfl
theorem prfG_prfTypes :
    prfG.prfTypes = some [(nPRF_HMAC_MD5, .PrfHmacMd5 ⟨16, 16⟩), (nPRF_HMAC_SHA1, .PrfHmacSha1 ⟨20, 20⟩),
      (nPRF_HMAC_SHA2_256, .PrfHmacSha2_256 ⟨32, 32⟩)] := rfl

def absPrf : Gen.prf.PRFType → Option PrfInfo
  | .nil_ => none
  | .PrfHmacMd5 v => some ⟨1, v.keyLength.toNat, v.outputLength.toNat, 0⟩
  | .PrfHmacSha1 v => some ⟨2, v.keyLength.toNat, v.outputLength.toNat, 1⟩
  | .PrfHmacSha2_256 v => some ⟨5, v.keyLength.toNat, v.outputLength.toNat, 2⟩

theorem prf_DecodeTransform_eval (t : Transform) :
    Gen.prf.DecodeTransform prfG t = .ok
      (if t.tid = 1 then .PrfHmacMd5 ⟨16, 16⟩ else if t.tid = 2 then .PrfHmacSha1 ⟨20, 20⟩
       else if t.tid = 5 then .PrfHmacSha2_256 ⟨32, 32⟩ else .nil_) := by
  show decodeVia prfG.prfString prfG.prfTypes t = _
  rw [prfG_prfString, prfG_prfTypes]
  simp only [decodeVia_cons, decodeVia_nil, Gen.prf.toString_PRF_HMAC_MD5, Gen.prf.toString_PRF_HMAC_SHA1,
    Gen.prf.toString_PRF_HMAC_SHA2_256, Res.bind_ok, ← apply_ite Res.ok]
  rfl

theorem prf_DecodeTransform_refines (t : Transform) :
    (Gen.prf.DecodeTransform prfG t).map absPrf = .ok (Registry.decodePrf t) := by
  rw [prf_DecodeTransform_eval]
  unfold Registry.decodePrf
  simp only [Facts.prfTable, findId_cons, findId_nil, map_ok']
  have hr := @ite_rel _ _ (fun x (o : Option (UInt16 × Nat × Nat × Nat)) =>
    absPrf x = match o with | some r => some (⟨r.1, r.2.1, r.2.2.1, r.2.2.2⟩ : PrfInfo) | none => none)
  exact congrArg Res.ok (hr _ rfl (hr _ rfl (hr _ rfl rfl)))

def nESN_ENABLE : Bytes := [69, 83, 78, 95, 69, 78, 65, 66, 76, 69]
def nESN_DISABLE : Bytes := [69, 83, 78, 95, 68, 73, 83, 65, 66, 76, 69]

theorem esnG_esnString :
    esnG.esnString = some [(1, Gen.esn.toString_ESN_ENABLE), (0, Gen.esn.toString_ESN_DISABLE)] := rfl
theorem esnG_esnTypes :
    esnG.esnTypes = some [(nESN_ENABLE, ⟨true⟩), (nESN_DISABLE, ⟨false⟩)] := rfl

def absEsn (e : Gen.esn.ESN) : Registry.EsnInfo := ⟨e.needESN⟩

theorem esn_DecodeTransform_eval (t : Transform) :
    Gen.esn.DecodeTransform esnG t =
      (if t.tid = 1 then .ok ⟨true⟩ else if t.tid = 0 then .ok ⟨false⟩ else .err) := by
  unfold Gen.esn.DecodeTransform
  rw [esnG_esnString]
  by_cases h1 : t.tid = 1
  · rw [h1]; rfl
  by_cases h0 : t.tid = 0
  · rw [h0]; rfl
  simp only [mapGet_cons, h1, h0, if_false]
  rfl

/-- the model's `decodeEsn` returns a `Res` (Go returns an error, not nil), so no `.ok` on the right -/
theorem esn_DecodeTransform_refines (t : Transform) :
    (Gen.esn.DecodeTransform esnG t).map absEsn = Registry.decodeEsn t := by
  rw [esn_DecodeTransform_eval]
  unfold Registry.decodeEsn
  simp only [Facts.esnEnableId, Facts.esnDisableId, u16_beq]
  have hr := @ite_rel _ _ (fun (x : Res Gen.esn.ESN) (y : Res Registry.EsnInfo) => x.map absEsn = y)
  exact hr _ rfl (hr _ rfl rfl)

/-- `EncrAesCbc.getAttribute`: Go computes `keyLength * 8` in `int` and rejects `< 0` and `> 0xFFFF`;
the model has the key length in `Nat`, hence the hypothesis (see `aesCbc_getAttribute_negative`). -/
theorem aesCbc_getAttribute_refines (v : Gen.encr.EncrAesCbc) (hk : 0 ≤ v.keyLength) :
    Gen.encr.EncrAesCbc.getAttribute v =
      (Registry.aesCbcAttr v.keyLength.toNat).map (fun a => (a.1, a.2.1, a.2.2.1, a.2.2.2.getD [])) := by
  obtain ⟨n, hn⟩ := Int.eq_ofNat_of_zero_le hk
  unfold Gen.encr.EncrAesCbc.getAttribute Registry.aesCbcAttr Go.toU16
  simp only [hn, Int.toNat_natCast, Facts.attrTypeKeyLength]
  by_cases hb : n * 8 > 0xFFFF
  · rw [if_pos (by omega), if_pos hb]
    rfl
  · rw [if_neg (by omega), if_neg hb, show ((n : Int) * 8 % 65536).toNat = n * 8 by omega]
    rfl

/-- what happens without the hypothesis: a negative key length is an error in Go, while the model's
`Nat` descriptor `⟨12, 0⟩` encodes (key length attribute 0) -/
theorem aesCbc_getAttribute_negative (v : Gen.encr.EncrAesCbc) (hk : v.keyLength < 0) :
    Gen.encr.ToTransform (.EncrAesCbc v) = .err ∧
    Registry.encrToTransform ⟨12, v.keyLength.toNat⟩ = .ok ⟨1, 12, true, 1, 14, 0, []⟩ := by
  have h0 : v.keyLength.toNat = 0 := by omega
  constructor
  · unfold Gen.encr.ToTransform Gen.encr.ENCRType.TransformID Gen.encr.ENCRType.getAttribute
      Gen.encr.EncrAesCbc.TransformID Gen.encr.EncrAesCbc.getAttribute
    have h1 : (v.keyLength * 8 < 0 ∨ v.keyLength * 8 > 65535) := by omega
    simp [h1]
  · rw [h0]; rfl

theorem encr_ToTransform_refines (v : Gen.encr.EncrAesCbc) (hk : 0 ≤ v.keyLength) :
    Gen.encr.ToTransform (.EncrAesCbc v) = Registry.encrToTransform ⟨12, v.keyLength.toNat⟩ := by
  simp only [Gen.encr.ToTransform, Gen.encr.ENCRType.TransformID, Gen.encr.ENCRType.getAttribute,
    Gen.encr.EncrAesCbc.TransformID, Registry.encrToTransform, aesCbc_getAttribute_refines v hk]
  unfold Registry.aesCbcAttr
  by_cases hb : v.keyLength.toNat * 8 > 0xFFFF
  · simp [hb]
  · simp [hb, Registry.mkTransform, GenExt.Transform_zero, Facts.ttEncr, Facts.attrFormatTV]

/-- on an `EncrAesCbc` the two interfaces dispatch to the same methods: the same computation -/
theorem encr_ToTransformChildSA_refines (v : Gen.encr.EncrAesCbc) (hk : 0 ≤ v.keyLength) :
    Gen.encr.ToTransformChildSA (.EncrAesCbc v) = Registry.encrChildToTransform ⟨12, v.keyLength.toNat⟩ :=
  encr_ToTransform_refines v hk

/-- the nil interface: Go panics (method call on a nil interface value) -/
theorem encr_ToTransform_nil : Gen.encr.ToTransform .nil_ = .fault := rfl
theorem encr_ToTransformChildSA_nil : Gen.encr.ToTransformChildSA .nil_ = .fault := rfl

/-- the model's `integToTransform` is total (no `Res`) -/
theorem integ_ToTransform_refines (i : Gen.integ.INTEGType) (d : IntegInfo) (h : absInteg i = some d) :
    Gen.integ.ToTransform i = .ok (Registry.integToTransform d) := by
  cases i <;> simp [absInteg] at h <;> subst h <;> rfl

theorem integ_ToTransformChildSA_refines (i : Gen.integ.INTEGKType) (d : Registry.IntegKInfo) (h : absIntegK i = some d) :
    Gen.integ.ToTransformChildSA i = .ok (Registry.integChildToTransform d) := by
  cases i <;> simp [absIntegK] at h <;> subst h <;> rfl

theorem integ_ToTransform_nil : Gen.integ.ToTransform .nil_ = .fault := rfl
theorem integ_ToTransformChildSA_nil : Gen.integ.ToTransformChildSA .nil_ = .fault := rfl

theorem prf_ToTransform_refines (p : Gen.prf.PRFType) (d : PrfInfo) (h : absPrf p = some d) :
    Gen.prf.ToTransform p = .ok (Registry.prfToTransform d) := by
  cases p <;> simp [absPrf] at h <;> subst h <;> rfl

theorem prf_ToTransform_nil : Gen.prf.ToTransform .nil_ = .fault := rfl

theorem esn_ToTransform_refines (e : Gen.esn.ESN) :
    Gen.esn.ToTransform e = .ok (Registry.esnToTransform (absEsn e)) := by
  cases e with
  | mk b => cases b <;> rfl

/-! ### what `init` registered, by name

For every registry the same family: `names_are_strings`, `*Names_nodup` (the name lists are the Go string
literals, without repetition); `*_advertised` (the map holds, under these names and in this order, the
model's advertised table) with its second column `*_types_are_table`; `*_lookup` (`StrToType` is the lookup
in that map) and what follows from the two: `*_rows`, `*_unknown`, `*_known`, `*_inj`.  They state what the
registries contain; `C11_gen_registered` (Theorems/C11Gen.lean) cites `*_types_are_table`. -/

def encrNames : List Bytes := [nENCR_AES_CBC_128, nENCR_AES_CBC_192, nENCR_AES_CBC_256]
def integNames : List Bytes := [nAUTH_HMAC_MD5_96, nAUTH_HMAC_SHA1_96, nAUTH_HMAC_SHA2_256_128]
def prfNames : List Bytes := [nPRF_HMAC_MD5, nPRF_HMAC_SHA1, nPRF_HMAC_SHA2_256]
def esnNames : List Bytes := [nESN_ENABLE, nESN_DISABLE]

theorem names_are_strings :
    encrNames = ["ENCR_AES_CBC_128", "ENCR_AES_CBC_192", "ENCR_AES_CBC_256"].map (fun s => s.toList.map (fun c => c.toNat.toUInt8)) ∧
    integNames = ["AUTH_HMAC_MD5_96", "AUTH_HMAC_SHA1_96", "AUTH_HMAC_SHA2_256_128"].map (fun s => s.toList.map (fun c => c.toNat.toUInt8)) ∧
    prfNames = ["PRF_HMAC_MD5", "PRF_HMAC_SHA1", "PRF_HMAC_SHA2_256"].map (fun s => s.toList.map (fun c => c.toNat.toUInt8)) ∧
    esnNames = ["ESN_ENABLE", "ESN_DISABLE"].map (fun s => s.toList.map (fun c => c.toNat.toUInt8)) := by
  decide +kernel

theorem encrNames_nodup : encrNames.Nodup := by decide +kernel
theorem integNames_nodup : integNames.Nodup := by decide +kernel
theorem prfNames_nodup : prfNames.Nodup := by decide +kernel
theorem esnNames_nodup : esnNames.Nodup := by decide +kernel

/-- the registry as (name, abstract descriptor) pairs is the advertised table zipped with the names,
in table order -/
theorem encr_StrToType_advertised :
    (Go.mapEntries encrG.encrTypes).map (fun p => (p.1, absEncr p.2)) =
      encrNames.zip (Registry.advertisedEncr.map some) := by
  rw [encrG_encrTypes]
  decide +kernel
theorem encr_StrToKType_advertised :
    (Go.mapEntries encrG.encrKTypes).map (fun p => (p.1, absEncrK p.2)) =
      encrNames.zip (Registry.advertisedEncrChild.map some) := by
  rw [encrG_encrKTypes]
  decide +kernel
theorem integ_StrToType_advertised :
    (Go.mapEntries integG.integTypes).map (fun p => (p.1, absInteg p.2)) =
      integNames.zip (Registry.advertisedInteg.map some) := by
  rw [integG_integTypes]
  decide +kernel
theorem integ_StrToKType_advertised :
    (Go.mapEntries integG.integKTypes).map (fun p => (p.1, absIntegK p.2)) =
      integNames.zip (Registry.advertisedIntegChild.map some) := by
  rw [integG_integKTypes]
  decide +kernel
theorem prf_StrToType_advertised :
    (Go.mapEntries prfG.prfTypes).map (fun p => (p.1, absPrf p.2)) =
      prfNames.zip (Registry.advertisedPrf.map some) := by
  rw [prfG_prfTypes]
  decide +kernel
theorem esn_StrToType_advertised :
    (Go.mapEntries esnG.esnTypes).map (fun p => (p.1, absEsn p.2)) =
      esnNames.zip Registry.advertisedEsn := by
  rw [esnG_esnTypes]
  decide +kernel

theorem encr_types_are_table :
    (Go.mapEntries encrG.encrTypes).map (fun p => absEncr p.2) = Registry.advertisedEncr.map some :=
  map_snd_of_map_eq_zip encr_StrToType_advertised (by decide)
theorem encr_ktypes_are_table :
    (Go.mapEntries encrG.encrKTypes).map (fun p => absEncrK p.2) = Registry.advertisedEncrChild.map some :=
  map_snd_of_map_eq_zip encr_StrToKType_advertised (by decide)
theorem integ_types_are_table :
    (Go.mapEntries integG.integTypes).map (fun p => absInteg p.2) = Registry.advertisedInteg.map some :=
  map_snd_of_map_eq_zip integ_StrToType_advertised (by decide)
theorem integ_ktypes_are_table :
    (Go.mapEntries integG.integKTypes).map (fun p => absIntegK p.2) = Registry.advertisedIntegChild.map some :=
  map_snd_of_map_eq_zip integ_StrToKType_advertised (by decide)
theorem prf_types_are_table :
    (Go.mapEntries prfG.prfTypes).map (fun p => absPrf p.2) = Registry.advertisedPrf.map some :=
  map_snd_of_map_eq_zip prf_StrToType_advertised (by decide)
theorem esn_types_are_table :
    (Go.mapEntries esnG.esnTypes).map (fun p => absEsn p.2) = Registry.advertisedEsn :=
  map_snd_of_map_eq_zip esn_StrToType_advertised (by decide)

/-- `StrToType` is the lookup in the registry (nil interface for an unknown name) -/
theorem encr_StrToType_lookup (name : Bytes) :
    Gen.encr.StrToType encrG name = .ok (((Go.mapEntries encrG.encrTypes).lookup name).getD .nil_) :=
  getOrNil encrG.encrTypes name
theorem encr_StrToKType_lookup (name : Bytes) :
    Gen.encr.StrToKType encrG name = .ok (((Go.mapEntries encrG.encrKTypes).lookup name).getD .nil_) :=
  getOrNil encrG.encrKTypes name
theorem integ_StrToType_lookup (name : Bytes) :
    Gen.integ.StrToType integG name = .ok (((Go.mapEntries integG.integTypes).lookup name).getD .nil_) :=
  getOrNil integG.integTypes name
theorem integ_StrToKType_lookup (name : Bytes) :
    Gen.integ.StrToKType integG name = .ok (((Go.mapEntries integG.integKTypes).lookup name).getD .nil_) :=
  getOrNil integG.integKTypes name
theorem prf_StrToType_lookup (name : Bytes) :
    Gen.prf.StrToType prfG name = .ok (((Go.mapEntries prfG.prfTypes).lookup name).getD .nil_) :=
  getOrNil prfG.prfTypes name

/-- `esn.StrToType` returns an error, not a nil value, for an unknown name -/
theorem esn_StrToType_lookup (name : Bytes) :
    Gen.esn.StrToType esnG name =
      (match (Go.mapEntries esnG.esnTypes).lookup name with | some e => .ok e | none => .err) := by
  unfold Gen.esn.StrToType Go.mapGet
  simp only [esnG_esnTypes, mapGetList_eq_lookup, Go.mapEntries]
  cases List.lookup name _ <;> simp

/-- every row of the advertised table is reached by its name, in table order -/
theorem encr_StrToType_rows :
    encrNames.map (fun n => (Gen.encr.StrToType encrG n).map absEncr) =
      Registry.advertisedEncr.map (fun d => .ok (some d)) := by decide +kernel

/-- a name outside the list gives the nil interface -/
theorem encr_StrToType_unknown (name : Bytes) (h : name ∉ encrNames) :
    Gen.encr.StrToType encrG name = .ok .nil_ := by
  rw [encr_StrToType_lookup, encrG_encrTypes, lookup_of_not_mem_keys]
  · rfl
  · exact h

/-- a known name gives an advertised descriptor -/
theorem encr_StrToType_known (name : Bytes) (h : name ∈ encrNames) :
    ∃ d ∈ Registry.advertisedEncr, (Gen.encr.StrToType encrG name).map absEncr = .ok (some d) := 
  exists_of_map_eq_map encr_StrToType_rows h

/-- different names give different descriptors: each row is reached by exactly one name -/
theorem encr_StrToType_inj (n1 n2 : Bytes) (h1 : n1 ∈ encrNames) (h2 : n2 ∈ encrNames)
    (h : (Gen.encr.StrToType encrG n1).map absEncr = (Gen.encr.StrToType encrG n2).map absEncr) : n1 = n2 := 
  inj_of_nodup_map (by rw [encr_StrToType_rows]; decide +kernel) h1 h2 h

theorem encr_StrToKType_rows :
    encrNames.map (fun n => (Gen.encr.StrToKType encrG n).map absEncrK) =
      Registry.advertisedEncrChild.map (fun d => .ok (some d)) := by decide +kernel

theorem encr_StrToKType_unknown (name : Bytes) (h : name ∉ encrNames) :
    Gen.encr.StrToKType encrG name = .ok .nil_ := by
  rw [encr_StrToKType_lookup, encrG_encrKTypes, lookup_of_not_mem_keys]
  · rfl
  · exact h

theorem encr_StrToKType_known (name : Bytes) (h : name ∈ encrNames) :
    ∃ d ∈ Registry.advertisedEncrChild, (Gen.encr.StrToKType encrG name).map absEncrK = .ok (some d) := 
  exists_of_map_eq_map encr_StrToKType_rows h

theorem encr_StrToKType_inj (n1 n2 : Bytes) (h1 : n1 ∈ encrNames) (h2 : n2 ∈ encrNames)
    (h : (Gen.encr.StrToKType encrG n1).map absEncrK = (Gen.encr.StrToKType encrG n2).map absEncrK) : n1 = n2 := 
  inj_of_nodup_map (by rw [encr_StrToKType_rows]; decide +kernel) h1 h2 h

theorem integ_StrToType_rows :
    integNames.map (fun n => (Gen.integ.StrToType integG n).map absInteg) =
      Registry.advertisedInteg.map (fun d => .ok (some d)) := by decide +kernel

theorem integ_StrToType_unknown (name : Bytes) (h : name ∉ integNames) :
    Gen.integ.StrToType integG name = .ok .nil_ := by
  rw [integ_StrToType_lookup, integG_integTypes, lookup_of_not_mem_keys]
  · rfl
  · exact h

theorem integ_StrToType_known (name : Bytes) (h : name ∈ integNames) :
    ∃ d ∈ Registry.advertisedInteg, (Gen.integ.StrToType integG name).map absInteg = .ok (some d) := 
  exists_of_map_eq_map integ_StrToType_rows h

theorem integ_StrToType_inj (n1 n2 : Bytes) (h1 : n1 ∈ integNames) (h2 : n2 ∈ integNames)
    (h : (Gen.integ.StrToType integG n1).map absInteg = (Gen.integ.StrToType integG n2).map absInteg) : n1 = n2 := 
  inj_of_nodup_map (by rw [integ_StrToType_rows]; decide +kernel) h1 h2 h

theorem integ_StrToKType_rows :
    integNames.map (fun n => (Gen.integ.StrToKType integG n).map absIntegK) =
      Registry.advertisedIntegChild.map (fun d => .ok (some d)) := by decide +kernel

theorem integ_StrToKType_unknown (name : Bytes) (h : name ∉ integNames) :
    Gen.integ.StrToKType integG name = .ok .nil_ := by
  rw [integ_StrToKType_lookup, integG_integKTypes, lookup_of_not_mem_keys]
  · rfl
  · exact h

theorem integ_StrToKType_known (name : Bytes) (h : name ∈ integNames) :
    ∃ d ∈ Registry.advertisedIntegChild, (Gen.integ.StrToKType integG name).map absIntegK = .ok (some d) := 
  exists_of_map_eq_map integ_StrToKType_rows h

theorem integ_StrToKType_inj (n1 n2 : Bytes) (h1 : n1 ∈ integNames) (h2 : n2 ∈ integNames)
    (h : (Gen.integ.StrToKType integG n1).map absIntegK = (Gen.integ.StrToKType integG n2).map absIntegK) : n1 = n2 := 
  inj_of_nodup_map (by rw [integ_StrToKType_rows]; decide +kernel) h1 h2 h

theorem prf_StrToType_rows :
    prfNames.map (fun n => (Gen.prf.StrToType prfG n).map absPrf) =
      Registry.advertisedPrf.map (fun d => .ok (some d)) := by decide +kernel

theorem prf_StrToType_unknown (name : Bytes) (h : name ∉ prfNames) :
    Gen.prf.StrToType prfG name = .ok .nil_ := by
  rw [prf_StrToType_lookup, prfG_prfTypes, lookup_of_not_mem_keys]
  · rfl
  · exact h

theorem prf_StrToType_known (name : Bytes) (h : name ∈ prfNames) :
    ∃ d ∈ Registry.advertisedPrf, (Gen.prf.StrToType prfG name).map absPrf = .ok (some d) := 
  exists_of_map_eq_map prf_StrToType_rows h

theorem prf_StrToType_inj (n1 n2 : Bytes) (h1 : n1 ∈ prfNames) (h2 : n2 ∈ prfNames)
    (h : (Gen.prf.StrToType prfG n1).map absPrf = (Gen.prf.StrToType prfG n2).map absPrf) : n1 = n2 := 
  inj_of_nodup_map (by rw [prf_StrToType_rows]; decide +kernel) h1 h2 h

theorem esn_StrToType_rows :
    esnNames.map (fun n => (Gen.esn.StrToType esnG n).map absEsn) = Registry.advertisedEsn.map .ok := by decide +kernel

/-- `esn.StrToType` of a name outside the list is an error -/
theorem esn_StrToType_unknown (name : Bytes) (h : name ∉ esnNames) : Gen.esn.StrToType esnG name = .err := by
  simp only [esnNames, List.mem_cons, List.not_mem_nil, or_false, not_or] at h
  obtain ⟨h1, h2⟩ := h
  have h1' : ¬ nESN_ENABLE = name := fun e => h1 e.symm
  have h2' : ¬ nESN_DISABLE = name := fun e => h2 e.symm
  unfold Gen.esn.StrToType Go.mapGet
  simp [esnG_esnTypes, Go.mapGetList, h1', h2']

theorem esn_StrToType_inj (n1 n2 : Bytes) (h1 : n1 ∈ esnNames) (h2 : n2 ∈ esnNames)
    (h : (Gen.esn.StrToType esnG n1).map absEsn = (Gen.esn.StrToType esnG n2).map absEsn) : n1 = n2 := 
  inj_of_nodup_map (by rw [esn_StrToType_rows]; decide +kernel) h1 h2 h

theorem encr_DecodeTransform_keyLength_nonneg (t : Transform) (v : Gen.encr.EncrAesCbc)
    (h : Gen.encr.DecodeTransform encrG t = .ok (.EncrAesCbc v)) : 0 ≤ v.keyLength := by
  rw [encr_DecodeTransform_eval, Res.ok.injEq] at h
  have hi {c : Prop} [Decidable c] {a b : Gen.encr.ENCRType} (ha : a = .EncrAesCbc v → 0 ≤ v.keyLength)
      (hb : b = .EncrAesCbc v → 0 ≤ v.keyLength) : (if c then a else b) = .EncrAesCbc v → 0 ≤ v.keyLength :=
    ite_cases (motive := fun x : Gen.encr.ENCRType => x = .EncrAesCbc v → 0 ≤ v.keyLength) (fun _ => ha) (fun _ => hb)
  refine hi (hi (hi ?_ (hi ?_ (hi ?_ ?_))) ?_) ?_ h <;> intro e <;> cases e <;> decide

theorem encr_DecodeTransformChildSA_keyLength_nonneg (t : Transform) (v : Gen.encr.EncrAesCbc)
    (h : Gen.encr.DecodeTransformChildSA encrG t = .ok (.EncrAesCbc v)) : 0 ≤ v.keyLength := by
  rw [encr_DecodeTransformChildSA_eval, Res.ok.injEq] at h
  have hi {c : Prop} [Decidable c] {a b : Gen.encr.ENCRKType} (ha : a = .EncrAesCbc v → 0 ≤ v.keyLength)
      (hb : b = .EncrAesCbc v → 0 ≤ v.keyLength) : (if c then a else b) = .EncrAesCbc v → 0 ≤ v.keyLength :=
    ite_cases (motive := fun x : Gen.encr.ENCRKType => x = .EncrAesCbc v → 0 ≤ v.keyLength) (fun _ => ha) (fun _ => hb)
  refine hi (hi (hi ?_ (hi ?_ (hi ?_ ?_))) ?_) ?_ h <;> intro e <;> cases e <;> decide

/-- decode, then encode again: the generated pair agrees with the model pair, no side condition -/
theorem encr_ToTransform_of_decoded (t : Transform) (x : Gen.encr.ENCRType) (d : EncrInfo)
    (h : Gen.encr.DecodeTransform encrG t = .ok x) (hd : absEncr x = some d) :
    Gen.encr.ToTransform x = Registry.encrToTransform d := by
  cases x with
  | nil_ => simp [absEncr] at hd
  | EncrAesCbc v =>
    simp only [absEncr, Option.some.injEq] at hd
    subst hd
    exact encr_ToTransform_refines v (encr_DecodeTransform_keyLength_nonneg t v h)

theorem encr_ToTransformChildSA_of_decoded (t : Transform) (x : Gen.encr.ENCRKType) (d : Registry.EncrKInfo)
    (h : Gen.encr.DecodeTransformChildSA encrG t = .ok x) (hd : absEncrK x = some d) :
    Gen.encr.ToTransformChildSA x = Registry.encrChildToTransform d := by
  cases x with
  | nil_ => simp [absEncrK] at hd
  | EncrAesCbc v =>
    simp only [absEncrK, Option.some.injEq] at hd
    subst hd
    exact encr_ToTransformChildSA_refines v (encr_DecodeTransformChildSA_keyLength_nonneg t v h)

/-- the hash number of the abstraction is the one `Init` passes to `hmac.New` -/
theorem prf_Init_hash (p : Gen.prf.PRFType) (d : PrfInfo) (h : absPrf p = some d) (key : Bytes) :
    Gen.prf.PRFType.Init p key = .ok (Go.Mac.new d.hash key) := by
  cases p <;> simp [absPrf] at h <;> subst h <;> rfl

/-- `integ`: `Init` checks the key length against the constant of the algorithm (a wrong length gives
the nil `hash.Hash`, here `Go.Mac.nil`) -/
theorem integ_Init_hash (i : Gen.integ.INTEGType) (d : IntegInfo) (h : absInteg i = some d)
    (hd : d ∈ Registry.advertisedInteg) (key : Bytes) (hk : key.length = d.keyLen) :
    Gen.integ.INTEGType.Init i key = .ok (Go.Mac.new d.hash key) := by
  simp only [Registry.advertisedInteg, Facts.integTable, List.map_cons, List.map_nil, List.mem_cons,
    List.not_mem_nil, or_false] at hd
  cases i <;> simp [absInteg] at h <;> subst h <;> rcases hd with hd | hd | hd <;>
    simp only [IntegInfo.mk.injEq] at hd <;>
    first
      | exact absurd hd.1 (by decide)
      | (simp only [hd.2.1] at hk
         simp [Gen.integ.INTEGType.Init, Gen.integ.AuthHmacMd5_95.Init, Gen.integ.AuthHmacSha1_96.Init,
           Gen.integ.AuthHmacSha2_256_128.Init, hk])

end Ike.RefineReg

