import IkeProofs.Refine.Basic

/-! What the registries of `security/{encr,integ,prf,esn,dh}` do with their Go maps, stated once for all
of them: the comma-ok lookup, and the two-stage `DecodeTransform` (transform id ↦ stringifier, name ↦
descriptor).  The generated packages are distinct types; each of their functions unfolds to an instance of
the terms below.  Three list facts (`lookup_of_not_mem_keys`, `exists_of_map_eq_map`, `inj_of_nodup_map`) and
`map_snd_of_map_eq_zip` turn the tables of `Registries.lean` into its per-name statements. -/

namespace Ike.RefineReg
open Ike Ike.Refine

/-- Go's `v, ok := m[k]` on the association list is `List.lookup` -/
theorem mapGetList_eq_lookup {κ ν : Type} [BEq κ] [LawfulBEq κ] [DecidableEq κ] (l : List (κ × ν)) (k : κ) :
    Go.mapGetList l k = l.lookup k := by
  induction l with
  | nil => rfl
  | cons p rest ih =>
    obtain ⟨k', v'⟩ := p
    unfold Go.mapGetList
    by_cases h : k' = k
    · subst h; simp [List.lookup]
    · have h' : (k == k') = false := by
        simp only [beq_eq_false_iff_ne, ne_eq]; exact fun e => h e.symm
      simp [h, List.lookup, h', ih]

/-- `t, ok := m[k]; if ok { return t }; return nil`: the entry, or the zero value (the nil interface).
Every `StrToType` / `StrToKType` unfolds to the left-hand side (the `*_lookup` statements are this lemma). -/
theorem getOrNil {ν : Type} [Inhabited ν] (m : Go.Map Bytes ν) (k : Bytes) :
    (if (Go.mapGet m k).2 = true then Res.ok (Go.mapGet m k).1 else Res.ok default) =
      Res.ok (((Go.mapEntries m).lookup k).getD default) := by
  cases m with
  | none => rfl
  | some l =>
    simp only [Go.mapGet, Go.mapEntries, mapGetList_eq_lookup]
    cases l.lookup k <;> rfl

theorem mapGet_cons {κ ν : Type} [DecidableEq κ] [Inhabited ν] (k0 : κ) (v0 : ν) (l : List (κ × ν)) (k : κ) :
    Go.mapGet (some ((k0, v0) :: l)) k = if k = k0 then (v0, true) else Go.mapGet (some l) k := by
  unfold Go.mapGet
  by_cases h : k = k0
  · simp only [Go.mapGetList, h, if_true]
  · simp only [Go.mapGetList, h, if_neg (fun e : k0 = k => h e.symm), if_false]

theorem lookup_of_not_mem_keys {ν : Type} {l : List (Bytes × ν)} {k : Bytes}
    (h : k ∉ l.map (·.1)) : l.lookup k = none :=
  List.lookup_eq_none_iff.mpr fun p hp =>
    bne_iff_ne.mpr fun e => h (List.mem_map.mpr ⟨p, hp, e.symm⟩)

theorem map_snd_of_map_eq_zip {α β γ : Type} {l : List α} {f : α → β} {g : α → γ} {ks : List β} {vs : List γ}
    (h : l.map (fun p => (f p, g p)) = ks.zip vs) (hl : vs.length ≤ ks.length) : l.map g = vs := by
  have h' := congrArg (List.map Prod.snd) h
  rwa [List.map_map, List.map_snd_zip hl] at h'

theorem exists_of_map_eq_map {α β γ : Type} {f : α → γ} {g : β → γ} {l : List α} {l' : List β}
    (h : l.map f = l'.map g) {a : α} (ha : a ∈ l) : ∃ b ∈ l', f a = g b := by
  have hm := List.mem_map_of_mem (f := f) ha
  rw [h] at hm
  obtain ⟨b, hb, e⟩ := List.mem_map.mp hm
  exact ⟨b, hb, e.symm⟩

theorem inj_of_nodup_map {α β : Type} {f : α → β} {l : List α} (h : (l.map f).Nodup) {x y : α}
    (hx : x ∈ l) (hy : y ∈ l) (e : f x = f y) : x = y := by
  induction l with
  | nil => cases hx
  | cons a l ih =>
    rw [List.map_cons, List.nodup_cons] at h
    rcases List.mem_cons.mp hx with rfl | hx' <;> rcases List.mem_cons.mp hy with rfl | hy'
    · rfl
    · exact (h.1 (e ▸ List.mem_map_of_mem hy')).elim
    · exact (h.1 (e ▸ List.mem_map_of_mem hx')).elim
    · exact ih h.2 hx' hy'

/-- the body shared by the `DecodeTransform` functions: `strs[t.tid]` names the algorithm (the empty
name: none), `types[name]` is its descriptor; whatever is missing gives the nil interface.  Each generated
`DecodeTransform G t` is `decodeVia G.xString G.xTypes t` by unfolding (`show decodeVia … = _` in the `_eval` proofs). -/
def decodeVia {ν : Type} [Inhabited ν] (strs : Go.Map UInt16 (UInt16 → UInt16 → Bytes → Res Bytes))
    (types : Go.Map Bytes ν) (t : Transform) : Res ν :=
  if (Go.mapGet strs t.tid).2 = true then
    (Go.mapGet strs t.tid).1 t.atype t.aval t.vval >>= fun s =>
      if s ≠ [] then
        if (Go.mapGet types s).2 = true then .ok (Go.mapGet types s).1 else .ok default
      else .ok default
  else .ok default

theorem decodeVia_nil {ν : Type} [Inhabited ν] (types : Go.Map Bytes ν) (t : Transform) :
    decodeVia (some []) types t = .ok default := rfl

/-- one entry of the stringifier table: taken iff its id is the transform's -/
theorem decodeVia_cons {ν : Type} [Inhabited ν] (i : UInt16) (f : UInt16 → UInt16 → Bytes → Res Bytes)
    (strs : List (UInt16 × (UInt16 → UInt16 → Bytes → Res Bytes))) (types : Go.Map Bytes ν) (t : Transform) :
    decodeVia (some ((i, f) :: strs)) types t =
      if t.tid = i then
        f t.atype t.aval t.vval >>= fun s =>
          if s = [] then .ok default else .ok (((Go.mapEntries types).lookup s).getD default)
      else decodeVia (some strs) types t := by
  unfold decodeVia
  rw [mapGet_cons]
  by_cases h : t.tid = i
  · simp only [h, if_true, getOrNil, ne_eq, ite_not]
  · simp only [h, if_false]

end Ike.RefineReg
