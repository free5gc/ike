import IkeProofs.Refine.Basic
import IkeModel.Security.Sa
import IkeModel.Generated.Gen_lib
import IkeModel.Generated.Gen_encr
import IkeProofs.Lemmas.Cbc

/-! `lib.PKCS7Padding`, `EncrAesCbc.NewCrypto`, `EncrAesCbcCrypto.Encrypt` / `Decrypt` as generated ⊑ the
hand-written `pkcs7Pad`, `newCrypto`, `cbcEncrypt`, `cbcDecrypt` of `IkeModel/Security/Sa.lean`.

`PKCS7Padding` and `NewCrypto` refine for every input without any law.  `Encrypt` / `Decrypt` need the block
function to keep the block size under the object's key (`Prims.Lawful.enc_len` / `dec_len`): Go's
`CryptBlocks` writes exactly `len(src)` octets into a zeroed buffer, the model concatenates what `cbcEnc` /
`cbcDec` return; `Encrypt_refines_false` / `Decrypt_refines_false` exhibit the difference for a `Prims` whose
block functions return nothing.  `Encrypt_eq` is the law-free closed form of the generated `Encrypt`. -/


namespace Ike.RefineReg
open Ike Ike.Refine

/-- `uint8(int(x) % 256)` of an octet is the octet -/
theorem toU8_tmod256 (x : UInt8) :
    Go.toU8 (Int.tmod (x.toNat : Int) (((255 : Nat) : Int) + (1 : Int))) = x := by
  rw [show (((255 : Nat) : Int) + (1 : Int)) = ((256 : Nat) : Int) from rfl, ← Int.ofNat_tmod, Go.toU8_natCast,
    Nat.mod_eq_of_lt (UInt8.toNat_lt x)]
  exact UInt8.ofNat_toNat

private theorem set_byteAt_self (bs : Bytes) (i : Nat) (h : i < bs.length) : bs.set i (byteAt bs i) = bs := by
  unfold byteAt
  rw [List.getD_eq_getElem?_getD, List.getElem?_eq_getElem h, Option.getD_some, List.set_getElem_self]

/-- the rewriting loop of `PKCS7Padding` is the identity on the drawn octets -/
theorem pad_loop (r : Rand) (bs : Bytes) :
    ∀ (fuel i : Nat), i + 1 ≤ bs.length → bs.length - i ≤ fuel →
      Gen.lib.PKCS7Padding.loop1 fuel (bs.length : Int) 255 r bs i = .ok (r, bs, bs.length - 1) := by
  intro fuel
  induction fuel with
  | zero => intro i _ h; omega
  | succ f ih =>
    intro i hi hf
    unfold Gen.lib.PKCS7Padding.loop1
    have hlt : ((i : Int) < (bs.length : Int) - 1) = (i + 1 < bs.length) := propext (by omega)
    by_cases hc : i + 1 < bs.length
    · have hi' : i < bs.length := Nat.lt_of_succ_lt hc
      simp only [hlt, hc, if_true, goIndex_ok hi', Res.bind_ok, Go.imod,
        show ¬ (((255 : Nat) : Int) + 1 = 0) by decide, if_false, toU8_tmod256, Go.setN, hi', set_byteAt_self _ _ hi']
      exact ih (i + 1) hc (by omega)
    · simp only [hlt, hc, if_false]
      rw [show i = bs.length - 1 from Nat.le_antisymm (Nat.le_sub_one_of_lt hi) (Nat.sub_le_of_le_add (Nat.le_of_not_lt hc))]

theorem PKCS7Padding_refines (r : Rand) (plain : Bytes) :
    (Gen.lib.PKCS7Padding r plain 16) = (match pkcs7Pad r plain with | (r', .ok b) => .ok (r', b) | (_, .err) => .err | (_, .fault) => .fault) := by
  unfold Gen.lib.PKCS7Padding pkcs7Pad
  have hp : (16 : Int) - Int.tmod (plain.length : Int) 16 = ((16 - plain.length % 16 : Nat) : Int) := by
    rw [show (16 : Int) = ((16 : Nat) : Int) from rfl, ← Int.ofNat_tmod, Int.natCast_sub (Nat.le_of_lt (Nat.mod_lt _ (by decide)))]
  simp only [Go.imod, show ¬ ((16 : Int) = 0) by decide, if_false, Res.bind_ok, hp]
  generalize hn : 16 - plain.length % 16 = n
  have hn1 : 1 ≤ n := hn ▸ Nat.sub_pos_of_lt (Nat.mod_lt _ (by decide))
  simp only [Int.natCast_ne_zero.mpr (Nat.ne_of_gt hn1), if_false, Go.make, Int.natCast_nonneg n, if_true,
    Res.bind_ok, Go.randFill, List.length_replicate, Int.toNat_natCast, Rand.draw]
  by_cases hf : r.failAt = some r.reads
  · simp only [hf, if_true]
    rfl
  · simp only [hf, if_false]
    have hl : (cyc r.buf r.pos n).length = n := cyc_length _ _ _
    generalize cyc r.buf r.pos n = bs at hl
    subst hl
    simp only [ne_eq, not_true_eq_false, decide_false, Bool.false_eq_true, if_false, Int.natCast_zero, Int.sub_zero,
      pad_loop _ bs (((bs.length : Int) - 1).toNat + 2) 0 hn1 (by omega), Res.bind_ok]
    rw [show ((bs.length : Int) - 1) = (bs.length : Int) - ((1 : Nat) : Int) from rfl, Go.set_len_sub bs 1 _ Nat.one_pos hn1,
      ← Int.natCast_sub hn1, Go.toU8_natCast, List.set_eq_take_append_cons_drop, if_pos (Nat.sub_lt hn1 Nat.one_pos),
      Nat.sub_add_cancel hn1, List.drop_length]
    simp only [Res.bind_ok, List.append_assoc]

/-- the object `NewCrypto` returns has the test-only fields nil (for every descriptor and key) -/
theorem NewCrypto_fields (d : Gen.encr.EncrAesCbc) (key : Bytes) (c : Gen.encr.EncrAesCbcCrypto)
    (h : Gen.encr.EncrAesCbc.NewCrypto d key = .ok c) : c.Iv = [] ∧ c.Padding = [] := by
  unfold Gen.encr.EncrAesCbc.NewCrypto at h
  dsimp only at h
  split at h
  · cases h
  · split at h
    · cases h
    · cases h; exact ⟨rfl, rfl⟩

theorem NewCrypto_eq (d : Gen.encr.EncrAesCbc) (hk : d.keyLength = 16 ∨ d.keyLength = 24 ∨ d.keyLength = 32) (key : Bytes) :
    Gen.encr.EncrAesCbc.NewCrypto d key =
      if key.length ≠ d.keyLength.toNat then .err else .ok { Block := key, Iv := [], Padding := [] } := by
  obtain ⟨n, hn, hn'⟩ : ∃ n : Nat, d.keyLength = n ∧ (n = 16 ∨ n = 24 ∨ n = 32) := by
    rcases hk with h | h | h <;> exact ⟨_, h, by decide⟩
  unfold Gen.encr.EncrAesCbc.NewCrypto
  simp only [hn, Int.toNat_natCast, ne_eq, Int.natCast_inj]
  by_cases h : key.length = n
  · subst h
    simp only [not_true_eq_false, if_false, Go.aesNewCipher, hn', if_true, decide_false, Bool.false_eq_true]
  · simp only [h, not_false_eq_true, if_true]

theorem NewCrypto_refines (d : Gen.encr.EncrAesCbc) (hk : d.keyLength = 16 ∨ d.keyLength = 24 ∨ d.keyLength = 32) (key : Bytes) :
    (Gen.encr.EncrAesCbc.NewCrypto d key).map (fun c => (⟨c.Block⟩ : CipherObj)) = newCrypto d.keyLength.toNat key := by
  rw [NewCrypto_eq d hk key]
  unfold newCrypto
  split <;> rfl

private theorem splice_zero_front (n : Nat) (iv : Bytes) (hiv : iv.length = 16) :
    Go.splice (zeros (16 + n)) 0 iv = iv ++ zeros n := by
  unfold Go.splice zeros
  simp only [List.take_zero, List.nil_append, Nat.zero_add, hiv, List.drop_replicate]
  congr 2
  omega

private theorem splice_tail (iv z ce : Bytes) (hiv : iv.length = 16) (hce : z.length ≤ ce.length) :
    Go.splice (iv ++ z) 16 ce = iv ++ ce := by
  unfold Go.splice
  rw [take_prefix_eq _ _ _ hiv.symm, List.drop_of_length_le (by simp only [List.length_append]; omega)]
  simp

/-- the model's `Rand.draw` fails with an error, never a fault (its length when it succeeds: `Rand.draw_ok_length`) -/
theorem draw_not_fault (r r' : Rand) (n : Nat) : r.draw n ≠ (r', .fault) := by
  unfold Rand.draw
  split <;> simp

/-- what the model's `pkcs7Pad` returns is a whole number of blocks -/
theorem pkcs7Pad_ok_length (r r' : Rand) (plain b : Bytes) (h : pkcs7Pad r plain = (r', .ok b)) :
    b.length % 16 = 0 := by
  unfold pkcs7Pad Rand.draw at h
  by_cases hf : r.failAt = some r.reads
  · simp only [if_pos hf] at h
    cases h
  · simp only [if_neg hf, Prod.mk.injEq, Res.ok.injEq] at h
    rw [← h.2]
    simp only [List.length_append, List.length_take, cyc_length, List.length_cons, List.length_nil]
    omega

/-- `Encrypt` in closed form, for EVERY `P` (no law): the padded plaintext, the IV drawn into the front of the
zeroed buffer, and the CBC output spliced in behind it. -/
theorem Encrypt_eq (P : Prims) (r : Rand) (c : Gen.encr.EncrAesCbcCrypto) (hi : c.Iv = []) (hp : c.Padding = [])
    (plain : Bytes) :
    Gen.encr.EncrAesCbcCrypto.Encrypt P r c plain =
      (match pkcs7Pad r plain with
       | (r1, .ok padded) =>
         (match r1.draw 16 with
          | (r2, .ok iv) =>
            .ok (r2, Go.splice (iv ++ zeros padded.length) 16 (cbcEnc (P.enc c.Block) iv padded))
          | (_, .err) => .err
          | (_, .fault) => .fault)
       | (_, .err) => .err
       | (_, .fault) => .fault) := by
  unfold Gen.encr.EncrAesCbcCrypto.Encrypt
  simp only [hi, hp, if_true]
  rw [PKCS7Padding_refines]
  have hlen := fun r' b => pkcs7Pad_ok_length r r' plain b
  generalize hpk : pkcs7Pad r plain = res at hlen
  obtain ⟨r1, rb⟩ := res
  cases rb with
  | err => rfl
  | fault => rfl
  | ok padded =>
    have hpl := hlen r1 padded rfl
    have h16 : 16 ≤ (zeros (16 + padded.length)).length := by rw [zeros_length]; exact Nat.le_add_right 16 _
    simp only [Res.bind_ok, goSlice_ok (Nat.zero_le 16) h16, Go.randFill, List.length_drop, List.length_take,
      zeros_length, Nat.min_eq_left (Nat.le_add_right 16 _), Nat.sub_zero]
    have hdl := fun r' bs => Rand.draw_ok_length (r := r1) (r' := r') (n := 16) (out := bs)
    have hdf := fun r' => draw_not_fault r1 r' 16
    generalize r1.draw 16 = res2 at hdl hdf
    obtain ⟨r2, rb2⟩ := res2
    cases rb2 with
    | err => simp
    | fault => exact absurd rfl (hdf r2)
    | ok iv =>
      have hl := hdl r2 iv rfl
      simp only [ne_eq, not_true_eq_false, decide_false, Bool.false_eq_true, if_false]
      rw [splice_zero_front _ _ hl]
      simp only [Go.newCbc, hl, if_true, Res.bind_ok, Go.cryptBlocks]
      rw [if_neg (by simp only [List.length_append, zeros_length]; omega)]
      simp only [Res.bind_ok]

/-- only `enc_len` of `Prims.Lawful` is needed -/
theorem Encrypt_refines_partial (P : Prims) (r : Rand) (c : Gen.encr.EncrAesCbcCrypto) (hi : c.Iv = []) (hp : c.Padding = [])
    (henc : ∀ b, b.length = 16 → (P.enc c.Block b).length = 16) (plain : Bytes) :
    Gen.encr.EncrAesCbcCrypto.Encrypt P r c plain =
      (match cbcEncrypt P ⟨c.Block⟩ r plain with | (r', .ok b) => .ok (r', b) | (_, .err) => .err | (_, .fault) => .fault) := by
  rw [Encrypt_eq P r c hi hp]
  unfold cbcEncrypt
  have hlen := fun r' b => pkcs7Pad_ok_length r r' plain b
  generalize pkcs7Pad r plain = res at hlen
  obtain ⟨r1, rb⟩ := res
  cases rb with
  | err => rfl
  | fault => rfl
  | ok padded =>
    have hpl := hlen r1 padded rfl
    dsimp only
    have hdl := fun r' bs => Rand.draw_ok_length (r := r1) (r' := r') (n := 16) (out := bs)
    generalize r1.draw 16 = res2 at hdl
    obtain ⟨r2, rb2⟩ := res2
    cases rb2 with
    | err => rfl
    | fault => rfl
    | ok iv =>
      have hl := hdl r2 iv rfl
      have hce := cbcEnc_length (P.enc c.Block) henc iv padded hl hpl
      dsimp only
      rw [splice_tail _ _ _ hl (by simp only [zeros_length]; omega)]

theorem Encrypt_refines (P : Prims) (hP : P.Lawful) (r : Rand) (c : Gen.encr.EncrAesCbcCrypto) (hi : c.Iv = []) (hp : c.Padding = []) (plain : Bytes) :
    Gen.encr.EncrAesCbcCrypto.Encrypt P r c plain =
      (match cbcEncrypt P ⟨c.Block⟩ r plain with | (r', .ok b) => .ok (r', b) | (_, .err) => .err | (_, .fault) => .fault) :=
  Encrypt_refines_partial P r c hi hp (hP.enc_len c.Block) plain

/-- only `dec_len` of `Prims.Lawful` is needed -/
theorem Decrypt_refines_partial (P : Prims) (c : Gen.encr.EncrAesCbcCrypto) (hi : c.Iv = [])
    (hdec : ∀ b, b.length = 16 → (P.dec c.Block b).length = 16) (ct : Bytes) :
    Gen.encr.EncrAesCbcCrypto.Decrypt P c ct = cbcDecrypt P ⟨c.Block⟩ ct := by
  unfold Gen.encr.EncrAesCbcCrypto.Decrypt cbcDecrypt
  by_cases h16 : ct.length < 16
  · simp only [h16, if_true]
  have h16' : 16 ≤ ct.length := Nat.le_of_not_lt h16
  simp only [h16, if_false, hi, if_true, goSlice_ok (Nat.zero_le 16) h16', goTo_ok h16', goFrom_ok h16',
    Res.bind_ok, List.drop_zero, Bool.or_eq_true, decide_eq_true_eq, ne_eq]
  generalize hiv : ct.take 16 = iv
  generalize hem : ct.drop 16 = em
  have hivl : iv.length = 16 := by rw [← hiv, List.length_take, Nat.min_eq_left h16']
  by_cases hb : em.length = 0 ∨ ¬ em.length % 16 = 0
  · simp only [hb, if_true]
  have hl := cbcDec_length (P.dec c.Block) hdec iv em hivl (Decidable.not_not.mp (not_or.mp hb).2)
  have hsp : Go.splice (zeros em.length) 0 (cbcDec (P.dec c.Block) iv em) = cbcDec (P.dec c.Block) iv em := by
    unfold Go.splice
    rw [List.drop_of_length_le (by rw [zeros_length, hl]; exact Nat.le_add_left _ _)]
    simp only [List.take_zero, List.nil_append, List.append_nil]
  simp only [if_false, Go.newCbc, hivl, if_true, Res.bind_ok, Go.cryptBlocks, zeros_length, Nat.sub_zero,
    Nat.lt_irrefl, or_false, (not_or.mp hb).1, (not_or.mp hb).2, Bool.false_eq_true, hsp]
  generalize cbcDec (P.dec c.Block) iv em = pt at hl
  have hpos : 0 < pt.length := by rw [hl]; exact Nat.pos_of_ne_zero (not_or.mp hb).1
  rw [show ((pt.length : Int) - 1) = (pt.length : Int) - ((1 : Nat) : Int) from rfl, Go.index_len_sub pt 1 Nat.one_pos hpos,
    goIndex_ok (Nat.sub_lt hpos Nat.one_pos)]
  simp only [Res.bind_ok]
  by_cases hp : (byteAt pt (pt.length - 1)).toNat + 1 > pt.length
  · simp only [hp, if_true]
  · simp only [hp, if_false, Go.sliceTo_len_sub pt _ (Nat.le_of_not_lt hp), goTo_ok (Nat.sub_le _ _), Res.bind_ok]

theorem Decrypt_refines (P : Prims) (hP : P.Lawful) (c : Gen.encr.EncrAesCbcCrypto) (hi : c.Iv = []) (ct : Bytes) :
    Gen.encr.EncrAesCbcCrypto.Decrypt P c ct = cbcDecrypt P ⟨c.Block⟩ ct :=
  Decrypt_refines_partial P c hi (hP.dec_len c.Block) ct

/-! ### why `enc_len` / `dec_len` are needed: the statements without them are false

For a `Prims` whose block functions do not return 16 octets the generated code and the model differ:
Go's `CryptBlocks(dst, src)` always writes `len(src)` octets into the zeroed buffer, whereas the model
concatenates whatever `cbcEnc` / `cbcDec` return.  (No Go input: the real AES always returns 16 octets;
the difference is only visible for an unlawful `P`.) -/

def degeneratePrims : Prims := ⟨fun _ _ _ => [], fun _ => 0, fun _ _ => [], fun _ _ => []⟩

theorem cbcEnc_nil (E : Bytes → Bytes) (hE : ∀ b, E b = []) (prev pt : Bytes) : cbcEnc E prev pt = [] := by
  fun_induction cbcEnc E prev pt with
  | case1 prev pt h => rfl
  | case2 prev pt h c ih => rw [ih]; simp only [c, hE, List.append_nil]

theorem cbcDec_nil (D : Bytes → Bytes) (hD : ∀ b, D b = []) (prev ct : Bytes) : cbcDec D prev ct = [] := by
  fun_induction cbcDec D prev ct with
  | case1 prev ct h => rfl
  | case2 prev ct h c ih => simp only [hD, ih, xorBytes, List.append_nil]

/-- `Encrypt` of the empty plaintext under `degeneratePrims` with the all-zero source: the generated code returns
32 octets (IV ‖ the untouched zeroed block), the model 16 (the IV only). -/
theorem Encrypt_refines_false :
    Gen.encr.EncrAesCbcCrypto.Encrypt degeneratePrims { buf := [] } { Block := zeros 16 } []
        = .ok ({ buf := [], pos := 32, reads := 2 }, zeros 32) ∧
    cbcEncrypt degeneratePrims ⟨zeros 16⟩ { buf := [] } []
        = ({ buf := [], pos := 32, reads := 2 }, .ok (zeros 16)) := by
  constructor
  · rw [Encrypt_eq _ _ _ rfl rfl]
    simp only [pkcs7Pad, Rand.draw, degeneratePrims, cbcEnc_nil _ (fun _ => rfl)]
    rfl
  · simp only [cbcEncrypt, pkcs7Pad, Rand.draw, degeneratePrims, cbcEnc_nil _ (fun _ => rfl)]
    rfl

/-- `Decrypt` of 32 zero octets under `degeneratePrims`: the generated code reads the pad length off the zeroed
buffer and returns 15 octets, the model indexes the empty CBC output and faults. -/
theorem Decrypt_refines_false :
    Gen.encr.EncrAesCbcCrypto.Decrypt degeneratePrims { Block := zeros 16 } (zeros 32) = .ok (zeros 15) ∧
    cbcDecrypt degeneratePrims ⟨zeros 16⟩ (zeros 32) = .fault := by
  constructor
  · simp only [Gen.encr.EncrAesCbcCrypto.Decrypt, degeneratePrims, Go.cryptBlocks, Go.newCbc,
      cbcDec_nil _ (fun _ => rfl)]
    decide
  · simp only [cbcDecrypt, degeneratePrims, cbcDec_nil _ (fun _ => rfl)]
    decide

end Ike.RefineReg
