import IkeProofs.RefineReg.Maps
import IkeModel.Security.Dh
import IkeModel.Security.Registry
import IkeModel.Generated.Gen_dh
import IkeProofs.Lemmas.Dh

/-! Package `security/dh` as generated ⊑ the hand-written model (`IkeModel/Security/Dh.lean`,
the DH part of `IkeModel/Security/Registry.lean`). -/


namespace Ike.RefineReg
open Ike

private theorem step_odd (acc b k m : Nat) :
    (acc * b % m) * (b * b % m) ^ k % m = acc * b ^ (2 * k + 1) % m := by
  have h1 : (b * b % m) ^ k % m = (b * b) ^ k % m := (Nat.pow_mod (b * b) k m).symm
  calc (acc * b % m) * (b * b % m) ^ k % m
      = ((acc * b % m) % m) * ((b * b % m) ^ k % m) % m := Nat.mul_mod _ _ _
    _ = (acc * b % m) * ((b * b) ^ k % m) % m := by rw [Nat.mod_mod, h1]
    _ = (acc * b) * (b * b) ^ k % m := (Nat.mul_mod _ _ _).symm
    _ = acc * b ^ (2 * k + 1) % m := by
        congr 1
        rw [Nat.pow_succ, Nat.pow_mul, Nat.pow_two, Nat.mul_assoc, Nat.mul_comm b]

private theorem step_even (acc b k m : Nat) :
    acc * (b * b % m) ^ k % m = acc * b ^ (2 * k) % m := by
  have h1 : (b * b % m) ^ k % m = (b * b) ^ k % m := (Nat.pow_mod (b * b) k m).symm
  calc acc * (b * b % m) ^ k % m
      = (acc % m) * ((b * b % m) ^ k % m) % m := Nat.mul_mod _ _ _
    _ = (acc % m) * ((b * b) ^ k % m) % m := by rw [h1]
    _ = acc * (b * b) ^ k % m := (Nat.mul_mod _ _ _).symm
    _ = acc * b ^ (2 * k) % m := by rw [Nat.pow_mul, Nat.pow_two]

/-- invariant of the square-and-multiply loop, for every sufficient fuel -/
theorem powModAux_eq (m : Nat) (hm : 0 < m) (fuel b e acc : Nat) (he : e < 2 ^ fuel) (hacc : acc < m) :
    Go.powModAux m fuel b e acc = acc * b ^ e % m := by
  induction fuel generalizing b e acc with
  | zero =>
    have : e = 0 := by simp at he; omega
    subst this
    simp [Go.powModAux, Nat.mod_eq_of_lt hacc]
  | succ fuel ih =>
    unfold Go.powModAux
    by_cases h0 : e = 0
    · subst h0; simp [Nat.mod_eq_of_lt hacc]
    · rw [if_neg h0]
      have he2 : e / 2 < 2 ^ fuel := by rw [Nat.pow_succ] at he; omega
      by_cases hodd : e % 2 = 1
      · rw [if_pos hodd, ih _ _ _ he2 (Nat.mod_lt _ hm), step_odd]
        have hE : 2 * (e / 2) + 1 = e := by omega
        rw [hE]
      · rw [if_neg hodd, ih _ _ _ he2 hacc, step_even]
        have hE : 2 * (e / 2) = e := by omega
        rw [hE]

/-- `new(big.Int).Exp(x, y, m)` is the modular power -/
theorem bigExp_eq_pow_mod (x y m : Nat) (hm : 0 < m) : Go.bigExp x y m = x ^ y % m := by
  unfold Go.bigExp
  rw [if_neg (by omega)]
  have hy : y < 2 ^ (y.log2 + 2) := by
    have := Nat.lt_log2_self (n := y)
    rw [Nat.pow_succ]; omega
  rw [powModAux_eq m hm _ _ _ _ hy (Nat.mod_lt _ hm)]
  calc 1 % m * (x % m) ^ y % m
      = (1 % m % m) * ((x % m) ^ y % m) % m := Nat.mul_mod _ _ _
    _ = (1 % m) * (x ^ y % m) % m := by rw [Nat.mod_mod, ← Nat.pow_mod]
    _ = 1 * x ^ y % m := (Nat.mul_mod _ _ _).symm
    _ = x ^ y % m := by rw [Nat.one_mul]

theorem bigExp_eq_modPow (x y m : Nat) (hm : 0 < m) : Go.bigExp x y m = modPow x y m := by
  rw [bigExp_eq_pow_mod x y m hm, modPow_eq]

/-- without the side condition: for `m = 0` both are `x ^ y` -/
theorem bigExp_eq_modPow' (x y m : Nat) : Go.bigExp x y m = modPow x y m := by
  by_cases hm : 0 < m
  · exact bigExp_eq_modPow x y m hm
  · have : m = 0 := by omega
    subst this
    rw [modPow_eq]; simp [Go.bigExp]

/-- the package-level variables once Go has run `init()` -/
def dhG : Gen.dh.Globals := match Gen.dh.init_ {} with | .ok G => G | _ => {}

def name1024 : Bytes := [68, 72, 95, 49, 48, 50, 52, 95, 66, 73, 84, 95, 77, 79, 68, 80]
def name2048 : Bytes := [68, 72, 95, 50, 48, 52, 56, 95, 66, 73, 84, 95, 77, 79, 68, 80]

/-- the descriptor `init` registers under `"DH_1024_BIT_MODP"` -/
def desc1024 : Gen.dh.Dh1024BitModp :=
  { factor := Facts.group2Prime, generator := Facts.group2Generator, factorBytesLength := (Facts.group2Len : Int) }
/-- the descriptor `init` registers under `"DH_2048_BIT_MODP"` -/
def desc2048 : Gen.dh.DH2048BitModp :=
  { factor := Facts.group14Prime, generator := Facts.group14Generator, factorBytesLength := (Facts.group14Len : Int) }

def dhGExplicit : Gen.dh.Globals :=
  { dhString := some [((2 : UInt16), Gen.dh.toString_DH_1024_BIT_MODP), ((14 : UInt16), Gen.dh.toString_DH_2048_BIT_MODP)]
    dhTypes := some [(name1024, .Dh1024BitModp desc1024), (name2048, .DH2048BitModp desc2048)] }

theorem group2Prime_len : (natBytesMin Facts.group2Prime).length = 128 := by decide +kernel
theorem group14Prime_len : (natBytesMin Facts.group14Prime).length = 256 := by decide +kernel

theorem dh_init_eq : Gen.dh.init_ {} = .ok dhGExplicit := by
  unfold Gen.dh.init_
  -- the two hex literals, in the order of `init`: group 2's prime (`bn3` there), then group 14's (`bn5`)
  generalize h3 : Go.bigSetHex _ = bn3
  generalize h5 : Go.bigSetHex _ = bn5
  have e3 : bn3 = (Facts.group2Prime, true) := by rw [← h3]; decide +kernel
  have e5 : bn5 = (Facts.group14Prime, true) := by rw [← h5]; decide +kernel
  subst e3 e5
  simp [Go.mapSet, Go.mapSetList, group2Prime_len, group14Prime_len, dhGExplicit, name1024, name2048,
    desc1024, desc2048, Facts.group2Generator, Facts.group14Generator, Facts.group2Len, Facts.group14Len]

theorem dhG_eq : dhG = dhGExplicit := by
  unfold dhG
  rw [dh_init_eq]

theorem dh_init_ok : Gen.dh.init_ {} = .ok dhG := by
  rw [dhG_eq]
  exact dh_init_eq

/-- the group objects `init` registers, as the model's groups -/
def absGroup1024 (v : Gen.dh.Dh1024BitModp) : DhGroup := ⟨v.factor, v.generator, v.factorBytesLength.toNat⟩
def absGroup2048 (v : Gen.dh.DH2048BitModp) : DhGroup := ⟨v.factor, v.generator, v.factorBytesLength.toNat⟩

/-- the registry's view of a descriptor (with its `TransformID()`) -/
def absInfo1024 (v : Gen.dh.Dh1024BitModp) : Registry.DhInfo := ⟨2, v.factor, v.generator, v.factorBytesLength.toNat⟩
def absInfo2048 (v : Gen.dh.DH2048BitModp) : Registry.DhInfo := ⟨14, v.factor, v.generator, v.factorBytesLength.toNat⟩

/-- a `DHType` interface value as the model's `Option DhInfo` (`nil` ↦ `none`) -/
def absDh : Gen.dh.DHType → Option Registry.DhInfo
  | .nil_ => none
  | .Dh1024BitModp v => some (absInfo1024 v)
  | .DH2048BitModp v => some (absInfo2048 v)

theorem absGroup1024_desc : absGroup1024 desc1024 = dhGroup2 := rfl
theorem absGroup2048_desc : absGroup2048 desc2048 = dhGroup14 := rfl
theorem absInfo1024_desc : absInfo1024 desc1024 = Registry.group2 := rfl
theorem absInfo2048_desc : absInfo2048 desc2048 = Registry.group14 := rfl

/-- the two descriptors stored in `dhTypes` are the RFC groups 2 and 14 of the model -/
theorem dh_groups_are_rfc :
    Go.mapEntries dhG.dhTypes = [(name1024, .Dh1024BitModp desc1024), (name2048, .DH2048BitModp desc2048)] ∧
    absGroup1024 desc1024 = dhGroup2 ∧ absGroup2048 desc2048 = dhGroup14 := by
  rw [dhG_eq]
  exact ⟨rfl, rfl, rfl⟩

theorem dh_types_advertised :
    (Go.mapEntries dhG.dhTypes).map (fun e => absDh e.2) = Registry.advertisedDh.map some := by
  rw [dhG_eq]; rfl

/-- `append(make([]byte, L - len(v)), v...)` as generated is `leftPad`, for `0 ≤ L` -/
theorem make_prepend_eq_leftPad (L : Int) (hl : 0 ≤ L) (v : Bytes) :
    ((Go.make (α := UInt8) (L - (v.length : Int))) >>= fun t1 => Res.ok (t1 ++ v)) = leftPad L.toNat v := by
  obtain ⟨n, rfl⟩ := Int.eq_ofNat_of_zero_le hl
  unfold Go.make leftPad
  simp only [Int.toNat_natCast, Int.sub_nonneg, Int.ofNat_le, Int.toNat_sub]
  by_cases h : v.length ≤ n <;> simp only [h, if_true, if_false] <;> rfl

theorem Dh1024_GetPublicValue_refines (v : Gen.dh.Dh1024BitModp) (hp : 0 < v.factor) (hl : 0 ≤ v.factorBytesLength)
    (secret : Nat) :
    Gen.dh.Dh1024BitModp.GetPublicValue v secret = dhPub (absGroup1024 v) secret := by
  unfold Gen.dh.Dh1024BitModp.GetPublicValue dhPub absGroup1024
  simp only [bigExp_eq_modPow _ _ _ hp]
  exact make_prepend_eq_leftPad _ hl _

theorem Dh1024_GetSharedKey_refines (v : Gen.dh.Dh1024BitModp) (hp : 0 < v.factor) (hl : 0 ≤ v.factorBytesLength)
    (secret peer : Nat) :
    Gen.dh.Dh1024BitModp.GetSharedKey v secret peer = dhShared (absGroup1024 v) secret peer := by
  unfold Gen.dh.Dh1024BitModp.GetSharedKey dhShared absGroup1024
  simp only [bigExp_eq_modPow _ _ _ hp]
  exact make_prepend_eq_leftPad _ hl _

theorem DH2048_GetPublicValue_refines (v : Gen.dh.DH2048BitModp) (hp : 0 < v.factor) (hl : 0 ≤ v.factorBytesLength)
    (secret : Nat) :
    Gen.dh.DH2048BitModp.GetPublicValue v secret = dhPub (absGroup2048 v) secret := by
  unfold Gen.dh.DH2048BitModp.GetPublicValue dhPub absGroup2048
  simp only [bigExp_eq_modPow _ _ _ hp]
  exact make_prepend_eq_leftPad _ hl _

theorem DH2048_GetSharedKey_refines (v : Gen.dh.DH2048BitModp) (hp : 0 < v.factor) (hl : 0 ≤ v.factorBytesLength)
    (secret peer : Nat) :
    Gen.dh.DH2048BitModp.GetSharedKey v secret peer = dhShared (absGroup2048 v) secret peer := by
  unfold Gen.dh.DH2048BitModp.GetSharedKey dhShared absGroup2048
  simp only [bigExp_eq_modPow _ _ _ hp]
  exact make_prepend_eq_leftPad _ hl _

/-- the hypothesis `0 ≤ factorBytesLength` is necessary: a (never constructed) descriptor with a negative
length makes the Go code panic in `make`, where the model, whose length is a `Nat`, pads to length 0 -/
theorem Dh1024_negative_length_differs :
    Gen.dh.Dh1024BitModp.GetPublicValue ⟨1, 0, -1⟩ 0 = .fault ∧ dhPub (absGroup1024 ⟨1, 0, -1⟩) 0 = .ok [] := by
  constructor
  · decide
  · simp only [dhPub, absGroup1024, modPow_eq]
    decide

def absGroup : Gen.dh.DHType → DhGroup
  | .nil_ => default
  | .Dh1024BitModp v => absGroup1024 v
  | .DH2048BitModp v => absGroup2048 v

/-- the invariant under which the refinements are stated (it holds for everything `init` registers).  The second
conjunct is necessary (`Dh1024_negative_length_differs`); the first is not, `Go.bigExp` and `modPow` agree for
modulus 0 too (`bigExp_eq_modPow'`). -/
def DhWF : Gen.dh.DHType → Prop
  | .nil_ => False
  | .Dh1024BitModp v => 0 < v.factor ∧ 0 ≤ v.factorBytesLength
  | .DH2048BitModp v => 0 < v.factor ∧ 0 ≤ v.factorBytesLength

theorem DHType_GetPublicValue_refines (d : Gen.dh.DHType) (h : DhWF d) (secret : Nat) :
    Gen.dh.DHType.GetPublicValue d secret = dhPub (absGroup d) secret := by
  cases d with
  | nil_ => exact h.elim
  | Dh1024BitModp v =>
    simp only [Gen.dh.DHType.GetPublicValue, absGroup, Dh1024_GetPublicValue_refines v h.1 h.2]
    cases dhPub (absGroup1024 v) secret <;> rfl
  | DH2048BitModp v =>
    simp only [Gen.dh.DHType.GetPublicValue, absGroup, DH2048_GetPublicValue_refines v h.1 h.2]
    cases dhPub (absGroup2048 v) secret <;> rfl

theorem DHType_GetSharedKey_refines (d : Gen.dh.DHType) (h : DhWF d) (secret peer : Nat) :
    Gen.dh.DHType.GetSharedKey d secret peer = dhShared (absGroup d) secret peer := by
  cases d with
  | nil_ => exact h.elim
  | Dh1024BitModp v =>
    simp only [Gen.dh.DHType.GetSharedKey, absGroup, Dh1024_GetSharedKey_refines v h.1 h.2]
    cases dhShared (absGroup1024 v) secret peer <;> rfl
  | DH2048BitModp v =>
    simp only [Gen.dh.DHType.GetSharedKey, absGroup, DH2048_GetSharedKey_refines v h.1 h.2]
    cases dhShared (absGroup2048 v) secret peer <;> rfl

/-- a nil interface value: the method call panics -/
theorem DHType_nil_GetPublicValue (secret : Nat) : Gen.dh.DHType.GetPublicValue .nil_ secret = .fault := rfl
theorem DHType_nil_GetSharedKey (secret peer : Nat) : Gen.dh.DHType.GetSharedKey .nil_ secret peer = .fault := rfl

theorem desc1024_wf : DhWF (.Dh1024BitModp desc1024) := by
  refine ⟨?_, ?_⟩ <;> decide +kernel
theorem desc2048_wf : DhWF (.DH2048BitModp desc2048) := by
  refine ⟨?_, ?_⟩ <;> decide +kernel

theorem dh_StrToType_refines (name : Bytes) :
    Gen.dh.StrToType dhG name =
      .ok (if name = name1024 then .Dh1024BitModp desc1024
           else if name = name2048 then .DH2048BitModp desc2048
           else .nil_) := by
  rw [dhG_eq]
  unfold Gen.dh.StrToType dhGExplicit
  simp only [Go.mapGet, Go.mapGetList]
  by_cases h1 : name = name1024
  · subst h1; simp
  · have h1' : ¬ name1024 = name := fun h => h1 h.symm
    by_cases h2 : name = name2048
    · subst h2; simp [h1, h1']
    · have h2' : ¬ name2048 = name := fun h => h2 h.symm
      simp [h1, h2, h1', h2']

theorem dh_DecodeTransform_refines (t : Transform) :
    (Gen.dh.DecodeTransform dhG t).map absDh = .ok (Registry.decodeDh t) := by
  rw [dhG_eq]
  show (decodeVia dhGExplicit.dhString dhGExplicit.dhTypes t).map absDh = _
  unfold dhGExplicit Registry.decodeDh
  simp only [decodeVia_cons, decodeVia_nil, Gen.dh.toString_DH_1024_BIT_MODP, Gen.dh.toString_DH_2048_BIT_MODP,
    Res.bind_ok, Refine.map_ok', Refine.u16_beq, Facts.group2Id, Facts.group14Id, ← apply_ite Res.ok]
  have hr := @Refine.ite_rel _ _ (fun x (y : Option Registry.DhInfo) => absDh x = y)
  exact congrArg Res.ok (hr _ rfl (hr _ rfl rfl))

theorem dh_ToTransform_refines_1024 (v : Gen.dh.Dh1024BitModp) :
    Gen.dh.ToTransform (.Dh1024BitModp v) = .ok (Registry.dhToTransform (absInfo1024 v)) := by
  simp [Gen.dh.ToTransform, Gen.dh.DHType.TransformID, Gen.dh.Dh1024BitModp.TransformID,
    Gen.dh.DHType.getAttribute, Gen.dh.Dh1024BitModp.getAttribute, GenExt.Transform_zero,
    Registry.dhToTransform, Registry.mkTransform, Registry.noAttr, absInfo1024, Facts.ttDh]

theorem dh_ToTransform_refines_2048 (v : Gen.dh.DH2048BitModp) :
    Gen.dh.ToTransform (.DH2048BitModp v) = .ok (Registry.dhToTransform (absInfo2048 v)) := by
  simp [Gen.dh.ToTransform, Gen.dh.DHType.TransformID, Gen.dh.DH2048BitModp.TransformID,
    Gen.dh.DHType.getAttribute, Gen.dh.DH2048BitModp.getAttribute, GenExt.Transform_zero,
    Registry.dhToTransform, Registry.mkTransform, Registry.noAttr, absInfo2048, Facts.ttDh]

/-- both descriptor kinds at once; a nil `DHType` makes `ToTransform` panic (method call on nil) -/
theorem dh_ToTransform_refines (d : Gen.dh.DHType) :
    Gen.dh.ToTransform d = match absDh d with
      | some i => .ok (Registry.dhToTransform i)
      | none => .fault := by
  cases d with
  | nil_ => rfl
  | Dh1024BitModp v => exact dh_ToTransform_refines_1024 v
  | DH2048BitModp v => exact dh_ToTransform_refines_2048 v

end Ike.RefineReg
