import IkeProofs.RefineSa.Keys
import IkeProofs.RefineReg.Dh
import IkeProofs.RefineReg.Registries

/-! `rand.Int`, `GenerateRandomNumber`, `CalculateDiffieHellmanMaterials` and `NewIKESAKey` of package `security` as
translated (`Gen_security.lean`, `Go.randInt`): theorems stated directly about the generated code (there is no
hand-written model of these functions).  Defines `secG`, `maskTop`, `drawAt`, `DhRegistered`, `decDh` … `decPrf`,
`saOfTransforms`, which later files and `C09Gen`, `C11Gen` state their results with. -/

namespace Ike.RefineSa
open Ike Ike.GenAbsSa

/-- the package-level variables of `security` after `init` -/
def secG : Gen.security.Globals := match Gen.security.init_ {} with | .ok G => G | _ => {}

theorem security_init_ok : Gen.security.init_ {} = .ok secG := rfl

theorem secG_max : secG.randomNumberMaximum = 2 ^ 2048 - 1 := by decide +kernel
theorem secG_min : secG.randomNumberMinimum = 2 ^ 128 - 1 := by decide +kernel

theorem secG_bounds : secG.randomNumberMaximum = 2 ^ 2048 - 1 ∧ secG.randomNumberMinimum = 2 ^ 128 - 1 :=
  ⟨secG_max, secG_min⟩

theorem secG_eq : secG = { randomNumberMaximum := 2 ^ 2048 - 1, randomNumberMinimum := 2 ^ 128 - 1 } := by
  have h1 := secG_max
  have h2 := secG_min
  cases hG : secG with
  | mk a b => rw [hG] at h1 h2; simp only at h1 h2; rw [h1, h2]

theorem secG_between (d : Nat) :
    (secG.randomNumberMinimum < d ∧ d < secG.randomNumberMaximum) ↔ (2 ^ 128 ≤ d ∧ d < 2 ^ 2048 - 1) := by
  rw [secG_min, secG_max, Nat.lt_iff_add_one_le, Nat.sub_add_cancel Nat.one_le_two_pow]

/-- the first octet masked to `b` bits (what `crypto/rand.Int` does to every draw) -/
def maskTop (b : Nat) : Bytes → Bytes
  | [] => []
  | x :: rest => (x &&& UInt8.ofNat (2 ^ b - 1)) :: rest

theorem randIntLoop_succ (max k b fuel : Nat) (r : Rand) :
    Go.randIntLoop max k b (fuel + 1) r =
      (if r.failAt = some r.reads then .ok ({ r with reads := r.reads + 1 }, 0, .other)
       else if beNat (maskTop b (cyc r.buf r.pos k)) < max then
         .ok ({ r with reads := r.reads + 1, pos := r.pos + k }, beNat (maskTop b (cyc r.buf r.pos k)), .none)
       else Go.randIntLoop max k b fuel { r with reads := r.reads + 1, pos := r.pos + k }) := by
  rw [Go.randIntLoop]
  unfold Rand.draw
  by_cases hf : r.failAt = some r.reads
  · rw [if_pos hf, if_pos hf]
  · rw [if_neg hf, if_neg hf]
    show (if beNat (maskTop b (cyc r.buf r.pos k)) < max then _ else _) = _
    rfl

/-- the source after `j` successful reads of `k` octets -/
def advanceBy (k : Nat) (r : Rand) (j : Nat) : Rand := { r with reads := r.reads + j, pos := r.pos + k * j }

/-- the `i`-th block of `k` octets the source delivers from state `r` on, masked as `rand.Int` does, as a number -/
def drawOf (k b : Nat) (r : Rand) (i : Nat) : Nat := beNat (maskTop b (cyc r.buf (r.pos + k * i) k))

theorem randIntLoop_step (max k b fuel : Nat) (r : Rand) (i : Nat) :
    Go.randIntLoop max k b (fuel + 1) (advanceBy k r i) =
      if r.failAt = some (r.reads + i) then .ok ({ advanceBy k r i with reads := r.reads + i + 1 }, 0, .other)
      else if drawOf k b r i < max then .ok (advanceBy k r (i + 1), drawOf k b r i, .none)
      else Go.randIntLoop max k b fuel (advanceBy k r (i + 1)) := by
  have e : ({ advanceBy k r i with reads := (advanceBy k r i).reads + 1, pos := (advanceBy k r i).pos + k } : Rand) =
      advanceBy k r (i + 1) := by
    simp only [advanceBy, Nat.mul_succ, Nat.add_assoc]
  rw [randIntLoop_succ, e]
  rfl

/-- everything one call of the sampling loop does: it ends at some read `j`, all reads before it having succeeded
with numbers `≥ max`; either read `j` succeeds and its number, below `max`, is the result, or it fails -/
theorem randIntLoop_exit (max k b : Nat) (r : Rand) : ∀ (fuel i : Nat) (r' : Rand) (n : Nat) (e : Go.Err),
    Go.randIntLoop max k b fuel (advanceBy k r i) = .ok (r', n, e) →
    ∃ j, i ≤ j ∧ (∀ t, i ≤ t → t < j → r.failAt ≠ some (r.reads + t)) ∧
      ((r.failAt ≠ some (r.reads + j) ∧ e = .none ∧ r' = advanceBy k r (j + 1) ∧ n = drawOf k b r j ∧ n < max) ∨
       (r.failAt = some (r.reads + j) ∧ e = .other ∧ n = 0 ∧
          r' = { advanceBy k r j with reads := r.reads + j + 1 })) := by
  intro fuel
  induction fuel with
  | zero => intro i r' n e h; cases h
  | succ fuel ih =>
    intro i r' n e h
    rw [randIntLoop_step] at h
    by_cases hf : r.failAt = some (r.reads + i)
    · rw [if_pos hf] at h
      cases h
      exact ⟨i, Nat.le_refl i, fun t h1 h2 => absurd h2 (Nat.not_lt_of_le h1), Or.inr ⟨hf, rfl, rfl, rfl⟩⟩
    · rw [if_neg hf] at h
      by_cases hlt : drawOf k b r i < max
      · rw [if_pos hlt] at h
        cases h
        exact ⟨i, Nat.le_refl i, fun t h1 h2 => absurd h2 (Nat.not_lt_of_le h1), Or.inl ⟨hf, rfl, rfl, rfl, hlt⟩⟩
      · rw [if_neg hlt] at h
        obtain ⟨j, hj, hno, hex⟩ := ih (i + 1) r' n e h
        refine ⟨j, Nat.le_of_succ_le hj, fun t h1 h2 => ?_, hex⟩
        rcases Nat.eq_or_lt_of_le h1 with rfl | h1'
        · exact hf
        · exact hno t h1' h2

theorem bitLen_pos (m : Nat) (h : 0 < m) : 0 < Go.bitLen m := by
  cases m with
  | zero => exact absurd h (Nat.lt_irrefl 0)
  | succ m => exact Nat.succ_pos _

theorem randInt_zero (r : Rand) : Go.randInt r 0 = .fault := rfl

theorem randInt_one (r : Rand) : Go.randInt r 1 = .ok (r, 0, .none) := rfl

theorem randInt_eq_loop (r : Rand) (max : Nat) (hmax : 1 < max) :
    Go.randInt r max =
      Go.randIntLoop max ((Go.bitLen (max - 1) + 7) / 8)
        (if Go.bitLen (max - 1) % 8 = 0 then 8 else Go.bitLen (max - 1) % 8) Go.unboundedLoopFuel r := by
  unfold Go.randInt
  rw [if_neg (Nat.ne_of_gt (Nat.lt_trans Nat.zero_lt_one hmax))]
  dsimp only
  rw [if_neg (Nat.ne_of_gt (bitLen_pos (max - 1) (Nat.sub_pos_of_lt hmax)))]

theorem randInt_exit (r r' : Rand) (max n : Nat) (e : Go.Err) (hmax : 1 < max)
    (h : Go.randInt r max = .ok (r', n, e)) :
    ∃ j, (∀ t, t < j → r.failAt ≠ some (r.reads + t)) ∧
      ((r.failAt ≠ some (r.reads + j) ∧ e = .none ∧ r' = advanceBy ((Go.bitLen (max - 1) + 7) / 8) r (j + 1) ∧
          n = drawOf ((Go.bitLen (max - 1) + 7) / 8)
            (if Go.bitLen (max - 1) % 8 = 0 then 8 else Go.bitLen (max - 1) % 8) r j ∧ n < max) ∨
       (r.failAt = some (r.reads + j) ∧ e = .other ∧ n = 0 ∧
          r' = { advanceBy ((Go.bitLen (max - 1) + 7) / 8) r j with reads := r.reads + j + 1 })) := by
  rw [randInt_eq_loop r max hmax] at h
  obtain ⟨j, _, hno, hex⟩ := randIntLoop_exit max _ _ r _ 0 r' n e h
  exact ⟨j, fun t ht => hno t (Nat.zero_le t) ht, hex⟩

theorem randInt_lt (r r' : Rand) (max n : Nat) (h : Go.randInt r max = .ok (r', n, .none)) : n < max := by
  by_cases h0 : max = 0
  · subst h0; cases h
  by_cases h1 : max = 1
  · subst h1
    rw [randInt_one] at h
    cases h
    exact Nat.zero_lt_one
  obtain ⟨j, _, h | h⟩ := randInt_exit r r' max n _ (by omega) h
  · exact h.2.2.2.2
  · cases h.2.1

theorem randInt_err_state (r r' : Rand) (max n : Nat) (e : Go.Err) (h : Go.randInt r max = .ok (r', n, e))
    (he : e ≠ .none) :
    e = .other ∧ n = 0 ∧ r.reads < r'.reads ∧ r.failAt = some (r'.reads - 1) ∧
      (∀ i, r.reads ≤ i → i + 1 < r'.reads → r.failAt ≠ some i) ∧ r'.failAt = r.failAt ∧ r'.buf = r.buf := by
  by_cases h0 : max = 0
  · subst h0; cases h
  by_cases h1 : max = 1
  · subst h1
    rw [randInt_one] at h
    cases h
    exact absurd rfl he
  obtain ⟨j, hno, h | h⟩ := randInt_exit r r' max n e (by omega) h
  · exact absurd h.2.1 he
  · obtain ⟨hf, rfl, rfl, rfl⟩ := h
    refine ⟨rfl, rfl, Nat.lt_succ_of_le (Nat.le_add_right _ _), hf, fun i h1 h2 => ?_, rfl, rfl⟩
    obtain ⟨t, rfl⟩ := Nat.exists_eq_add_of_le h1
    exact hno t (Nat.lt_of_add_lt_add_left (Nat.lt_of_succ_lt_succ h2))

theorem randInt_ok_state (r r' : Rand) (max n : Nat) (hmax : 1 < max) (h : Go.randInt r max = .ok (r', n, .none)) :
    r.reads < r'.reads ∧ (∀ i, r.reads ≤ i → i < r'.reads → r.failAt ≠ some i) ∧ r'.failAt = r.failAt ∧
      r'.buf = r.buf ∧ n < max ∧
      r'.pos = r.pos + (Go.bitLen (max - 1) + 7) / 8 * (r'.reads - r.reads) ∧
      n = beNat (maskTop (if Go.bitLen (max - 1) % 8 = 0 then 8 else Go.bitLen (max - 1) % 8)
            (cyc r.buf (r'.pos - (Go.bitLen (max - 1) + 7) / 8) ((Go.bitLen (max - 1) + 7) / 8))) := by
  obtain ⟨j, hno, h | h⟩ := randInt_exit r r' max n _ hmax h
  · obtain ⟨hj, _, rfl, rfl, hlt⟩ := h
    refine ⟨Nat.lt_add_of_pos_right (Nat.succ_pos j), fun i h1 h2 => ?_, rfl, rfl, hlt, ?_, ?_⟩
    · obtain ⟨t, rfl⟩ := Nat.exists_eq_add_of_le h1
      rcases Nat.eq_or_lt_of_le (Nat.le_of_lt_succ (Nat.lt_of_add_lt_add_left h2)) with rfl | ht
      · exact hj
      · exact hno t ht
    · show r.pos + _ * (j + 1) = r.pos + _ * (r.reads + (j + 1) - r.reads)
      rw [Nat.add_sub_cancel_left]
    · show drawOf _ _ r j = beNat (maskTop _ (cyc r.buf (r.pos + _ * (j + 1) - _) _))
      rw [Nat.mul_succ, ← Nat.add_assoc, Nat.add_sub_cancel]
      rfl
  · cases h.2.1

/-- `rand.Int` never returns the error value of the translation's own error channel: its error is a result -/
theorem randInt_ne_err (r : Rand) (max : Nat) : Go.randInt r max ≠ .err := by
  have hl : ∀ k b fuel r, Go.randIntLoop max k b fuel r ≠ .err := by
    intro k b fuel
    induction fuel with
    | zero => intro r h; cases h
    | succ fuel ih =>
      intro r
      rw [randIntLoop_succ]
      split
      · intro h; cases h
      · split
        · intro h; cases h
        · exact ih _
  unfold Go.randInt
  split
  · intro h; cases h
  · dsimp only
    split
    · intro h; cases h
    · exact hl _ _ _ _

theorem randInt_first (r : Rand) (max : Nat) (hmax : 1 < max) (hnf : r.failAt ≠ some r.reads)
    (hlt : beNat (maskTop (if Go.bitLen (max - 1) % 8 = 0 then 8 else Go.bitLen (max - 1) % 8)
            (cyc r.buf r.pos ((Go.bitLen (max - 1) + 7) / 8))) < max) :
    Go.randInt r max =
      .ok ({ r with reads := r.reads + 1, pos := r.pos + (Go.bitLen (max - 1) + 7) / 8 },
           beNat (maskTop (if Go.bitLen (max - 1) % 8 = 0 then 8 else Go.bitLen (max - 1) % 8)
            (cyc r.buf r.pos ((Go.bitLen (max - 1) + 7) / 8))), .none) := by
  rw [randInt_eq_loop r max hmax]
  show Go.randIntLoop _ _ _ (63 + 1) r = _  -- `Go.unboundedLoopFuel` is 64
  rw [randIntLoop_succ, if_neg hnf, if_pos hlt]

theorem bigCmp_eq_one (x y : Nat) : Go.bigCmp x y = 1 ↔ y < x := by
  unfold Go.bigCmp
  split
  · omega
  · split
    · omega
    · omega

/-- what the loop body of `GenerateRandomNumber` does with the result of `rand.Int` (`fo`: iterations left) -/
def afterInt (G : Gen.security.Globals) (fo : Nat) (t : Rand × Nat × Go.Err) : Res (Rand × Nat × Bool) :=
  if t.2.2 ≠ Go.Err.none then .err
  else if G.randomNumberMinimum < t.2.1 then .ok (t.1, t.2.1, false)
  else Gen.security.GenerateRandomNumber.loop1 G fo t.1 t.2.1 false

theorem afterInt_none (G : Gen.security.Globals) (fo : Nat) (r : Rand) (n : Nat) :
    afterInt G fo (r, n, .none) =
      if G.randomNumberMinimum < n then .ok (r, n, false)
      else Gen.security.GenerateRandomNumber.loop1 G fo r n false := rfl

theorem GenerateRandomNumber_loop_succ (G : Gen.security.Globals) (fuel : Nat) (r : Rand) (n0 : Nat) (e0 : Bool) :
    Gen.security.GenerateRandomNumber.loop1 G (fuel + 1) r n0 e0 =
      (Go.randInt r G.randomNumberMaximum >>= afterInt G fuel) := by
  rw [Gen.security.GenerateRandomNumber.loop1, if_pos trivial]
  refine bind_congr fun t => ?_
  obtain ⟨r1, n, e⟩ := t
  by_cases he : e = Go.Err.none
  · subst he
    simp only [afterInt_none, ne_eq, not_true_eq_false, decide_false, Bool.false_eq_true, if_false, bigCmp_eq_one]
  · simp [afterInt, he]

/-- the same for the loop of `GenerateRandomNumber` (`k`, `b`: what `rand.Int` draws for the maximum): on success
all reads up to the last, `j`, succeed and the number of read `j` lies between the two bounds -/
theorem GenerateRandomNumber_loop_exit (G : Gen.security.Globals) (k b : Nat)
    (hloop : ∀ r, Go.randInt r G.randomNumberMaximum = Go.randIntLoop G.randomNumberMaximum k b 64 r) (r : Rand) :
    ∀ (fuel i n0 : Nat) (e0 : Bool) (r' : Rand) (n : Nat) (e : Bool),
    Gen.security.GenerateRandomNumber.loop1 G fuel (advanceBy k r i) n0 e0 = .ok (r', n, e) →
    ∃ j, i ≤ j ∧ (∀ t, i ≤ t → t ≤ j → r.failAt ≠ some (r.reads + t)) ∧ r' = advanceBy k r (j + 1) ∧
      n = drawOf k b r j ∧ G.randomNumberMinimum < n ∧ n < G.randomNumberMaximum ∧ e = false := by
  intro fuel
  induction fuel with
  | zero => intro i n0 e0 r' n e h; cases h
  | succ fuel ih =>
    intro i n0 e0 r' n e h
    rw [GenerateRandomNumber_loop_succ, hloop] at h
    obtain ⟨⟨r1, n1, e1⟩, hri, h⟩ := Res.bind_eq_ok h
    obtain ⟨j1, hj1, hno, hex | hex⟩ := randIntLoop_exit _ k b r _ i r1 n1 e1 hri
    · obtain ⟨hf, rfl, rfl, rfl, hlt⟩ := hex
      have hno' : ∀ t, i ≤ t → t ≤ j1 → r.failAt ≠ some (r.reads + t) := by
        intro t h1 h2
        rcases Nat.eq_or_lt_of_le h2 with rfl | h2'
        · exact hf
        · exact hno t h1 h2'
      rw [afterInt_none] at h
      by_cases hmin : G.randomNumberMinimum < drawOf k b r j1
      · rw [if_pos hmin] at h
        cases h
        exact ⟨j1, hj1, hno', rfl, rfl, hmin, hlt, rfl⟩
      · rw [if_neg hmin] at h
        obtain ⟨j, hj, hno2, hrest⟩ := ih (j1 + 1) _ _ r' n e h
        refine ⟨j, Nat.le_trans hj1 (Nat.le_of_succ_le hj), fun t h1 h2 => ?_, hrest⟩
        rcases Nat.lt_or_ge j1 t with h3 | h3
        · exact hno2 t h3 h2
        · exact hno' t h1 h3
    · obtain ⟨_, rfl, _⟩ := hex
      cases h

theorem GenerateRandomNumber_loop_err (G : Gen.security.Globals) (k b : Nat)
    (hloop : ∀ r, Go.randInt r G.randomNumberMaximum = Go.randIntLoop G.randomNumberMaximum k b 64 r) (r : Rand) :
    ∀ (fuel i n0 : Nat) (e0 : Bool),
    Gen.security.GenerateRandomNumber.loop1 G fuel (advanceBy k r i) n0 e0 = .err →
    ∃ j, i ≤ j ∧ r.failAt = some (r.reads + j) := by
  intro fuel
  induction fuel with
  | zero => intro i n0 e0 h; cases h
  | succ fuel ih =>
    intro i n0 e0 h
    rw [GenerateRandomNumber_loop_succ] at h
    cases hri : Go.randInt (advanceBy k r i) G.randomNumberMaximum with
    | err => exact absurd hri (randInt_ne_err _ _)
    | fault => rw [hri] at h; cases h
    | ok t =>
      obtain ⟨r1, n1, e1⟩ := t
      rw [hri, Res.bind_ok] at h
      rw [hloop] at hri
      obtain ⟨j1, hj1, _, hex | hex⟩ := randIntLoop_exit _ k b r _ i r1 n1 e1 hri
      · obtain ⟨_, rfl, rfl, rfl, _⟩ := hex
        rw [afterInt_none] at h
        by_cases hmin : G.randomNumberMinimum < drawOf k b r j1
        · rw [if_pos hmin] at h; cases h
        · rw [if_neg hmin] at h
          obtain ⟨j, hj, hf⟩ := ih (j1 + 1) _ _ h
          exact ⟨j, Nat.le_trans hj1 (Nat.le_of_succ_le hj), hf⟩
      · exact ⟨j1, hj1, hex.1⟩

/-- `64` is `Go.unboundedLoopFuel`, the number of iterations the translation grants Go's `for { … }` (here and, inside
`Go.randInt`, for the sampling loop of `rand.Int`) -/
theorem GenerateRandomNumber_eq (G : Gen.security.Globals) (r : Rand) :
    Gen.security.GenerateRandomNumber G r =
      (Gen.security.GenerateRandomNumber.loop1 G 64 r 0 false >>= fun s => .ok (s.1, s.2.1)) := rfl

theorem maskTop_8 (bs : Bytes) : maskTop 8 bs = bs := by
  cases bs with
  | nil => rfl
  | cons x rest =>
    refine congrArg (· :: rest) (UInt8.toNat_inj.mp ?_)
    rw [UInt8.toNat_and]
    show x.toNat &&& (2 ^ 8 - 1) = x.toNat
    rw [Nat.and_two_pow_sub_one_eq_mod]
    exact Nat.mod_eq_of_lt x.toNat_lt

/-- `BitLen` of the largest number `rand.Int(rand.Reader, randomNumberMaximum)` may return is 2048: it draws 256
whole octets at a time and masks nothing -/
theorem randInt_secG (r : Rand) :
    Go.randInt r secG.randomNumberMaximum = Go.randIntLoop secG.randomNumberMaximum 256 8 64 r := by
  have hb : Go.bitLen (secG.randomNumberMaximum - 1) = 2048 := by rw [secG_max]; decide +kernel
  rw [randInt_eq_loop r _ (by rw [secG_max]; decide +kernel), hb]
  rfl

/-- the `i`-th block of 256 octets the source delivers from state `r` on, as a number -/
def drawAt (r : Rand) (i : Nat) : Nat := beNat (cyc r.buf (r.pos + 256 * i) 256)

theorem drawOf_eq_drawAt (r : Rand) (i : Nat) : drawOf 256 8 r i = drawAt r i := by
  unfold drawOf
  rw [maskTop_8]
  rfl

theorem GenerateRandomNumber_ok_state (r r' : Rand) (n : Nat)
    (h : Gen.security.GenerateRandomNumber secG r = .ok (r', n)) :
    ∃ j, (∀ t, t ≤ j → r.failAt ≠ some (r.reads + t)) ∧ r' = advanceBy 256 r (j + 1) ∧ n = drawAt r j ∧
      secG.randomNumberMinimum < n ∧ n < secG.randomNumberMaximum := by
  rw [GenerateRandomNumber_eq] at h
  obtain ⟨⟨r1, n1, e1⟩, hl, h⟩ := Res.bind_eq_ok h
  cases h
  obtain ⟨j, _, hno, h1, h2, h3, h4, _⟩ := GenerateRandomNumber_loop_exit secG 256 8 randInt_secG r 64 0 0 false r1 n1 e1 hl
  exact ⟨j, fun t ht => hno t (Nat.zero_le t) ht, h1, h2.trans (drawOf_eq_drawAt r j), h3, h4⟩

theorem GenerateRandomNumber_range (r r' : Rand) (n : Nat)
    (h : Gen.security.GenerateRandomNumber secG r = .ok (r', n)) : 2 ^ 128 ≤ n ∧ n < 2 ^ 2048 - 1 := by
  obtain ⟨_, _, _, _, h1, h2⟩ := GenerateRandomNumber_ok_state r r' n h
  exact (secG_between n).1 ⟨h1, h2⟩

theorem GenerateRandomNumber_no_number_on_failure (r r' : Rand) (n : Nat)
    (h : Gen.security.GenerateRandomNumber secG r = .ok (r', n)) :
    r'.reads > r.reads ∧ ∀ i, r.reads ≤ i → i < r'.reads → r.failAt ≠ some i := by
  obtain ⟨j, hno, rfl, _⟩ := GenerateRandomNumber_ok_state r r' n h
  refine ⟨Nat.lt_add_of_pos_right (Nat.succ_pos j), fun i h1 h2 => ?_⟩
  obtain ⟨t, rfl⟩ := Nat.exists_eq_add_of_le h1
  exact hno t (Nat.le_of_lt_succ (Nat.lt_of_add_lt_add_left h2))

theorem GenerateRandomNumber_err_source (r : Rand) (h : Gen.security.GenerateRandomNumber secG r = .err) :
    ∃ i, r.reads ≤ i ∧ r.failAt = some i := by
  rw [GenerateRandomNumber_eq] at h
  cases hl : Gen.security.GenerateRandomNumber.loop1 secG 64 r 0 false with
  | err =>
    obtain ⟨j, _, hf⟩ := GenerateRandomNumber_loop_err secG 256 8 randInt_secG r 64 0 0 false hl
    exact ⟨r.reads + j, Nat.le_add_right _ _, hf⟩
  | fault => rw [hl] at h; cases h
  | ok t => rw [hl] at h; cases h

/-- the two nested sampling loops with their two fuels: `fi` draws left in the current call of `rand.Int`, `fo`
iterations left in the loop of `GenerateRandomNumber` -/
def stepLoops (G : Gen.security.Globals) (fi fo : Nat) (r : Rand) : Res (Rand × Nat × Bool) :=
  Go.randIntLoop G.randomNumberMaximum 256 8 fi r >>= afterInt G fo

theorem GenerateRandomNumber_loop_secG (fo : Nat) (r : Rand) (n0 : Nat) (e0 : Bool) :
    Gen.security.GenerateRandomNumber.loop1 secG (fo + 1) r n0 e0 = stepLoops secG 64 fo r := by
  rw [GenerateRandomNumber_loop_succ, randInt_secG]
  rfl

theorem GenerateRandomNumber_eq_stepLoops (r : Rand) :
    Gen.security.GenerateRandomNumber secG r =
      (stepLoops secG 64 63 (advanceBy 256 r 0) >>= fun s => .ok (s.1, s.2.1)) := by
  rw [GenerateRandomNumber_eq, GenerateRandomNumber_loop_secG]
  rfl

/-- successful reads whose numbers are all rejected (too large: by `rand.Int`; too small: by the loop of
`GenerateRandomNumber`) are skipped, as long as neither fuel runs out, which needs 64 draws: whatever the loops
do from read `e` on, they do from read `i ≤ e` on -/
theorem stepLoops_skip (r : Rand) (R : Res (Rand × Nat × Bool)) (e : Nat)
    (hnf : ∀ t, t < e → r.failAt ≠ some (r.reads + t))
    (hrej : ∀ t, t < e → ¬ (secG.randomNumberMinimum < drawAt r t ∧ drawAt r t < secG.randomNumberMaximum))
    (hfin : ∀ fi fo, 0 < fi → stepLoops secG fi fo (advanceBy 256 r e) = R) :
    ∀ (n i fi fo : Nat), i + n = e → n < fi → n ≤ fo → n ≤ 64 → stepLoops secG fi fo (advanceBy 256 r i) = R := by
  intro n
  induction n with
  | zero =>
    intro i fi fo hi h1 _ _
    cases hi
    exact hfin fi fo h1
  | succ n ih =>
    intro i fi fo hi h1 h2 h3
    have hie : i < e := hi ▸ Nat.lt_add_of_pos_right (Nat.succ_pos n)
    have hi' : i + 1 + n = e := (Nat.add_right_comm i 1 n).trans hi
    cases fi with
    | zero => exact absurd h1 (Nat.not_lt_zero _)
    | succ fi0 =>
      rw [stepLoops, randIntLoop_step, drawOf_eq_drawAt, if_neg (hnf i hie)]
      by_cases hlt : drawAt r i < secG.randomNumberMaximum
      · cases fo with
        | zero => exact absurd h2 (Nat.not_succ_le_zero n)
        | succ fo0 =>
          rw [if_pos hlt, Res.bind_ok, afterInt_none, if_neg fun h => hrej i hie ⟨h, hlt⟩, GenerateRandomNumber_loop_secG]
          exact ih (i + 1) 64 fo0 hi' (Nat.lt_of_succ_le h3) (Nat.le_of_succ_le_succ h2) (Nat.le_of_succ_le h3)
      · rw [if_neg hlt]
        exact ih (i + 1) fi0 fo hi' (Nat.lt_of_succ_lt_succ h1) (Nat.le_of_succ_le h2) (Nat.le_of_succ_le h3)

theorem GenerateRandomNumber_nth_draw (r : Rand) (j : Nat) (hj : j < 64)
    (hnf : ∀ i, i ≤ j → r.failAt ≠ some (r.reads + i))
    (hrej : ∀ i, i < j → ¬ (2 ^ 128 ≤ drawAt r i ∧ drawAt r i < 2 ^ 2048 - 1))
    (hacc : 2 ^ 128 ≤ drawAt r j ∧ drawAt r j < 2 ^ 2048 - 1) :
    Gen.security.GenerateRandomNumber secG r =
      .ok ({ r with reads := r.reads + (j + 1), pos := r.pos + 256 * (j + 1) }, drawAt r j) := by
  obtain ⟨hmin, hlt⟩ := (secG_between _).2 hacc
  have hfin : ∀ fi fo, 0 < fi →
      stepLoops secG fi fo (advanceBy 256 r j) = .ok (advanceBy 256 r (j + 1), drawAt r j, false) := by
    intro fi fo hfi
    cases fi with
    | zero => exact absurd hfi (Nat.lt_irrefl 0)
    | succ fi0 =>
      rw [stepLoops, randIntLoop_step, drawOf_eq_drawAt, if_neg (hnf j (Nat.le_refl _)), if_pos hlt, Res.bind_ok,
        afterInt_none, if_pos hmin]
  rw [GenerateRandomNumber_eq_stepLoops,
    stepLoops_skip r _ j (fun i hi => hnf i (Nat.le_of_lt hi)) (fun i hi h => hrej i hi ((secG_between _).1 h)) hfin
      j 0 64 63 (Nat.zero_add j) hj (Nat.le_of_lt_succ hj) (Nat.le_of_lt hj)]
  -- not `rfl`: the unifier would unfold `drawAt`, that is `cyc … 256`
  simp only [Res.bind_ok, advanceBy]

theorem GenerateRandomNumber_fail_at (r : Rand) (j : Nat) (hj : j < 64)
    (hf : r.failAt = some (r.reads + j))
    (hrej : ∀ i, i < j → ¬ (2 ^ 128 ≤ drawAt r i ∧ drawAt r i < 2 ^ 2048 - 1)) :
    Gen.security.GenerateRandomNumber secG r = .err := by
  have hnf : ∀ i, i < j → r.failAt ≠ some (r.reads + i) := by
    intro i hi h
    rw [hf, Option.some.injEq] at h
    exact Nat.ne_of_gt hi (Nat.add_left_cancel h)
  have hfin : ∀ fi fo, 0 < fi → stepLoops secG fi fo (advanceBy 256 r j) = .err := by
    intro fi fo hfi
    cases fi with
    | zero => exact absurd hfi (Nat.lt_irrefl 0)
    | succ fi0 =>
      rw [stepLoops, randIntLoop_step, if_pos hf]
      rfl
  rw [GenerateRandomNumber_eq_stepLoops,
    stepLoops_skip r _ j hnf (fun i hi h => hrej i hi ((secG_between _).1 h)) hfin j 0 64 63 (Nat.zero_add j) hj
      (Nat.le_of_lt_succ hj) (Nat.le_of_lt hj)]
  rfl

theorem GenerateRandomNumber_fail (r : Rand) (h : r.failAt = some r.reads) :
    Gen.security.GenerateRandomNumber secG r = .err :=
  GenerateRandomNumber_fail_at r 0 (Nat.succ_pos 63) h (fun i hi => absurd hi (Nat.not_lt_zero i))

theorem GenerateRandomNumber_first_draw (r : Rand) (hnf : r.failAt ≠ some r.reads) (d : Nat)
    (hd : d = beNat (cyc r.buf r.pos 256)) (hlo : 2 ^ 128 ≤ d) (hhi : d < 2 ^ 2048 - 1) :
    Gen.security.GenerateRandomNumber secG r = .ok ({ r with reads := r.reads + 1, pos := r.pos + 256 }, d) := by
  subst hd
  exact GenerateRandomNumber_nth_draw r 0 (Nat.succ_pos 63) (fun i hi => by rw [Nat.le_zero.1 hi]; exact hnf)
    (fun i hi => absurd hi (Nat.not_lt_zero i)) ⟨hlo, hhi⟩

/-- the translation's bound of 64 iterations (`Go.unboundedLoopFuel`) is reached only if the first 64 reads all
succeed and all 64 numbers are out of range -/
theorem GenerateRandomNumber_fault (r : Rand) (h : Gen.security.GenerateRandomNumber secG r = .fault) :
    ∀ j, j < 64 → r.failAt ≠ some (r.reads + j) ∧ ¬ (2 ^ 128 ≤ drawAt r j ∧ drawAt r j < 2 ^ 2048 - 1) := by
  intro j
  induction j using Nat.strongRecOn with
  | _ j ih =>
    intro hj
    have hprev : ∀ i, i < j →
        r.failAt ≠ some (r.reads + i) ∧ ¬ (2 ^ 128 ≤ drawAt r i ∧ drawAt r i < 2 ^ 2048 - 1) :=
      fun i hi => ih i hi (by omega)
    have h1 : r.failAt ≠ some (r.reads + j) := by
      intro hf
      rw [GenerateRandomNumber_fail_at r j hj hf (fun i hi => (hprev i hi).2)] at h
      cases h
    refine ⟨h1, ?_⟩
    intro hacc
    have hnf : ∀ i, i ≤ j → r.failAt ≠ some (r.reads + i) := by
      intro i hi
      by_cases hij : i < j
      · exact (hprev i hij).1
      · have : i = j := by omega
        subst this; exact h1
    rw [GenerateRandomNumber_nth_draw r j hj hnf (fun i hi => (hprev i hi).2) hacc] at h
    cases h

theorem CalculateDiffieHellmanMaterials_eq' (G : Gen.security.Globals) (r : Rand) (k : Gen.security.IKESAKey)
    (peer : Bytes) :
    Gen.security.CalculateDiffieHellmanMaterials G r k peer =
      (Gen.security.GenerateRandomNumber G r >>= fun x =>
        Gen.dh.DHType.GetPublicValue k.DhInfo x.2 >>= fun pub =>
        Gen.dh.DHType.GetSharedKey k.DhInfo x.2 (beNat peer) >>= fun sh => .ok (x.1, pub, sh)) := rfl

theorem CalculateDiffieHellmanMaterials_refines (r : Rand) (k : Gen.security.IKESAKey)
    (hk : RefineReg.DhWF k.DhInfo) (peer : Bytes) :
    Gen.security.CalculateDiffieHellmanMaterials secG r k peer =
      (Gen.security.GenerateRandomNumber secG r >>= fun x =>
        dhPub (RefineReg.absGroup k.DhInfo) x.2 >>= fun pub =>
        dhShared (RefineReg.absGroup k.DhInfo) x.2 (beNat peer) >>= fun sh => .ok (x.1, pub, sh)) := by
  rw [CalculateDiffieHellmanMaterials_eq']
  simp only [RefineReg.DHType_GetPublicValue_refines _ hk, RefineReg.DHType_GetSharedKey_refines _ hk]

/-- the method call on the nil group panics, once the exponent is drawn -/
theorem CalculateDiffieHellmanMaterials_nil (r : Rand) (k : Gen.security.IKESAKey) (hk : k.DhInfo = .nil_)
    (peer : Bytes) :
    Gen.security.CalculateDiffieHellmanMaterials secG r k peer =
      (Gen.security.GenerateRandomNumber secG r >>= fun _ => .fault) := by
  rw [CalculateDiffieHellmanMaterials_eq', hk]
  rfl

theorem dhPub_fixed (g : DhGroup) (hp : 0 < g.prime) (hl : g.prime ≤ 256 ^ g.len) (x : Nat) :
    dhPub g x = .ok (dhPubFixed g x) := by
  unfold dhPub dhPubFixed
  apply leftPad_natBytesMin
  rw [modPow_eq]
  exact Nat.lt_of_lt_of_le (Nat.mod_lt _ hp) hl

theorem dhShared_fixed (g : DhGroup) (hp : 0 < g.prime) (hl : g.prime ≤ 256 ^ g.len) (x peer : Nat) :
    dhShared g x peer = .ok (dhSharedFixed g x peer) := by
  unfold dhShared dhSharedFixed
  apply leftPad_natBytesMin
  rw [modPow_eq]
  exact Nat.lt_of_lt_of_le (Nat.mod_lt _ hp) hl

/-- the group of the object is one of the two `init` of package `dh` registers -/
def DhRegistered (d : Gen.dh.DHType) : Prop :=
  d = .Dh1024BitModp RefineReg.desc1024 ∨ d = .DH2048BitModp RefineReg.desc2048

theorem DhRegistered.wf {d : Gen.dh.DHType} (h : DhRegistered d) : RefineReg.DhWF d := by
  rcases h with rfl | rfl
  · exact RefineReg.desc1024_wf
  · exact RefineReg.desc2048_wf

theorem DhRegistered.ne_nil {d : Gen.dh.DHType} (h : DhRegistered d) : d ≠ .nil_ := by
  rcases h with h | h <;> subst h <;> intro e <;> cases e

theorem DhRegistered.group {d : Gen.dh.DHType} (h : DhRegistered d) :
    RefineReg.absGroup d = dhGroup2 ∨ RefineReg.absGroup d = dhGroup14 := by
  rcases h with h | h <;> subst h
  · exact Or.inl rfl
  · exact Or.inr rfl

theorem DhRegistered.pos {d : Gen.dh.DHType} (h : DhRegistered d) : 0 < (RefineReg.absGroup d).prime := by
  rcases h.group with e | e <;> rw [e] <;> decide +kernel

theorem DhRegistered.fits {d : Gen.dh.DHType} (h : DhRegistered d) :
    (RefineReg.absGroup d).prime ≤ 256 ^ (RefineReg.absGroup d).len := by
  rcases h.group with e | e <;> rw [e] <;> decide +kernel

theorem CalculateDiffieHellmanMaterials_registered (r : Rand) (k : Gen.security.IKESAKey)
    (hk : DhRegistered k.DhInfo) (peer : Bytes) :
    Gen.security.CalculateDiffieHellmanMaterials secG r k peer =
      (Gen.security.GenerateRandomNumber secG r >>= fun x =>
        .ok (x.1, dhPubFixed (RefineReg.absGroup k.DhInfo) x.2,
              dhSharedFixed (RefineReg.absGroup k.DhInfo) x.2 (beNat peer))) := by
  rw [CalculateDiffieHellmanMaterials_refines r k hk.wf]
  simp only [dhPub_fixed _ hk.pos hk.fits, dhShared_fixed _ hk.pos hk.fits, Res.bind_ok]

theorem CalculateDiffieHellmanMaterials_ok (r r' : Rand) (k : Gen.security.IKESAKey)
    (hk : RefineReg.DhWF k.DhInfo) (peer pub sh : Bytes)
    (h : Gen.security.CalculateDiffieHellmanMaterials secG r k peer = .ok (r', pub, sh)) :
    ∃ x : Nat, Gen.security.GenerateRandomNumber secG r = .ok (r', x) ∧ 2 ^ 128 ≤ x ∧ x < 2 ^ 2048 - 1 ∧
      dhPub (RefineReg.absGroup k.DhInfo) x = .ok pub ∧
      dhShared (RefineReg.absGroup k.DhInfo) x (beNat peer) = .ok sh := by
  rw [CalculateDiffieHellmanMaterials_refines r k hk] at h
  obtain ⟨⟨r1, x⟩, hg, h⟩ := Res.bind_eq_ok h
  obtain ⟨p, hp, h⟩ := Res.bind_eq_ok h
  obtain ⟨s, hs, h⟩ := Res.bind_eq_ok h
  cases h
  obtain ⟨q1, q2⟩ := GenerateRandomNumber_range r _ x hg
  exact ⟨x, hg, q1, q2, hp, hs⟩

theorem CalculateDiffieHellmanMaterials_ok_1024 (r r' : Rand) (k : Gen.security.IKESAKey)
    (hk : k.DhInfo = .Dh1024BitModp RefineReg.desc1024) (peer pub sh : Bytes)
    (h : Gen.security.CalculateDiffieHellmanMaterials secG r k peer = .ok (r', pub, sh)) :
    ∃ x : Nat, Gen.security.GenerateRandomNumber secG r = .ok (r', x) ∧ 2 ^ 128 ≤ x ∧ x < 2 ^ 2048 - 1 ∧
      dhPub dhGroup2 x = .ok pub ∧ dhShared dhGroup2 x (beNat peer) = .ok sh := by
  have := CalculateDiffieHellmanMaterials_ok r r' k (hk ▸ RefineReg.desc1024_wf) peer pub sh h
  rwa [hk] at this

theorem CalculateDiffieHellmanMaterials_ok_2048 (r r' : Rand) (k : Gen.security.IKESAKey)
    (hk : k.DhInfo = .DH2048BitModp RefineReg.desc2048) (peer pub sh : Bytes)
    (h : Gen.security.CalculateDiffieHellmanMaterials secG r k peer = .ok (r', pub, sh)) :
    ∃ x : Nat, Gen.security.GenerateRandomNumber secG r = .ok (r', x) ∧ 2 ^ 128 ≤ x ∧ x < 2 ^ 2048 - 1 ∧
      dhPub dhGroup14 x = .ok pub ∧ dhShared dhGroup14 x (beNat peer) = .ok sh := by
  have := CalculateDiffieHellmanMaterials_ok r r' k (hk ▸ RefineReg.desc2048_wf) peer pub sh h
  rwa [hk] at this

theorem CalculateDiffieHellmanMaterials_fail (r : Rand) (hf : r.failAt = some r.reads)
    (k : Gen.security.IKESAKey) (peer : Bytes) :
    Gen.security.CalculateDiffieHellmanMaterials secG r k peer = .err := by
  rw [CalculateDiffieHellmanMaterials_eq', GenerateRandomNumber_fail r hf]
  rfl

theorem NewIKESAKey_refuses (P : Prims) (G : Gen.security.Globals) (Gdh : Gen.dh.Globals) (Gencr : Gen.encr.Globals)
    (Ginteg : Gen.integ.Globals) (Gprf : Gen.prf.Globals) (r : Rand) (po : Option Proposal)
    (ke nonce : Bytes) (si sr : UInt64)
    (h : po = none ∨ ∃ p, po = some p ∧ (p.dh = [] ∨ p.encr = [] ∨ p.integ = [] ∨ p.prf = [])) :
    Gen.security.NewIKESAKey P G Gdh Gencr Ginteg Gprf r po ke nonce si sr = .err := by
  rcases h with h | ⟨p, hp, h⟩
  · subst h; rfl
  · subst hp
    unfold Gen.security.NewIKESAKey
    simp only [Option.isNone_some, Option.getD_some, Bool.false_eq_true, if_false, ite_err_or]
    refine if_pos ?_
    rcases h with h | h | h | h
    · exact Or.inl (by rw [h]; rfl)
    · exact Or.inr (Or.inl (by rw [h]; rfl))
    · exact Or.inr (Or.inr (Or.inl (by rw [h]; rfl)))
    · exact Or.inr (Or.inr (Or.inr (by rw [h]; rfl)))

theorem indexN_head {α : Type} [Inhabited α] (l : List α) (x : α) (h : l.head? = some x) :
    Go.indexN l 0 = .ok x ∧ l.length ≠ 0 := by
  cases l with
  | nil => cases h
  | cons y ys =>
    simp only [List.head?_cons, Option.some.injEq] at h
    subst h
    simp [Go.indexN]

/-- for any globals: the FIRST transform of each list is decoded, in the order DH, encryption,
integrity, PRF; a nil DH, encryption or PRF descriptor is refused on the spot; the test after decoding the
integrity transform re-tests the ENCRYPTION descriptor (security.go:167, a slip of the source), so it never
fires and a nil integrity descriptor goes on -/
theorem NewIKESAKey_eq (P : Prims) (G : Gen.security.Globals) (Gdh : Gen.dh.Globals) (Gencr : Gen.encr.Globals)
    (Ginteg : Gen.integ.Globals) (Gprf : Gen.prf.Globals) (r : Rand) (p : Proposal)
    (td te ti tp : Transform) (hd : p.dh.head? = some td) (he : p.encr.head? = some te)
    (hi : p.integ.head? = some ti) (hp : p.prf.head? = some tp)
    (ke nonce : Bytes) (si sr : UInt64) :
    Gen.security.NewIKESAKey P G Gdh Gencr Ginteg Gprf r (some p) ke nonce si sr =
      (Gen.dh.DecodeTransform Gdh td >>= fun d =>
        if d = .nil_ then .err else
        Gen.encr.DecodeTransform Gencr te >>= fun e =>
        if e = .nil_ then .err else
        Gen.integ.DecodeTransform Ginteg ti >>= fun i =>
        Gen.prf.DecodeTransform Gprf tp >>= fun f =>
        if f = .nil_ then .err else
        Gen.security.CalculateDiffieHellmanMaterials G r
            { DhInfo := d, EncrInfo := e, IntegInfo := i, PrfInfo := f } ke >>= fun m =>
        Gen.security.IKESAKey.GenerateKeyForIKESA P
            (some { DhInfo := d, EncrInfo := e, IntegInfo := i, PrfInfo := f }) nonce m.2.2 si sr >>= fun k' =>
        .ok (m.1, k', m.2.1)) := by
  obtain ⟨d1, d2⟩ := indexN_head _ _ hd
  obtain ⟨e1, e2⟩ := indexN_head _ _ he
  obtain ⟨i1, i2⟩ := indexN_head _ _ hi
  obtain ⟨p1, p2⟩ := indexN_head _ _ hp
  unfold Gen.security.NewIKESAKey
  simp only [Option.isNone_some, Option.getD_some, Bool.false_eq_true, if_false, d1, d2, e1, e2, i1, i2, p1, p2,
    Res.bind_ok]
  refine bind_congr fun d => ?_
  by_cases hdn : d = .nil_
  · simp only [if_pos hdn]
  simp only [if_neg hdn]
  refine bind_congr fun e => ?_
  by_cases hen : e = .nil_
  · simp only [if_pos hen]
  simp only [if_neg hen]

/-! the four decoders on the initialised registries, as total functions -/

def decDh (t : Transform) : Gen.dh.DHType :=
  if t.tid = 2 then .Dh1024BitModp RefineReg.desc1024
  else if t.tid = 14 then .DH2048BitModp RefineReg.desc2048 else .nil_

def decEncr (t : Transform) : Gen.encr.ENCRType :=
  if t.tid = 12 then if t.atype = 14 then
    (if t.aval = 128 then .EncrAesCbc ⟨16⟩ else if t.aval = 192 then .EncrAesCbc ⟨24⟩
     else if t.aval = 256 then .EncrAesCbc ⟨32⟩ else .nil_) else .nil_ else .nil_

def decInteg (t : Transform) : Gen.integ.INTEGType :=
  if t.tid = 1 then .AuthHmacMd5_95 ⟨16, 12⟩ else if t.tid = 2 then .AuthHmacSha1_96 ⟨20, 12⟩
  else if t.tid = 12 then .AuthHmacSha2_256_128 ⟨32, 16⟩ else .nil_

def decPrf (t : Transform) : Gen.prf.PRFType :=
  if t.tid = 1 then .PrfHmacMd5 ⟨16, 16⟩ else if t.tid = 2 then .PrfHmacSha1 ⟨20, 20⟩
  else if t.tid = 5 then .PrfHmacSha2_256 ⟨32, 32⟩ else .nil_

theorem dh_DecodeTransform_eval (t : Transform) : Gen.dh.DecodeTransform RefineReg.dhG t = .ok (decDh t) := by
  rw [RefineReg.dhG_eq]
  unfold Gen.dh.DecodeTransform RefineReg.dhGExplicit decDh
  simp only [Go.mapGet, Go.mapGetList]
  by_cases h2 : t.tid = 2
  · simp [h2, Gen.dh.toString_DH_1024_BIT_MODP, RefineReg.name1024, RefineReg.name2048]
  · have h2' : ¬ (2 : UInt16) = t.tid := fun h => h2 h.symm
    by_cases h14 : t.tid = 14
    · simp [h14, Gen.dh.toString_DH_2048_BIT_MODP, RefineReg.name1024, RefineReg.name2048]
    · have h14' : ¬ (14 : UInt16) = t.tid := fun h => h14 h.symm
      simp [h2, h14, h2', h14']

theorem encr_DecodeTransform_eval' (t : Transform) :
    Gen.encr.DecodeTransform RefineReg.encrG t = .ok (decEncr t) := RefineReg.encr_DecodeTransform_eval t
theorem integ_DecodeTransform_eval' (t : Transform) :
    Gen.integ.DecodeTransform RefineReg.integG t = .ok (decInteg t) := RefineReg.integ_DecodeTransform_eval t
theorem prf_DecodeTransform_eval' (t : Transform) :
    Gen.prf.DecodeTransform RefineReg.prfG t = .ok (decPrf t) := RefineReg.prf_DecodeTransform_eval t

theorem decDh_registered (t : Transform) (h : decDh t ≠ .nil_) : DhRegistered (decDh t) := by
  unfold decDh at h ⊢
  by_cases h2 : t.tid = 2
  · rw [if_pos h2]; exact Or.inl rfl
  rw [if_neg h2] at h ⊢
  rw [if_pos (ite_ne_else h)]; exact Or.inr rfl

theorem decEncr_registered (t : Transform) (h : decEncr t ≠ .nil_) :
    decEncr t = .EncrAesCbc ⟨16⟩ ∨ decEncr t = .EncrAesCbc ⟨24⟩ ∨ decEncr t = .EncrAesCbc ⟨32⟩ := by
  unfold decEncr at h ⊢
  have h12 := ite_ne_else h
  rw [if_pos h12] at h ⊢
  have h14 := ite_ne_else h
  rw [if_pos h14] at h ⊢
  exact ite3_ne_else rfl h

theorem decInteg_registered (t : Transform) (h : decInteg t ≠ .nil_) :
    decInteg t = .AuthHmacMd5_95 ⟨16, 12⟩ ∨ decInteg t = .AuthHmacSha1_96 ⟨20, 12⟩ ∨
      decInteg t = .AuthHmacSha2_256_128 ⟨32, 16⟩ :=
  ite3_ne_else rfl h

theorem decPrf_registered (t : Transform) (h : decPrf t ≠ .nil_) :
    decPrf t = .PrfHmacMd5 ⟨16, 16⟩ ∨ decPrf t = .PrfHmacSha1 ⟨20, 20⟩ ∨ decPrf t = .PrfHmacSha2_256 ⟨32, 32⟩ :=
  ite3_ne_else rfl h

/-- the object `NewIKESAKey` hands to `GenerateKeyForIKESA`: the four decoded descriptors, nothing else -/
def saOfTransforms (td te ti tp : Transform) : Gen.security.IKESAKey :=
  { DhInfo := decDh td, EncrInfo := decEncr te, IntegInfo := decInteg ti, PrfInfo := decPrf tp }

theorem NewIKESAKey_init_eq (P : Prims) (r : Rand) (p : Proposal)
    (td te ti tp : Transform) (hd : p.dh.head? = some td) (he : p.encr.head? = some te)
    (hi : p.integ.head? = some ti) (hp : p.prf.head? = some tp)
    (ke nonce : Bytes) (si sr : UInt64) :
    Gen.security.NewIKESAKey P secG RefineReg.dhG RefineReg.encrG RefineReg.integG RefineReg.prfG r (some p)
        ke nonce si sr =
      (if decDh td = .nil_ then .err else
       if decEncr te = .nil_ then .err else
       if decPrf tp = .nil_ then .err else
        Gen.security.CalculateDiffieHellmanMaterials secG r (saOfTransforms td te ti tp) ke >>= fun m =>
        Gen.security.IKESAKey.GenerateKeyForIKESA P (some (saOfTransforms td te ti tp)) nonce m.2.2 si sr
          >>= fun k' => .ok (m.1, k', m.2.1)) := by
  rw [NewIKESAKey_eq P _ _ _ _ _ r p td te ti tp hd he hi hp, dh_DecodeTransform_eval,
    encr_DecodeTransform_eval', integ_DecodeTransform_eval', prf_DecodeTransform_eval']
  simp only [Res.bind_ok, saOfTransforms]

theorem NewIKESAKey_unsupported (P : Prims) (r : Rand) (p : Proposal)
    (td te ti tp : Transform) (hd : p.dh.head? = some td) (he : p.encr.head? = some te)
    (hi : p.integ.head? = some ti) (hp : p.prf.head? = some tp)
    (h : decDh td = .nil_ ∨ decEncr te = .nil_ ∨ decPrf tp = .nil_)
    (ke nonce : Bytes) (si sr : UInt64) :
    Gen.security.NewIKESAKey P secG RefineReg.dhG RefineReg.encrG RefineReg.integG RefineReg.prfG r (some p)
        ke nonce si sr = .err := by
  rw [NewIKESAKey_init_eq P r p td te ti tp hd he hi hp]
  rcases h with h | h | h <;> simp only [h, if_true] <;> (repeat' split) <;> rfl

/-- an unsupported INTEGRITY transform with everything else supported is not refused by `NewIKESAKey`'s own test
(which looks at `EncrInfo` again): the private exponent is drawn and the two modular powers are computed first;
only then `GenerateKeyForIKESA` refuses the nil `IntegInfo`.  The result is an error all the same -/
theorem NewIKESAKey_unsupported_integ (P : Prims) (r : Rand) (p : Proposal)
    (td te ti tp : Transform) (hd : p.dh.head? = some td) (he : p.encr.head? = some te)
    (hi : p.integ.head? = some ti) (hp : p.prf.head? = some tp)
    (hdn : decDh td ≠ .nil_) (hen : decEncr te ≠ .nil_) (hpn : decPrf tp ≠ .nil_) (hin : decInteg ti = .nil_)
    (ke nonce : Bytes) (si sr : UInt64) :
    Gen.security.NewIKESAKey P secG RefineReg.dhG RefineReg.encrG RefineReg.integG RefineReg.prfG r (some p)
        ke nonce si sr =
      (Gen.security.GenerateRandomNumber secG r >>= fun _ => .err) := by
  rw [NewIKESAKey_init_eq P r p td te ti tp hd he hi hp, if_neg hdn, if_neg hen, if_neg hpn]
  have hreg : DhRegistered (saOfTransforms td te ti tp).DhInfo := decDh_registered td hdn
  rw [CalculateDiffieHellmanMaterials_registered r _ hreg]
  cases Gen.security.GenerateRandomNumber secG r with
  | err => rfl
  | fault => rfl
  | ok x =>
    simp only [Res.bind_ok]
    rw [GenerateKeyForIKESA_missing P _ (Or.inr (Or.inl hin))]
    rfl

theorem NewIKESAKey_unsupported_integ_not_ok (P : Prims) (r : Rand) (p : Proposal)
    (td te ti tp : Transform) (hd : p.dh.head? = some td) (he : p.encr.head? = some te)
    (hi : p.integ.head? = some ti) (hp : p.prf.head? = some tp)
    (hdn : decDh td ≠ .nil_) (hen : decEncr te ≠ .nil_) (hpn : decPrf tp ≠ .nil_) (hin : decInteg ti = .nil_)
    (ke nonce : Bytes) (si sr : UInt64) :
    (Gen.security.NewIKESAKey P secG RefineReg.dhG RefineReg.encrG RefineReg.integG RefineReg.prfG r (some p)
        ke nonce si sr = .err ∧ Gen.security.GenerateRandomNumber secG r ≠ .fault) ∨
    (Gen.security.NewIKESAKey P secG RefineReg.dhG RefineReg.encrG RefineReg.integG RefineReg.prfG r (some p)
        ke nonce si sr = .fault ∧ Gen.security.GenerateRandomNumber secG r = .fault) := by
  rw [NewIKESAKey_unsupported_integ P r p td te ti tp hd he hi hp hdn hen hpn hin]
  cases Gen.security.GenerateRandomNumber secG r with
  | err => exact Or.inl ⟨rfl, fun h => by cases h⟩
  | fault => exact Or.inr ⟨rfl, rfl⟩
  | ok x => exact Or.inl ⟨rfl, fun h => by cases h⟩

/-- a key object `NewIKESAKey` returns: all four first transforms were supported, the exponent was drawn from
the source and is in range, the public value and the shared secret are those of the RFC group for that exponent,
the keys are those the model derives from that shared secret, and the object is well-formed -/
theorem NewIKESAKey_ok_wf (P : Prims) (hP : P.Lawful) (r r' : Rand) (p : Proposal)
    (td te ti tp : Transform) (hd : p.dh.head? = some td) (he : p.encr.head? = some te)
    (hi : p.integ.head? = some ti) (hp : p.prf.head? = some tp)
    (ke nonce : Bytes) (si sr : UInt64) (k' : Gen.security.IKESAKey) (pub : Bytes)
    (h : Gen.security.NewIKESAKey P secG RefineReg.dhG RefineReg.encrG RefineReg.integG RefineReg.prfG r (some p)
        ke nonce si sr = .ok (r', k', pub)) :
    SaRegistered (saOfTransforms td te ti tp) ∧ DhRegistered (decDh td) ∧
    SaWF k' ∧ SaRegistered k' ∧
    k'.DhInfo = decDh td ∧ k'.EncrInfo = decEncr te ∧ k'.IntegInfo = decInteg ti ∧ k'.PrfInfo = decPrf tp ∧
    ∃ x : Nat, Gen.security.GenerateRandomNumber secG r = .ok (r', x) ∧ 2 ^ 128 ≤ x ∧ x < 2 ^ 2048 - 1 ∧
      dhPub (RefineReg.absGroup (decDh td)) x = .ok pub ∧
      pub = dhPubFixed (RefineReg.absGroup (decDh td)) x ∧
      dhShared (RefineReg.absGroup (decDh td)) x (beNat ke) =
        .ok (dhSharedFixed (RefineReg.absGroup (decDh td)) x (beNat ke)) ∧
      Gen.security.IKESAKey.GenerateKeyForIKESA P (some (saOfTransforms td te ti tp)) nonce
        (dhSharedFixed (RefineReg.absGroup (decDh td)) x (beNat ke)) si sr = .ok k' ∧
      genKeyForIKESA P (absSa (saOfTransforms td te ti tp)) nonce
        (dhSharedFixed (RefineReg.absGroup (decDh td)) x (beNat ke)) si sr = (absSa k', .ok ()) := by
  rw [NewIKESAKey_init_eq P r p td te ti tp hd he hi hp] at h
  by_cases hdn : decDh td = .nil_
  · rw [if_pos hdn] at h; cases h
  by_cases hen : decEncr te = .nil_
  · rw [if_neg hdn, if_pos hen] at h; cases h
  by_cases hpn : decPrf tp = .nil_
  · rw [if_neg hdn, if_neg hen, if_pos hpn] at h; cases h
  have hreg : DhRegistered (saOfTransforms td te ti tp).DhInfo := decDh_registered td hdn
  rw [if_neg hdn, if_neg hen, if_neg hpn, CalculateDiffieHellmanMaterials_registered r _ hreg, Res.bind_assoc] at h
  obtain ⟨⟨r1, x⟩, hg, h⟩ := Res.bind_eq_ok h
  rw [Res.bind_ok] at h
  obtain ⟨k1, hk, h⟩ := Res.bind_eq_ok h
  cases h
  by_cases hin : decInteg ti = .nil_
  · rw [GenerateKeyForIKESA_missing P _ (Or.inr (Or.inl hin))] at hk; cases hk
  have hsr : SaRegistered (saOfTransforms td te ti tp) :=
    ⟨decEncr_registered te hen, decInteg_registered ti hin, decPrf_registered tp hpn, hdn⟩
  obtain ⟨w, e1, e2, e3, e4⟩ := GenerateKeyForIKESA_wf P _ hsr nonce _ si sr _ hk
  obtain ⟨q1, q2⟩ := GenerateRandomNumber_range r _ x hg
  exact ⟨hsr, hreg, w, GenerateKeyForIKESA_registered P _ hsr nonce _ si sr _ hk, e4, e1, e2, e3, x, hg, q1, q2,
    dhPub_fixed _ hreg.pos hreg.fits x, rfl, dhShared_fixed _ hreg.pos hreg.fits x _, hk,
    GenerateKeyForIKESA_ok_model P hP _ hsr.descOk nonce _ si sr _ hk⟩

end Ike.RefineSa
