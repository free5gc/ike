import IkeProofs.RefineSa.Basic
import IkeModel.GenAbsSa

/-! `Gen.ike.calculateIntegrity` (ike.go:91), which both directions of `ike.go` call, against the model's
`calcIntegrity`.

What is asked of the integrity descriptor: not nil, and its `outputLength` (a Go `int`) not negative.  The second
is needed (`Enc.calculateIntegrity_needs_outLen`): with a negative length the translated code panics (slice bound)
where the model, whose lengths are `Nat`, carries on with length 0.  `Dec.IntegOk` says the same through
`GetOutputLength`.

The file defines `IntegRegistered` and, under the namespaces of the two files that state their results with them,
`Enc.outLenI`, `Enc.macFed` (Protect) and `Dec.IntegOk`, `Dec.afterInteg` (Unprotect); the lemmas both sides use are in
`Ike.RefineSa`. -/

namespace Ike.RefineSa

/-- the integrity descriptor is one the translated registry registers (`integG_integTypes`) -/
def IntegRegistered (i : Gen.integ.INTEGType) : Prop :=
  i = .AuthHmacMd5_95 ⟨16, 12⟩ ∨ i = .AuthHmacSha1_96 ⟨20, 12⟩ ∨ i = .AuthHmacSha2_256_128 ⟨32, 16⟩

end Ike.RefineSa

namespace Ike.RefineSa.Enc
open Ike Ike.GenAbsSa

/-- what the translated `INTEGType.GetOutputLength` returns (0 for the nil descriptor, on which it faults) -/
def outLenI : Gen.integ.INTEGType → Int
  | .nil_ => 0
  | .AuthHmacMd5_95 v => v.outputLength
  | .AuthHmacSha1_96 v => v.outputLength
  | .AuthHmacSha2_256_128 v => v.outputLength

theorem GetOutputLength_eq (i : Gen.integ.INTEGType) (hi : i ≠ .nil_) :
    Gen.integ.INTEGType.GetOutputLength i = .ok (outLenI i) := by
  cases i with
  | nil_ => exact absurd rfl hi
  | AuthHmacMd5_95 v => rfl
  | AuthHmacSha1_96 v => rfl
  | AuthHmacSha2_256_128 v => rfl

theorem absIntegInfo_outLen (i : Gen.integ.INTEGType) : (absIntegInfo i).outLen = (outLenI i).toNat := by
  cases i <;> rfl

theorem absSa_outLen (k : Gen.security.IKESAKey) : (absSa k).integInfo.outLen = (outLenI k.IntegInfo).toNat :=
  absIntegInfo_outLen k.IntegInfo

theorem outLenI_registered (i : Gen.integ.INTEGType) (h : IntegRegistered i) : i ≠ .nil_ ∧ 0 ≤ outLenI i := by
  rcases h with rfl | rfl | rfl <;> exact ⟨(by intro h; cases h), (by decide)⟩

/-- the object `calculateIntegrity` leaves behind: `k` with the hash object of the chosen direction reset and fed `d` -/
def macFed (k : Gen.security.IKESAKey) (role : Bool) (d : Bytes) : Gen.security.IKESAKey :=
  if role = true then { k with Integ_i := Go.Mac.write (Go.Mac.reset k.Integ_i) d }
  else { k with Integ_r := Go.Mac.write (Go.Mac.reset k.Integ_r) d }

end Ike.RefineSa.Enc

namespace Ike.RefineSa.Dec
open Ike Ike.GenAbsSa

/-- the integrity descriptor is not nil and its output length is not negative -/
def IntegOk (i : Gen.integ.INTEGType) : Prop :=
  ∃ n : Nat, Gen.integ.INTEGType.GetOutputLength i = .ok (n : Int)

/-- the object `calculateIntegrity` leaves: the hash object of the given direction holds the signed octets -/
def afterInteg (k : Gen.security.IKESAKey) (role : Bool) (d : Bytes) : Gen.security.IKESAKey :=
  if role then { k with Integ_i := { k.Integ_i with buf := d } }
  else { k with Integ_r := { k.Integ_r with buf := d } }

end Ike.RefineSa.Dec

namespace Ike.RefineSa
open Ike Ike.GenAbsSa Enc Dec

theorem afterInteg_eq_macFed (k : Gen.security.IKESAKey) (role : Bool) (d : Bytes) :
    afterInteg k role d = macFed k role d := by
  cases role <;> rfl

theorem IntegOk_iff_outLenI (i : Gen.integ.INTEGType) : IntegOk i ↔ i ≠ .nil_ ∧ 0 ≤ outLenI i := by
  constructor
  · rintro ⟨n, hn⟩
    have hi : i ≠ .nil_ := by rintro rfl; cases hn
    rw [GetOutputLength_eq i hi, Res.ok.injEq] at hn
    exact ⟨hi, by omega⟩
  · rintro ⟨hi, hol⟩
    exact ⟨(outLenI i).toNat, by rw [GetOutputLength_eq i hi, Int.toNat_of_nonneg hol]⟩

theorem calculateIntegrity_eq (P : Prims) (k : Gen.security.IKESAKey) (hi : k.IntegInfo ≠ .nil_)
    (role : Bool) (d : Bytes) :
    Gen.ike.calculateIntegrity P k role d =
      if Go.Mac.isNil (if role then k.Integ_i else k.Integ_r) = true then .err else
      (Go.sliceTo (P.mac (if role then k.Integ_i else k.Integ_r).h (if role then k.Integ_i else k.Integ_r).key d)
        (outLenI k.IntegInfo)) >>= fun c => .ok (macFed k role d, c) := by
  unfold Gen.ike.calculateIntegrity
  rw [GetOutputLength_eq _ hi]
  cases role <;> simp only [Res.bind_ok, Bool.false_eq_true, if_false, if_true] <;> rfl

theorem calcIntegrity_absSa (P : Prims) (k : Gen.security.IKESAKey) (role : Bool) (d : Bytes) :
    calcIntegrity P (absSa k) role d =
      (absSa (macFed k role d),
       goTo (P.mac (if role then k.Integ_i else k.Integ_r).h (if role then k.Integ_i else k.Integ_r).key d)
        (absIntegInfo k.IntegInfo).outLen) := by
  cases role <;> rfl

/-- only the buffer of one hash object changes: `Go.Mac.write (Go.Mac.reset m) d = { m with buf := d }` -/
theorem calculateIntegrity_frame (P : Prims) (k k' : Gen.security.IKESAKey) (role : Bool) (d c : Bytes)
    (h : Gen.ike.calculateIntegrity P k role d = .ok (k', c)) : k' = macFed k role d := by
  by_cases hi : k.IntegInfo = .nil_
  · unfold Gen.ike.calculateIntegrity at h
    rw [hi] at h
    cases h
  · rw [calculateIntegrity_eq P k hi] at h
    by_cases hn : Go.Mac.isNil (if role then k.Integ_i else k.Integ_r) = true
    · rw [if_pos hn] at h; cases h
    · rw [if_neg hn] at h
      obtain ⟨c', _, h⟩ := Res.bind_eq_ok h
      cases h
      rfl

theorem macFed_SaWF (k : Gen.security.IKESAKey) (hk : SaWF k) (role : Bool) (d : Bytes) : SaWF (macFed k role d) := by
  cases role
  · exact ⟨hk.encr, hk.integ, hk.prf, hk.integ_i, hk.integ_r, hk.prf_d, hk.encr_i, hk.encr_r⟩
  · exact ⟨hk.encr, hk.integ, hk.prf, hk.integ_i, hk.integ_r, hk.prf_d, hk.encr_i, hk.encr_r⟩

theorem integObj_not_nil {k : Gen.security.IKESAKey} (hi : Go.Mac.isNil k.Integ_i = false)
    (hr : Go.Mac.isNil k.Integ_r = false) (role : Bool) :
    Go.Mac.isNil (if role then k.Integ_i else k.Integ_r) = false := by
  cases role
  · exact hr
  · exact hi

theorem outLenI_eq_cast {i : Gen.integ.INTEGType} (hol : 0 ≤ outLenI i) :
    outLenI i = ((absIntegInfo i).outLen : Int) := by
  rw [absIntegInfo_outLen, Int.toNat_of_nonneg hol]

theorem calculateIntegrity_goTo (P : Prims) (k : Gen.security.IKESAKey) (hi : k.IntegInfo ≠ .nil_)
    (hol : 0 ≤ outLenI k.IntegInfo) (role : Bool)
    (hn : Go.Mac.isNil (if role then k.Integ_i else k.Integ_r) = false) (d : Bytes) :
    Gen.ike.calculateIntegrity P k role d =
      (goTo (P.mac (if role then k.Integ_i else k.Integ_r).h (if role then k.Integ_i else k.Integ_r).key d)
        (absIntegInfo k.IntegInfo).outLen) >>= fun c => .ok (macFed k role d, c) := by
  rw [calculateIntegrity_eq P k hi, hn, if_neg Bool.false_ne_true, outLenI_eq_cast hol, sliceTo_nat]

theorem calculateIntegrity_refines (P : Prims) (k : Gen.security.IKESAKey) (hi : k.IntegInfo ≠ .nil_)
    (hol : 0 ≤ outLenI k.IntegInfo) (role : Bool)
    (hn : Go.Mac.isNil (if role then k.Integ_i else k.Integ_r) = false) (d : Bytes) :
    (Gen.ike.calculateIntegrity P k role d).map (fun x => (absSa x.1, x.2)) =
      (match calcIntegrity P (absSa k) role d with
       | (sa', .ok c) => .ok (sa', c) | (_, .err) => .err | (_, .fault) => .fault) := by
  rw [calculateIntegrity_goTo P k hi hol role hn, calcIntegrity_absSa]
  cases goTo (P.mac (if role then k.Integ_i else k.Integ_r).h (if role then k.Integ_i else k.Integ_r).key d)
    (absIntegInfo k.IntegInfo).outLen <;> rfl

end Ike.RefineSa

namespace Ike.RefineSa.Enc
open Ike Ike.GenAbsSa

/-- the hypothesis on the output length is needed: with a negative one Go's `calculatedChecksum[:outputLen]` panics
(the translation faults), while the model's `Nat` length is 0 and it returns the empty checksum -/
theorem calculateIntegrity_needs_outLen (P : Prims) (k : Gen.security.IKESAKey) (hi : k.IntegInfo ≠ .nil_)
    (hneg : outLenI k.IntegInfo < 0) (hni : Go.Mac.isNil k.Integ_i = false) (d : Bytes) :
    Gen.ike.calculateIntegrity P k true d = .fault ∧ (calcIntegrity P (absSa k) true d).2 = .ok [] := by
  constructor
  · rw [calculateIntegrity_eq P k hi]
    simp only [if_true, hni, Bool.false_eq_true, if_false]
    unfold Go.sliceTo
    rw [if_neg (by omega)]
    rfl
  · unfold calcIntegrity
    simp only [if_true, absSa_outLen]
    have : (outLenI k.IntegInfo).toNat = 0 := by omega
    rw [this]
    simp [goTo]

end Ike.RefineSa.Enc
