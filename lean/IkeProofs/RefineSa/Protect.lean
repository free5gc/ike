import IkeProofs.RefineSa.Integrity
import IkeProofs.Refine.Glue
import IkeProofs.Refine.Build
import IkeProofs.RefineReg.Registries
import IkeProofs.RefineReg.Cbc

/-! The sending side of `ike.go` as translated (`Gen.ike.encryptPayload`, `encryptMsg`, `EncodeEncrypt`) ⊑ the
hand-written `encryptPayload`, `protect`, `encodePlain`, under `SaWF k`, `P.Lawful` (only `enc_len`, through
`Encrypt_refines`) and a non-negative output length of the integrity descriptor (`Integrity.lean`).

The view `sk` of the container element written through `sk.EncryptedData[len-cl:]` (`Go.copyInto` on the window,
`Go.splice` back, `Go.setAt` into the container) is the model's `setTail` inside the single SK payload
(`splice_setTail`, `sealBody_eq`).  Defines `Enc.sealMsg`, the model of `encryptMsg`. -/

namespace Ike.RefineSa.Enc
open Ike Ike.GenAbsSa Ike.Gen.message Ike.Refine Ike.RefineReg

/-- `RefineSa.calculateIntegrity_refines` under the hypotheses this side has at hand -/
theorem calculateIntegrity_refines (P : Prims) (k : Gen.security.IKESAKey) (hi : k.IntegInfo ≠ .nil_)
    (hol : 0 ≤ outLenI k.IntegInfo)
    (hni : Go.Mac.isNil k.Integ_i = false) (hnr : Go.Mac.isNil k.Integ_r = false) (role : Bool) (d : Bytes) :
    (Gen.ike.calculateIntegrity P k role d).map (fun x => (absSa x.1, x.2)) =
      (match calcIntegrity P (absSa k) role d with
       | (sa', .ok c) => .ok (sa', c) | (_, .err) => .err | (_, .fault) => .fault) :=
  RefineSa.calculateIntegrity_refines P k hi hol role (integObj_not_nil hni hnr role) d

theorem absSa_macFed (P : Prims) (k : Gen.security.IKESAKey) (role : Bool) (d : Bytes) :
    absSa (macFed k role d) = (calcIntegrity P (absSa k) role d).1 := by
  rw [calcIntegrity_absSa]

theorem encryptPayload_refines (P : Prims) (hP : P.Lawful) (k : Gen.security.IKESAKey) (hk : SaWF k) (role : Bool)
    (r : Rand) (plain : Bytes) :
    Gen.ike.encryptPayload P r plain k role =
      (match encryptPayload P (absSa k) role r plain with
       | (r', .ok b) => .ok (r', b) | (_, .err) => .err | (_, .fault) => .fault) := by
  unfold Gen.ike.encryptPayload encryptPayload
  cases role with
  | true =>
    simp only [if_true]
    rw [Encrypt_refines P hP r k.Encr_i hk.encr_i.2.1 hk.encr_i.2.2]
    exact bind_ok_id _
  | false =>
    simp only [Bool.false_eq_true, if_false]
    rw [Encrypt_refines P hP r k.Encr_r hk.encr_r.2.1 hk.encr_r.2.2]
    exact bind_ok_id _

theorem absMsg_rep (m : Msg) : GenAbs.absMsg (GenAbs.repMsg m) = some m := by
  unfold GenAbs.absMsg GenAbs.repMsg
  simp only [absPayloads_rep, Option.map_some, absHeader_rep]

private theorem bind_pair_eq (x : Res Bytes) (h : Header) (gm : IKEMessage) (ps : List Payload)
    (hm : gm = GenAbs.repMsg ⟨h, ps⟩) :
    (x >>= fun t2 => Res.ok (gm, t2)) =
      ((x >>= fun bs => Res.ok (bs, h)) >>= fun x => Res.ok (GenAbs.repMsg ⟨x.2, ps⟩, x.1)) := by
  cases x <;> simp [hm]

/-- `IKEMessage.Encode` only rewrites the header (NextPayload, PayloadBytes): the returned message is the input's
payload list under the header `encodeMsg` returns -/
theorem Encode_rep (m : Msg) :
    IKEMessage.Encode (GenAbs.repMsg m) =
      (encodeMsg m) >>= fun x => Res.ok (GenAbs.repMsg ⟨x.2, m.payloads⟩, x.1) := by
  unfold IKEMessage.Encode encodeMsg GenAbs.repMsg
  simp only [Gen_Encode_chain, headerRefines.marshal]
  cases hps : m.payloads with
  | nil =>
    simp only [List.map_nil, List.length_nil, Nat.lt_irrefl, gt_iff_lt, if_false, firstType]
    cases encodeChain [] with
    | ok pb =>
      simp only [Res.bind_ok]
      exact bind_pair_eq _ { m.hdr with next := Facts.typeNoNext, payloadBytes := pb } _ [] rfl
    | err => rfl
    | fault => rfl
  | cons p ps =>
    simp only [List.map_cons, indexN_cons_zero, Res.bind_ok, IKEPayload_Type_rep, firstType]
    cases encodeChain (p :: ps) with
    | ok pb =>
      simp only [Res.bind_ok]
      exact bind_pair_eq _ { m.hdr with next := p.typeCode, payloadBytes := pb } _ (p :: ps) rfl
    | err => rfl
    | fault => rfl

/-- the join point `jp13` of the translated `encryptMsg` (text copied from `Gen_ike.lean`; `encryptMsg_some`
checks by `rfl` that it is the same term): build the SK payload, encode, MAC, write the checksum through the view -/
def sealBody (P : Prims) (ikesaKey : Gen.security.IKESAKey) (role : Bool) (checksumLength : Int)
    (ikeMsg : IKEMessage) (encryptedData : Bytes) (rnd_ : Rand) (encrNextPayloadType : UInt8) :
    Res (Rand × IKEMessage × Gen.security.IKESAKey) :=
  (IKEPayloadContainer.BuildEncrypted ikeMsg.Payloads encrNextPayloadType encryptedData) >>= fun t6 =>
  let ikeMsg : IKEMessage := { ikeMsg with Payloads := t6.1 };
  let sk : Encrypted := t6.2;
  let ix7 : Nat := (ikeMsg.Payloads.length - 1);
  (IKEMessage.Encode ikeMsg) >>= fun t8 =>
  let ikeMsg : IKEMessage := t8.1;
  let ikeMsgData : Bytes := t8.2;
  (Go.sliceTo ikeMsgData ((ikeMsgData.length : Int) - checksumLength)) >>= fun t9 =>
  (Gen.ike.calculateIntegrity P ikesaKey role t9) >>= fun t10 =>
  let ikesaKey : Gen.security.IKESAKey := t10.1;
  let checksumOfMessage : Bytes := t10.2;
  let sk : Encrypted := (match (ikeMsg.Payloads)[ix7]? with | some (IKEPayload.Encrypted w_) => w_ | _ => sk);
  (Go.sliceFrom sk.EncryptedData ((sk.EncryptedData.length : Int) - checksumLength)) >>= fun t11 =>
  let checksumField : Bytes := t11;
  (Go.copyInto checksumField 0 checksumField.length checksumOfMessage) >>= fun t12 =>
  let checksumField : Bytes := t12.1;
  let sk : Encrypted := (match (ikeMsg.Payloads)[ix7]? with | some (IKEPayload.Encrypted w_) => w_ | _ => sk);
  let sk : Encrypted := { sk with EncryptedData :=
    (Go.splice sk.EncryptedData (((sk.EncryptedData.length : Int) - checksumLength)).toNat checksumField) };
  let ikeMsg : IKEMessage := { ikeMsg with Payloads := (Go.setAt ikeMsg.Payloads ix7 (IKEPayload.Encrypted sk)) };
  Res.ok (rnd_, ikeMsg, ikesaKey)

theorem encryptMsg_some (P : Prims) (k : Gen.security.IKESAKey) (role : Bool) (r : Rand) (gm : IKEMessage) :
    Gen.ike.encryptMsg P r (some gm) (some k) role =
      if k.IntegInfo = .nil_ ∨ k.EncrInfo = .nil_ ∨ Go.Mac.isNil k.Integ_r = true ∨ (k.Encr_r.Block == []) = true
      then .err else
      (Gen.integ.INTEGType.GetOutputLength k.IntegInfo) >>= fun cl =>
      (IKEPayloadContainer.Encode gm.Payloads) >>= fun t2 =>
      (Gen.ike.encryptPayload P r t2 k role) >>= fun t3 =>
      (Go.make (α := UInt8) cl) >>= fun t4 =>
      if gm.Payloads.length = 0 then
        sealBody P k role cl { gm with Payloads := [] } (t3.2 ++ t4) t3.1 0
      else
        (Go.indexN gm.Payloads 0) >>= fun t14 =>
        (IKEPayload.Type_ t14) >>= fun t15 =>
        sealBody P k role cl { gm with Payloads := [] } (t3.2 ++ t4) t3.1 t15 := by
  unfold Gen.ike.encryptMsg
  simp only [Option.isNone_some, Option.getD_some, Bool.false_eq_true, if_false, ite_err_or,
    IKEPayloadContainer_Reset_eq, Res.bind_ok]
  rfl

theorem encryptMsg_unfold (P : Prims) (k : Gen.security.IKESAKey) (hk : SaWF k) (role : Bool) (r : Rand)
    (gm : IKEMessage) :
    Gen.ike.encryptMsg P r (some gm) (some k) role =
      (IKEPayloadContainer.Encode gm.Payloads) >>= fun t2 =>
      (Gen.ike.encryptPayload P r t2 k role) >>= fun t3 =>
      (Go.make (α := UInt8) (outLenI k.IntegInfo)) >>= fun t4 =>
      if gm.Payloads.length = 0 then
        sealBody P k role (outLenI k.IntegInfo) { gm with Payloads := [] } (t3.2 ++ t4) t3.1 0
      else
        (Go.indexN gm.Payloads 0) >>= fun t14 =>
        (IKEPayload.Type_ t14) >>= fun t15 =>
        sealBody P k role (outLenI k.IntegInfo) { gm with Payloads := [] } (t3.2 ++ t4) t3.1 t15 := by
  have hne : ¬ (k.IntegInfo = .nil_ ∨ k.EncrInfo = .nil_ ∨ Go.Mac.isNil k.Integ_r = true ∨
      (k.Encr_r.Block == []) = true) := by
    rw [hk.integ_r]
    refine fun h => h.elim hk.integ fun h => h.elim hk.encr fun h => h.elim Bool.false_ne_true fun h => ?_
    exact hk.encr_r.1 (by simpa using h)
  rw [encryptMsg_some, if_neg hne, GetOutputLength_eq _ hk.integ, Res.bind_ok]

/-- writing the checksum through the window `d[len-n:]` (`copy` into the window, the window spliced back) is the
model's `setTail` -/
theorem splice_setTail (d c : Bytes) (n : Nat) (hn : n ≤ d.length) :
    Go.splice d (d.length - n) (c.take (min n c.length) ++ (d.drop (d.length - n)).drop (min n c.length)) =
      setTail d n c := by
  have hl : (c.take (min n c.length) ++ (d.drop (d.length - n)).drop (min n c.length)).length = n := by
    rw [List.length_append, List.length_take, List.length_drop, List.length_drop,
      Nat.min_eq_left (Nat.min_le_right _ _), Nat.sub_sub_self hn, Nat.add_sub_cancel' (Nat.min_le_left _ _)]
  unfold Go.splice setTail
  rw [hl, Nat.sub_add_cancel hn, List.drop_length, List.append_nil, ← List.take_eq_take_min, List.length_take,
    List.append_assoc]

theorem sealBody_eq (P : Prims) (k : Gen.security.IKESAKey) (role : Bool) (n : Nat)
    (hdr : Header) (encData : Bytes) (hlen : n ≤ encData.length) (r1 : Rand) (next : UInt8) :
    sealBody P k role (n : Int) { IKEHeader := GenAbs.repHeader hdr, Payloads := [] } encData r1 next =
      (encodeMsg ⟨hdr, [.sk next encData]⟩) >>= fun x =>
      (Go.sliceTo x.1 ((x.1.length : Int) - (n : Int))) >>= fun signed =>
      (Gen.ike.calculateIntegrity P k role signed) >>= fun t10 =>
      Res.ok (r1, GenAbs.repMsg ⟨x.2, [.sk next (setTail encData n t10.2)]⟩, t10.1) := by
  have hE : IKEMessage.Encode
      { IKEHeader := GenAbs.repHeader hdr
        Payloads := [IKEPayload.Encrypted { NextPayload := next, EncryptedData := encData }] } = _ :=
    Encode_rep ⟨hdr, [.sk next encData]⟩
  have hfl : (List.drop (encData.length - n) encData).length = n := by
    rw [List.length_drop, Nat.sub_sub_self hlen]
  unfold sealBody
  simp only [BuildEncrypted_eq, Res.bind_ok, List.nil_append, List.length_singleton, Nat.sub_self]
  rw [hE, Res.bind_assoc]
  refine bind_congr fun x => ?_
  simp only [Res.bind_ok, GenAbs.repMsg, List.map_cons, List.map_nil, GenAbs.repPayload, List.getElem?_cons_zero]
  refine bind_congr fun signed => bind_congr fun t10 => ?_
  rw [Go.sliceFrom_len_sub encData n hlen, Res.bind_ok, Go.copyInto_whole, hfl, Int.toNat_sub]
  simp only [Res.bind_ok, Go.setAt, List.set_cons_zero, splice_setTail encData t10.2 n hlen]

/-- the model of `encryptMsg`: `protect` up to (not including) its last `encodeMsg` -/
def sealMsg (P : Prims) (sa : SAKey) (role : Bool) (r : Rand) (m : Msg) : SAKey × Rand × Res Msg :=
  let cl := sa.integInfo.outLen
  match encodeChain m.payloads with
  | .err => (sa, r, .err)
  | .fault => (sa, r, .fault)
  | .ok plain =>
    match encryptPayload P sa role r plain with
    | (r1, .err) => (sa, r1, .err)
    | (r1, .fault) => (sa, r1, .fault)
    | (r1, .ok ct) =>
      let encData := ct ++ zeros cl
      let next : UInt8 := firstType m.payloads
      match encodeMsg ⟨m.hdr, [.sk next encData]⟩ with
      | .err => (sa, r1, .err)
      | .fault => (sa, r1, .fault)
      | .ok (data, h1) =>
        if data.length < cl then (sa, r1, .fault) else
        match calcIntegrity P sa role (data.take (data.length - cl)) with
        | (sa1, .err) => (sa1, r1, .err)
        | (sa1, .fault) => (sa1, r1, .fault)
        | (sa1, .ok checksum) => (sa1, r1, .ok ⟨h1, [.sk next (setTail encData cl checksum)]⟩)

theorem protect_eq_sealMsg (P : Prims) (sa : SAKey) (role : Bool) (r : Rand) (m : Msg) :
    protect P sa role r m =
      (match sealMsg P sa role r m with
       | (sa1, r1, .ok m2) =>
         (match encodeMsg m2 with
          | .err => (sa1, r1, .err)
          | .fault => (sa1, r1, .fault)
          | .ok (out, h2) => (sa1, r1, .ok (out, ⟨h2, m2.payloads⟩)))
       | (sa1, r1, .err) => (sa1, r1, .err)
       | (sa1, r1, .fault) => (sa1, r1, .fault)) := by
  unfold protect sealMsg
  cases encodeChain m.payloads with
  | err => rfl
  | fault => rfl
  | ok plain =>
    dsimp only
    rcases encryptPayload P sa role r plain with ⟨r1, (ct | _ | _)⟩
    · dsimp only
      rcases encodeMsg ⟨m.hdr, [.sk (firstType m.payloads) (ct ++ zeros sa.integInfo.outLen)]⟩ with (⟨data, h1⟩ | _ | _)
      · dsimp only
        by_cases hl : data.length < sa.integInfo.outLen
        · simp only [hl, if_true]
        · simp only [hl, if_false]
          rcases calcIntegrity P sa role (data.take (data.length - sa.integInfo.outLen)) with ⟨sa1, (c | _ | _)⟩
          · rfl
          · rfl
          · rfl
      · rfl
      · rfl
    · rfl
    · rfl

theorem firstType_dispatch {β : Type} (ps : List Payload) (f : UInt8 → Res β) :
    (if (ps.map GenAbs.repPayload).length = 0 then f 0 else
       (Go.indexN (ps.map GenAbs.repPayload) 0) >>= fun t14 => (IKEPayload.Type_ t14) >>= fun t15 => f t15) =
      f (firstType ps) := by
  cases ps with
  | nil => rfl
  | cons p ps =>
    rw [if_neg (by simp)]
    simp only [List.map_cons, indexN_cons_zero, Res.bind_ok, IKEPayload_Type_rep, firstType]

theorem encryptMsg_refines (P : Prims) (hP : P.Lawful) (k : Gen.security.IKESAKey) (hk : SaWF k)
    (hol : 0 ≤ outLenI k.IntegInfo) (role : Bool) (r : Rand) (m : Msg) :
    (Gen.ike.encryptMsg P r (some (GenAbs.repMsg m)) (some k) role).map (fun x => (x.1, x.2.1, absSa x.2.2)) =
      (match sealMsg P (absSa k) role r m with
       | (sa', r', .ok m2) => .ok (r', GenAbs.repMsg m2, sa')
       | (_, _, .err) => .err | (_, _, .fault) => .fault) := by
  rw [encryptMsg_unfold P k hk, outLenI_eq_cast hol]
  unfold sealMsg
  rw [show (GenAbs.repMsg m).Payloads = m.payloads.map GenAbs.repPayload from rfl,
    show (GenAbs.repMsg m).IKEHeader = GenAbs.repHeader m.hdr from rfl,
    show (absSa k).integInfo.outLen = (absIntegInfo k.IntegInfo).outLen from rfl]
  simp only [Gen_Encode_chain, Go.make_natCast, Res.bind_ok]
  cases encodeChain m.payloads with
  | err => rfl
  | fault => rfl
  | ok plain =>
    simp only [Res.bind_ok, encryptPayload_refines P hP k hk]
    rcases encryptPayload P (absSa k) role r plain with ⟨r1, (ct | _ | _)⟩
    · simp only [Res.bind_ok]
      rw [firstType_dispatch m.payloads (sealBody P k role _ { IKEHeader := GenAbs.repHeader m.hdr }
        (ct ++ zeros (absIntegInfo k.IntegInfo).outLen) r1), sealBody_eq P k role _ m.hdr _ (by simp) r1]
      rcases encodeMsg ⟨m.hdr, [.sk (firstType m.payloads) (ct ++ zeros (absIntegInfo k.IntegInfo).outLen)]⟩ with
        (⟨data, h1⟩ | _ | _)
      · simp only [Res.bind_ok, sliceTo_sub]
        by_cases hl : data.length < (absIntegInfo k.IntegInfo).outLen
        · simp only [hl, if_true]
          rfl
        · simp only [hl, if_false, Res.bind_ok]
          rw [calculateIntegrity_goTo P k hk.integ hol role (integObj_not_nil hk.integ_i hk.integ_r role), calcIntegrity_absSa]
          cases goTo (P.mac (if role then k.Integ_i else k.Integ_r).h (if role then k.Integ_i else k.Integ_r).key
            (data.take (data.length - (absIntegInfo k.IntegInfo).outLen))) (absIntegInfo k.IntegInfo).outLen <;> rfl
      · rfl
      · rfl
    · rfl
    · rfl

theorem sealBody_frame (P : Prims) (k : Gen.security.IKESAKey) (role : Bool) (cl : Int) (gm : IKEMessage)
    (ed : Bytes) (r1 : Rand) (nx : UInt8) (r' : Rand) (gm' : IKEMessage) (k' : Gen.security.IKESAKey)
    (h : sealBody P k role cl gm ed r1 nx = .ok (r', gm', k')) : ∃ d, k' = macFed k role d := by
  unfold sealBody at h
  obtain ⟨t6, _, h⟩ := Res.bind_eq_ok h
  obtain ⟨t8, _, h⟩ := Res.bind_eq_ok h
  obtain ⟨t9, _, h⟩ := Res.bind_eq_ok h
  obtain ⟨t10, h10, h⟩ := Res.bind_eq_ok h
  obtain ⟨t11, _, h⟩ := Res.bind_eq_ok h
  obtain ⟨t12, _, h⟩ := Res.bind_eq_ok h
  simp only [Res.ok.injEq, Prod.mk.injEq] at h
  obtain ⟨t10a, t10b⟩ := t10
  exact ⟨t9, by rw [← h.2.2]; exact calculateIntegrity_frame P k _ role t9 _ h10⟩

theorem EncodeEncrypt_some (P : Prims) (r : Rand) (gm : IKEMessage) (k : Gen.security.IKESAKey) (role : Bool) :
    Gen.ike.EncodeEncrypt P r gm (some k) role =
      (Gen.ike.encryptMsg P r (some gm) (some k) role) >>= fun t3 =>
      (IKEMessage.Encode t3.2.1) >>= fun t1 => Res.ok (t3.1, t1.1, t3.2.2, t1.2) := by
  unfold Gen.ike.EncodeEncrypt
  simp only [Option.isNone_some, Option.getD_some, if_true, Bool.false_eq_true, if_false]
  congr 1
  funext t3
  exact catchErr_bind (IKEMessage.Encode t3.2.1) (fun t1 => Res.ok (t3.1, t1.1, t3.2.2, t1.2))

theorem EncodeEncrypt_none (P : Prims) (r : Rand) (gm : IKEMessage) (role : Bool) :
    Gen.ike.EncodeEncrypt P r gm none role =
      (IKEMessage.Encode gm) >>= fun t1 => Res.ok (r, t1.1, ({} : Gen.security.IKESAKey), t1.2) := by
  unfold Gen.ike.EncodeEncrypt
  simp only [Option.isNone_none, Option.getD_none, Bool.true_eq_false, if_false]
  exact catchErr_bind (IKEMessage.Encode gm) (fun t1 => Res.ok (r, t1.1, ({} : Gen.security.IKESAKey), t1.2))

theorem EncodeEncrypt_refines (P : Prims) (hP : P.Lawful) (k : Gen.security.IKESAKey) (hk : SaWF k)
    (hol : 0 ≤ outLenI k.IntegInfo) (role : Bool) (r : Rand) (m : Msg) :
    (Gen.ike.EncodeEncrypt P r (GenAbs.repMsg m) (some k) role).map
        (fun x => (x.1, GenAbs.absMsg x.2.1, absSa x.2.2.1, x.2.2.2)) =
      (match protect P (absSa k) role r m with
       | (sa', r', .ok (out, m')) => .ok (r', some m', sa', out)
       | (_, _, .err) => .err | (_, _, .fault) => .fault) := by
  rw [EncodeEncrypt_some, protect_eq_sealMsg, Res.map_bind]
  simp only [Res.map_bind_ok]
  -- the final `Encode` sees the key object only through its abstraction
  refine (Res.bind_map _ (fun x : Rand × IKEMessage × Gen.security.IKESAKey => (x.1, x.2.1, absSa x.2.2))
    (fun y : Rand × IKEMessage × SAKey =>
    (IKEMessage.Encode y.2.1).map fun v => (y.1, GenAbs.absMsg v.1, y.2.2, v.2))).symm.trans ?_
  rw [encryptMsg_refines P hP k hk hol]
  rcases sealMsg P (absSa k) role r m with ⟨sa1, r1, (m2 | _ | _)⟩
  · simp only [Res.bind_ok, Encode_rep, Res.map_bind_ok]
    rcases encodeMsg m2 with (⟨out, h2⟩ | _ | _)
    · simp only [map_ok', absMsg_rep]
    · rfl
    · rfl
  · rfl
  · rfl

theorem EncodeEncrypt_frame_macFed (P : Prims) (k : Gen.security.IKESAKey) (hk : SaWF k) (role : Bool) (r : Rand)
    (gm : IKEMessage) (r' : Rand) (gm' : IKEMessage) (k' : Gen.security.IKESAKey) (out : Bytes)
    (h : Gen.ike.EncodeEncrypt P r gm (some k) role = .ok (r', gm', k', out)) : ∃ d, k' = macFed k role d := by
  rw [EncodeEncrypt_some, encryptMsg_unfold P k hk] at h
  obtain ⟨⟨r1, gm1, k1⟩, h3, h⟩ := Res.bind_eq_ok h
  obtain ⟨t1, _, h⟩ := Res.bind_eq_ok h
  cases h
  obtain ⟨t2, _, h3⟩ := Res.bind_eq_ok h3
  obtain ⟨t3, _, h3⟩ := Res.bind_eq_ok h3
  obtain ⟨t4, _, h3⟩ := Res.bind_eq_ok h3
  split at h3
  · exact sealBody_frame _ _ _ _ _ _ _ _ _ _ _ h3
  · obtain ⟨t14, _, h3⟩ := Res.bind_eq_ok h3
    obtain ⟨t15, _, h3⟩ := Res.bind_eq_ok h3
    exact sealBody_frame _ _ _ _ _ _ _ _ _ _ _ h3

theorem EncodeEncrypt_frame (P : Prims) (k : Gen.security.IKESAKey) (hk : SaWF k) (role : Bool) (r : Rand)
    (gm : IKEMessage) (r' : Rand) (gm' : IKEMessage) (k' : Gen.security.IKESAKey) (out : Bytes)
    (h : Gen.ike.EncodeEncrypt P r gm (some k) role = .ok (r', gm', k', out)) :
    SaWF k' ∧
    k'.DhInfo = k.DhInfo ∧ k'.EncrInfo = k.EncrInfo ∧ k'.IntegInfo = k.IntegInfo ∧ k'.PrfInfo = k.PrfInfo ∧
    k'.Prf_d = k.Prf_d ∧ k'.Prf_i = k.Prf_i ∧ k'.Prf_r = k.Prf_r ∧
    k'.Encr_i = k.Encr_i ∧ k'.Encr_r = k.Encr_r ∧
    k'.SK_d = k.SK_d ∧ k'.SK_ai = k.SK_ai ∧ k'.SK_ar = k.SK_ar ∧ k'.SK_ei = k.SK_ei ∧ k'.SK_er = k.SK_er ∧
    k'.SK_pi = k.SK_pi ∧ k'.SK_pr = k.SK_pr ∧
    k'.Integ_i.h = k.Integ_i.h ∧ k'.Integ_i.key = k.Integ_i.key ∧
    k'.Integ_r.h = k.Integ_r.h ∧ k'.Integ_r.key = k.Integ_r.key ∧
    (role = false → k'.Integ_i = k.Integ_i) ∧ (role = true → k'.Integ_r = k.Integ_r) := by
  obtain ⟨d, rfl⟩ := EncodeEncrypt_frame_macFed P k hk role r gm r' gm' k' out h
  refine ⟨macFed_SaWF k hk role d, ?_⟩
  cases role <;> simp [macFed, Go.Mac.write, Go.Mac.reset]

theorem EncodeEncrypt_nil_key (r : Rand) (m : Msg) (role : Bool) (P : Prims) :
    (Gen.ike.EncodeEncrypt P r (GenAbs.repMsg m) none role).map (fun x => (x.2.2.2, GenAbs.absMsg x.2.1)) =
      (encodePlain m).map (fun y => (y.1, some y.2)) := by
  rw [EncodeEncrypt_none, Encode_rep]
  unfold encodePlain
  rcases encodeMsg m with (⟨bs, h⟩ | _ | _)
  · simp only [Res.bind_ok, map_ok', absMsg_rep]
  · rfl
  · rfl

theorem EncodeEncrypt_nil_key_rand (r r' : Rand) (gm gm' : IKEMessage) (k' : Gen.security.IKESAKey) (out : Bytes)
    (role : Bool) (P : Prims) (h : Gen.ike.EncodeEncrypt P r gm none role = .ok (r', gm', k', out)) : r' = r := by
  rw [EncodeEncrypt_none] at h
  obtain ⟨t1, _, h⟩ := Res.bind_eq_ok h
  simp only [Res.ok.injEq, Prod.mk.injEq] at h
  exact h.1.symm

theorem EncodeEncrypt_refuses (P : Prims) (k : Gen.security.IKESAKey) (role : Bool) (r : Rand) (gm : IKEMessage)
    (h : k.IntegInfo = .nil_ ∨ k.EncrInfo = .nil_ ∨ Go.Mac.isNil k.Integ_r = true ∨ k.Encr_r.Block = []) :
    Gen.ike.EncodeEncrypt P r gm (some k) role = .err := by
  have h' : k.IntegInfo = .nil_ ∨ k.EncrInfo = .nil_ ∨ Go.Mac.isNil k.Integ_r = true ∨
      (k.Encr_r.Block == []) = true := by
    rcases h with h | h | h | h
    · exact Or.inl h
    · exact Or.inr (Or.inl h)
    · exact Or.inr (Or.inr (Or.inl h))
    · exact Or.inr (Or.inr (Or.inr (by rw [h]; rfl)))
  rw [EncodeEncrypt_some, encryptMsg_some, if_pos h']
  rfl

/-! The hypothesis `0 ≤ outLenI k.IntegInfo` is needed: a descriptor object with a negative `outputLength` (none is
registered; the field is a plain Go `int`) makes the translated code panic (`make([]byte, n)` / a slice expression
with a negative bound) where the hand-written model, whose lengths are natural numbers (`Int.toNat` of a negative
number is 0), carries on. -/

theorem encodeMsg_again (hdr h1 : Header) (ps : List Payload) (data : Bytes)
    (h : encodeMsg ⟨hdr, ps⟩ = .ok (data, h1)) : encodeMsg ⟨h1, ps⟩ = .ok (data, h1) := by
  unfold encodeMsg at h ⊢
  obtain ⟨pb, hc, h⟩ := Res.bind_eq_ok h
  obtain ⟨bs, hm, h⟩ := Res.bind_eq_ok h
  cases h
  simp only [hc, Res.bind_ok] at hm ⊢
  simp only [hm, Res.bind_ok]

theorem setTail_zero (d : Bytes) : setTail d 0 [] = d := by
  simp [setTail]

/-- with a negative output length the translated `EncodeEncrypt` panics at `make([]byte, checksumLength)` as soon as
the payloads encode and encrypt, while the model (checksum length 0) returns a datagram -/
theorem EncodeEncrypt_needs_outLen (P : Prims) (hP : P.Lawful) (k : Gen.security.IKESAKey) (hk : SaWF k)
    (hneg : outLenI k.IntegInfo < 0) (role : Bool) (r r1 : Rand) (m : Msg) (plain ct data : Bytes) (h1 : Header)
    (hc : encodeChain m.payloads = .ok plain) (he : encryptPayload P (absSa k) role r plain = (r1, .ok ct))
    (hm : encodeMsg ⟨m.hdr, [.sk (firstType m.payloads) ct]⟩ = .ok (data, h1)) :
    Gen.ike.EncodeEncrypt P r (GenAbs.repMsg m) (some k) role = .fault ∧
    (protect P (absSa k) role r m).2 = (r1, .ok (data, ⟨h1, [.sk (firstType m.payloads) ct]⟩)) := by
  constructor
  · rw [EncodeEncrypt_some, encryptMsg_unfold P k hk,
      show (GenAbs.repMsg m).Payloads = m.payloads.map GenAbs.repPayload from rfl, Gen_Encode_chain, hc]
    simp only [Res.bind_ok, encryptPayload_refines P hP k hk, he]
    unfold Go.make
    rw [if_neg (by omega)]
    rfl
  · unfold protect
    have h0 : (absSa k).integInfo.outLen = 0 := by rw [absSa_outLen]; omega
    simp only [hc, he, h0, zeros, List.replicate_zero, List.append_nil, hm, Nat.not_lt_zero, if_false, Nat.sub_zero]
    unfold calcIntegrity
    cases role <;>
      simp only [h0, goTo, Nat.zero_le, if_true, List.take_zero, Bool.false_eq_true, if_false, setTail_zero,
        encodeMsg_again _ _ _ _ hm]

theorem EncodeEncrypt_refines_registered (P : Prims) (hP : P.Lawful) (k : Gen.security.IKESAKey) (hk : SaWF k)
    (hi : k.IntegInfo = .AuthHmacMd5_95 ⟨16, 12⟩ ∨ k.IntegInfo = .AuthHmacSha1_96 ⟨20, 12⟩ ∨
      k.IntegInfo = .AuthHmacSha2_256_128 ⟨32, 16⟩) (role : Bool) (r : Rand) (m : Msg) :
    (Gen.ike.EncodeEncrypt P r (GenAbs.repMsg m) (some k) role).map
        (fun x => (x.1, GenAbs.absMsg x.2.1, absSa x.2.2.1, x.2.2.2)) =
      (match protect P (absSa k) role r m with
       | (sa', r', .ok (out, m')) => .ok (r', some m', sa', out)
       | (_, _, .err) => .err | (_, _, .fault) => .fault) :=
  EncodeEncrypt_refines P hP k hk (outLenI_registered _ hi).2 role r m

theorem EncodeEncrypt_refines_abs (P : Prims) (hP : P.Lawful) (k : Gen.security.IKESAKey) (hk : SaWF k)
    (hol : 0 ≤ outLenI k.IntegInfo) (role : Bool) (r : Rand) (gm : IKEMessage) (m : Msg)
    (hm : GenAbs.absMsg gm = some m) :
    (Gen.ike.EncodeEncrypt P r gm (some k) role).map
        (fun x => (x.1, GenAbs.absMsg x.2.1, absSa x.2.2.1, x.2.2.2)) =
      (match protect P (absSa k) role r m with
       | (sa', r', .ok (out, m')) => .ok (r', some m', sa', out)
       | (_, _, .err) => .err | (_, _, .fault) => .fault) := by
  rw [← repMsg_of_absMsg gm m hm]
  exact EncodeEncrypt_refines P hP k hk hol role r m

end Ike.RefineSa.Enc
