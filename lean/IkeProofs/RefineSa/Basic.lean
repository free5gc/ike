import IkeProofs.Refine.Basic

/-! Shared by the files of `RefineSa`: facts about `Res`, Go's slice expressions with `int` bounds, and generated
messages read through their abstraction (`GenAbs.absMsg`). -/

namespace Ike.RefineSa
open Ike Ike.Refine

theorem bind_ok_congr {α β : Type} {x : Res α} {f g : α → Res β} (h : ∀ a, x = .ok a → f a = g a) :
    (x >>= f) = (x >>= g) := by
  cases x with
  | ok a => exact h a rfl
  | err => rfl
  | fault => rfl

theorem map_eq_ok {α β : Type} {x : Res α} {f : α → β} {b : β} (h : x.map f = .ok b) : ∃ a, x = .ok a ∧ f a = b := by
  cases x with
  | ok a => exact ⟨a, rfl, Res.ok.inj h⟩
  | err => cases h
  | fault => cases h

/-- two computations whose abstractions `y1`, `y2` agree under `g` agree under `g` after the abstraction -/
theorem map_eq_of_refines {α β γ : Type} {x1 x2 : Res α} {y1 y2 : Res β} {f : α → β} (g : β → γ)
    (h1 : x1.map f = y1) (h2 : x2.map f = y2) (h : y1.map g = y2.map g) :
    x1.map (fun a => g (f a)) = x2.map (fun a => g (f a)) := by
  rw [← Res.map_map x1 f g, ← Res.map_map x2 f g, h1, h2, h]

theorem catchErr_bind {α β : Type} [Inhabited α] (x : Res α) (f : α → Res β) :
    ((Go.catchErr x) >>= fun t1 => if t1.2 = true then Res.err else f t1.1) = x >>= f := by
  cases x <;> rfl

/-- the three consistent outcomes of a refinement statement `x.map f = y.map some` -/
theorem map_eq_map_some {α β : Type} {x : Res α} {y : Res β} {f : α → Option β} (h : x.map f = y.map some) :
    (∃ a b, x = .ok a ∧ y = .ok b ∧ f a = some b) ∨ (x = .err ∧ y = .err) ∨ (x = .fault ∧ y = .fault) := by
  cases x <;> cases y <;> first | cases h | skip
  · exact Or.inl ⟨_, _, rfl, rfl, Res.ok.inj h⟩
  · exact Or.inr (Or.inl ⟨rfl, rfl⟩)
  · exact Or.inr (Or.inr ⟨rfl, rfl⟩)

/-- two refusals in a row are one refusal -/
theorem ite_err_or {α : Type} (c d : Prop) [Decidable c] [Decidable d] (x : Res α) :
    (if c then .err else if d then .err else x) = if c ∨ d then .err else x := by
  by_cases hc : c
  · rw [if_pos hc, if_pos (Or.inl hc)]
  · by_cases hd : d
    · rw [if_neg hc, if_pos hd, if_pos (Or.inr hd)]
    · rw [if_neg hc, if_neg hd, if_neg (fun h => h.elim hc hd)]

theorem ite_ne_else {α : Type} {c : Prop} [Decidable c] {a b : α} (h : (if c then a else b) ≠ b) : c :=
  Decidable.byContradiction fun hc => h (if_neg hc)

/-- a three-way choice with a default that was not taken -/
theorem ite3_ne_else {α : Type} {c1 c2 c3 : Prop} [Decidable c1] [Decidable c2] [Decidable c3] {a b c n x : α}
    (hx : x = if c1 then a else if c2 then b else if c3 then c else n) (h : x ≠ n) : x = a ∨ x = b ∨ x = c := by
  subst hx
  by_cases h1 : c1
  · rw [if_pos h1]; exact Or.inl rfl
  rw [if_neg h1] at h ⊢
  by_cases h2 : c2
  · rw [if_pos h2]; exact Or.inr (Or.inl rfl)
  rw [if_neg h2] at h ⊢
  rw [if_pos (ite_ne_else h)]; exact Or.inr (Or.inr rfl)

/-- a map with three different values on `a`, `b`, `c` is injective there -/
theorem inj_on_three {α β : Type} {f : α → β} {a b c x y : α} (hab : f a ≠ f b) (hac : f a ≠ f c) (hbc : f b ≠ f c)
    (hx : x = a ∨ x = b ∨ x = c) (hy : y = a ∨ y = b ∨ y = c) (e : f x = f y) : x = y := by
  rcases hx with rfl | rfl | rfl <;> rcases hy with rfl | rfl | rfl <;>
    first | rfl | exact absurd e ‹_› | exact absurd e.symm ‹_›

/-- `x := decode(t); if x == nil { return err }` (security.go:361, 368, 375), read back from a success -/
theorem bind_guard_eq_ok {α : Type} [DecidableEq α] {x : Res α} {n z : α}
    (h : (x >>= fun y => if y = n then .err else .ok y) = .ok z) : x = .ok z ∧ z ≠ n := by
  obtain ⟨y, hy, h⟩ := Res.bind_eq_ok h
  by_cases hn : y = n
  · rw [if_pos hn] at h; cases h
  · rw [if_neg hn] at h; cases h; exact ⟨hy, hn⟩

theorem indexN_cons_zero {α : Type} [Inhabited α] (a : α) (l : List α) : Go.indexN (a :: l) 0 = .ok a := rfl

theorem sliceTo_nat (b : Bytes) (n : Nat) : Go.sliceTo b (n : Int) = goTo b n := by
  unfold Go.sliceTo goTo
  by_cases h : n ≤ b.length
  · rw [if_pos (by omega), if_pos h, Int.toNat_natCast]
  · rw [if_neg (by omega), if_neg h]

theorem sliceFrom_nat (b : Bytes) (n : Nat) : Go.sliceFrom b (n : Int) = goFrom b n := by
  unfold Go.sliceFrom goFrom
  by_cases h : n ≤ b.length
  · rw [if_pos (by omega), if_pos h, Int.toNat_natCast]
  · rw [if_neg (by omega), if_neg h]

/-- `b[:len(b)-n]` -/
theorem sliceTo_sub (b : Bytes) (n : Nat) :
    Go.sliceTo b ((b.length : Int) - (n : Int)) = if b.length < n then .fault else .ok (b.take (b.length - n)) := by
  unfold Go.sliceTo
  by_cases h : b.length < n
  · rw [if_neg (by omega), if_pos h]
  · rw [if_pos (by omega), if_neg h, Int.toNat_sub]

theorem goTo_ok_length {b r : Bytes} {n : Nat} (h : goTo b n = .ok r) : r.length = n := by
  unfold goTo at h
  split at h
  · cases h; rw [List.length_take]; omega
  · cases h

theorem absPayloads_cons_some (g : Gen.message.IKEPayload) (gps : List Gen.message.IKEPayload) (ps : List Payload)
    (h : GenAbs.absPayloads (g :: gps) = some ps) :
    ∃ p ps', ps = p :: ps' ∧ GenAbs.absPayload g = some p ∧ GenAbs.absPayloads gps = some ps' := by
  unfold GenAbs.absPayloads at *
  rw [List.mapM_cons] at h
  cases hg : GenAbs.absPayload g with
  | none => rw [hg] at h; simp at h
  | some p =>
    cases hr : List.mapM GenAbs.absPayload gps with
    | none => rw [hg, hr] at h; simp at h
    | some ps' =>
      rw [hg, hr] at h
      simp at h
      exact ⟨p, ps', h.symm, rfl, rfl⟩

theorem absPayloads_nil_some (ps : List Payload) (h : GenAbs.absPayloads [] = some ps) : ps = [] := by
  unfold GenAbs.absPayloads at h
  simp at h
  exact h

theorem absMsg_some {gm : Gen.message.IKEMessage} {m : Msg} (h : GenAbs.absMsg gm = some m) :
    GenAbs.absPayloads gm.Payloads = some m.payloads ∧ GenAbs.absHeader gm.IKEHeader = m.hdr := by
  unfold GenAbs.absMsg at h
  cases hp : GenAbs.absPayloads gm.Payloads with
  | none => rw [hp] at h; simp at h
  | some ps =>
    rw [hp] at h
    simp only [Option.map_some, Option.some.injEq] at h
    subst h
    exact ⟨rfl, rfl⟩

theorem repProposal_abs (p : Gen.message.Proposal) : GenAbs.repProposal (GenAbs.absProposal p) = p := by
  cases p
  simp [GenAbs.absProposal, GenAbs.repProposal, map_abs_rep GenAbs.absTransform GenAbs.repTransform (fun _ => rfl)]

theorem repPayload_of_abs (g : Gen.message.IKEPayload) (p : Payload) (h : GenAbs.absPayload g = some p) :
    GenAbs.repPayload p = g := by
  cases g
  case nil_ => simp [GenAbs.absPayload] at h
  all_goals
    simp only [GenAbs.absPayload, Option.some.injEq] at h
    subst h
    first
    | rfl
    | simp [GenAbs.repPayload, map_abs_rep _ _ repProposal_abs,
        map_abs_rep GenAbs.absTSel GenAbs.repTSel (fun _ => rfl),
        map_abs_rep GenAbs.absCPAttr GenAbs.repCPAttr (fun _ => rfl)]

theorem repPayloads_of_abs (gs : List Gen.message.IKEPayload) (ps : List Payload) (h : GenAbs.absPayloads gs = some ps) :
    ps.map GenAbs.repPayload = gs := by
  induction gs generalizing ps with
  | nil => rw [absPayloads_nil_some ps h]; rfl
  | cons g gs ih =>
    obtain ⟨p, ps', rfl, hg, hr⟩ := absPayloads_cons_some g gs ps h
    rw [List.map_cons, repPayload_of_abs g p hg, ih ps' hr]

theorem repMsg_of_absMsg (gm : Gen.message.IKEMessage) (m : Msg) (h : GenAbs.absMsg gm = some m) : GenAbs.repMsg m = gm := by
  obtain ⟨hps, hhdr⟩ := absMsg_some h
  unfold GenAbs.repMsg
  rw [repPayloads_of_abs _ _ hps, ← hhdr]
  rfl

end Ike.RefineSa
