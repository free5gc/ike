import IkeProofs.RefineSa.Integrity
import IkeProofs.Refine.Glue
import IkeProofs.Refine.ChainMsg
import IkeProofs.RefineReg.Registries
import IkeProofs.RefineReg.Cbc
import IkeProofs.Lemmas.Sk

/-! The receiving side of `ike.go` as translated (`Gen.ike.verifyIntegrity`, `decryptPayload`, `decryptMsg`,
`DecodeDecrypt`; `calculateIntegrity` is in `Integrity.lean`) ⊑ the hand-written model (`calcIntegrity`, `decryptPayload`,
`lastSK`, `decryptMsg`, `unprotect`).  Defines `Dec.decodedG`, `Dec.NoSKFirst`, `Dec.ValidChecksum` (in which
`C02_gen_accepts_only_valid` is stated) and the sample object `Dec.exSa`. -/

namespace Ike.RefineSa.Dec
open Ike Ike.GenAbsSa Ike.Gen.message Ike.Refine

theorem IntegOk_ne_nil {i : Gen.integ.INTEGType} (h : IntegOk i) : i ≠ .nil_ :=
  ((IntegOk_iff_outLenI i).1 h).1

theorem IntegOk_outLen {i : Gen.integ.INTEGType} (h : IntegOk i) :
    Gen.integ.INTEGType.GetOutputLength i = .ok (((absIntegInfo i).outLen : Nat) : Int) := by
  obtain ⟨hi, hol⟩ := (IntegOk_iff_outLenI i).1 h
  rw [Enc.GetOutputLength_eq i hi, outLenI_eq_cast hol]

theorem IntegOk_of_registered {i : Gen.integ.INTEGType}
    (hi : i = .AuthHmacMd5_95 ⟨16, 12⟩ ∨ i = .AuthHmacSha1_96 ⟨20, 12⟩ ∨ i = .AuthHmacSha2_256_128 ⟨32, 16⟩) :
    IntegOk i :=
  (IntegOk_iff_outLenI i).2 (Enc.outLenI_registered i hi)

theorem IntegOk_iff (i : Gen.integ.INTEGType) :
    IntegOk i ↔ (match i with
      | .nil_ => False
      | .AuthHmacMd5_95 v => 0 ≤ v.outputLength
      | .AuthHmacSha1_96 v => 0 ≤ v.outputLength
      | .AuthHmacSha2_256_128 v => 0 ≤ v.outputLength) := by
  rw [IntegOk_iff_outLenI]
  cases i with
  | nil_ => exact ⟨fun h => h.1 rfl, False.elim⟩
  | _ => exact ⟨fun h => h.2, fun h => ⟨fun e => (by cases e), h⟩⟩

theorem goTo_ne_err (b : Bytes) (n : Nat) : goTo b n ≠ .err := by
  unfold goTo; split <;> simp

set_option linter.unusedVariables false in
theorem calculateIntegrity_frame (P : Prims) (k : Gen.security.IKESAKey) (hi : IntegOk k.IntegInfo)
    (hii : Go.Mac.isNil k.Integ_i = false) (hir : Go.Mac.isNil k.Integ_r = false) (role : Bool) (d : Bytes)
    (k' : Gen.security.IKESAKey) (c : Bytes) (h : Gen.ike.calculateIntegrity P k role d = .ok (k', c)) :
    k' = afterInteg k role d := by
  rw [RefineSa.calculateIntegrity_frame P k k' role d c h, afterInteg_eq_macFed]

theorem calcIntegrity_ne_err (P : Prims) (sa : SAKey) (role : Bool) (d : Bytes) :
    (calcIntegrity P sa role d).2 ≠ .err := by
  cases role <;> simp only [calcIntegrity, Bool.false_eq_true, if_false, if_true] <;>
    exact goTo_ne_err _ _

/-- `RefineSa.calculateIntegrity_refines` under the hypotheses this side has at hand -/
theorem calculateIntegrity_refines (P : Prims) (k : Gen.security.IKESAKey) (hi : IntegOk k.IntegInfo)
    (hii : Go.Mac.isNil k.Integ_i = false) (hir : Go.Mac.isNil k.Integ_r = false) (role : Bool) (d : Bytes) :
    (Gen.ike.calculateIntegrity P k role d).map (fun x => (absSa x.1, x.2)) =
      (match calcIntegrity P (absSa k) role d with
       | (sa', .ok c) => .ok (sa', c)
       | (_, .err) => .err
       | (_, .fault) => .fault) :=
  RefineSa.calculateIntegrity_refines P k ((IntegOk_iff_outLenI _).1 hi).1 ((IntegOk_iff_outLenI _).1 hi).2 role
    (integObj_not_nil hii hir role) d

/-- closed form of the generated `verifyIntegrity` (hash object non-nil: the calculation cannot err, so the
error branch that evaluates `IntegInfo.TransformID()` on the zero object `catchErr` supplies is not taken) -/
theorem verifyIntegrity_eq (P : Prims) (k : Gen.security.IKESAKey) (hi : IntegOk k.IntegInfo) (role : Bool)
    (hn : Go.Mac.isNil (if role then k.Integ_i else k.Integ_r) = false) (data checksum : Bytes) :
    Gen.ike.verifyIntegrity P data checksum k role =
      (goTo (P.mac (if role then k.Integ_i else k.Integ_r).h (if role then k.Integ_i else k.Integ_r).key data)
        (absIntegInfo k.IntegInfo).outLen) >>= fun expect =>
        if checksum = expect then .ok (Enc.macFed k role data) else .err := by
  obtain ⟨hnn, hol⟩ := (IntegOk_iff_outLenI _).1 hi
  unfold Gen.ike.verifyIntegrity
  rw [calculateIntegrity_goTo P k hnn hol role hn]
  cases hg : goTo (P.mac (if role then k.Integ_i else k.Integ_r).h (if role then k.Integ_i else k.Integ_r).key data)
      (absIntegInfo k.IntegInfo).outLen with
  | ok c =>
    simp only [Res.bind_ok, Go.catchErr, Bool.false_eq_true, if_false, beq_iff_eq]
    by_cases h : checksum = c <;> simp [h]
  | err => exact absurd hg (goTo_ne_err _ _)
  | fault => rfl

theorem verifyIntegrity_refines (P : Prims) (k : Gen.security.IKESAKey) (hi : IntegOk k.IntegInfo)
    (hii : Go.Mac.isNil k.Integ_i = false) (hir : Go.Mac.isNil k.Integ_r = false) (role : Bool)
    (data checksum : Bytes) :
    (Gen.ike.verifyIntegrity P data checksum k role).map absSa =
      (match calcIntegrity P (absSa k) role data with
       | (sa', .ok expect) => if bytesEq checksum expect = true then .ok sa' else .err
       | (_, .err) => .err
       | (_, .fault) => .fault) := by
  rw [verifyIntegrity_eq P k hi role (integObj_not_nil hii hir role), calcIntegrity_absSa]
  cases goTo (P.mac (if role then k.Integ_i else k.Integ_r).h (if role then k.Integ_i else k.Integ_r).key data)
      (absIntegInfo k.IntegInfo).outLen with
  | ok c =>
    simp only [Res.bind_ok, bytesEq, beq_iff_eq]
    by_cases h : checksum = c <;> simp [h]
  | err => rfl
  | fault => rfl

theorem decryptPayload_refines (P : Prims) (hP : P.Lawful) (k : Gen.security.IKESAKey) (hk : SaWF k) (role : Bool)
    (ct : Bytes) : Gen.ike.decryptPayload P ct k role = decryptPayload P (absSa k) role ct := by
  unfold Gen.ike.decryptPayload decryptPayload
  cases role with
  | true =>
    simp only [if_true, RefineReg.Decrypt_refines P hP _ hk.encr_r.2.1, bind_ok_id]
    rfl
  | false =>
    simp only [Bool.false_eq_true, if_false, RefineReg.Decrypt_refines P hP _ hk.encr_i.2.1, bind_ok_id]
    rfl

theorem IKEPayload_Type_abs (g : IKEPayload) (p : Payload) (h : GenAbs.absPayload g = some p) :
    IKEPayload.Type_ g = .ok p.typeCode := by
  rw [← repPayload_of_abs g p h]
  exact IKEPayload_Type_rep p

theorem lastSK_cons_acc (p : Payload) (ps : List Payload) (a b : Option (UInt8 × Bytes)) :
    lastSK (p :: ps) a = lastSK (p :: ps) b := by
  cases p <;> rfl

theorem lastSK_ne_fault (ps : List Payload) : ∀ a, lastSK ps a ≠ .fault := by
  induction ps with
  | nil => intro a; simp [lastSK]
  | cons p ps ih =>
    intro a
    cases p <;> simp only [lastSK, ne_eq, reduceCtorEq, not_false_eq_true]
    exact ih _

theorem loop1_refines (P : Prims) (gps : List IKEPayload) :
    ∀ (ps : List Payload), GenAbs.absPayloads gps = some ps → ∀ (idx : Nat) (acc : Encrypted),
      Gen.ike.decryptMsg.loop1 P gps idx acc =
        (match lastSK ps none with
         | .ok none => .ok acc
         | .ok (some (n, d)) => .ok { NextPayload := n, EncryptedData := d }
         | .err => .err
         | .fault => .fault) := by
  induction gps with
  | nil =>
    intro ps h idx acc
    rw [absPayloads_nil_some ps h]
    rfl
  | cons g gps ih =>
    intro ps h idx acc
    obtain ⟨p, ps', rfl, hg, hr⟩ := absPayloads_cons_some g gps ps h
    unfold Gen.ike.decryptMsg.loop1
    simp only [IKEPayload_Type_abs g p hg, Res.bind_ok]
    by_cases h46 : p.typeCode = 46
    · obtain ⟨n, d, rfl⟩ := p.eq_sk_of_typeCode h46
      simp only [h46, if_true]
      cases g <;> simp only [GenAbs.absPayload, Option.some.injEq, reduceCtorEq] at hg
      next v =>
        simp only [Res.bind_ok]
        rw [ih ps' hr]
        simp only [lastSK]
        cases ps' with
        | nil =>
          simp only [lastSK]
          cases v
          simp only [Payload.sk.injEq] at hg
          simp [hg.1, hg.2]
        | cons q qs =>
          rw [lastSK_cons_acc q qs (some (n, d)) none]
          cases hq : lastSK (q :: qs) none with
          | ok o =>
            cases o with
            | none => exact absurd hq (lastSK_cons_ne_none q qs none)
            | some x => rfl
          | err => rfl
          | fault => rfl
    · simp only [h46, if_false]
      cases p <;> first | rfl | exact absurd rfl h46

theorem Decode_chain_cases (t : UInt8) (b : Bytes) :
    (∃ l ps, IKEPayloadContainer.Decode [] t b = .ok l ∧ decodeChain t b = .ok ps ∧ GenAbs.absPayloads l = some ps) ∨
    (IKEPayloadContainer.Decode [] t b = .err ∧ decodeChain t b = .err) ∨
    (IKEPayloadContainer.Decode [] t b = .fault ∧ decodeChain t b = .fault) :=
  map_eq_map_some (Gen_Decode_chain t b)

theorem decide_not_role (role : Bool) : decide (¬ (role = true)) = !role := by cases role <;> rfl

theorem decryptMsg_eq (P : Prims) (k : Gen.security.IKESAKey) (hk : SaWF k) (hi : IntegOk k.IntegInfo)
    (role : Bool) (bs : Bytes) (hbs : bs ≠ []) (gm : IKEMessage) :
    Gen.ike.decryptMsg P bs (some gm) (some k) role =
      (Gen.ike.decryptMsg.loop1 P gm.Payloads 0 {}) >>= fun e =>
      if e.EncryptedData.length < (absIntegInfo k.IntegInfo).outLen then .err else
      if bs.length < (absIntegInfo k.IntegInfo).outLen then .fault else
      (goTo (P.mac (if !role then k.Integ_i else k.Integ_r).h (if !role then k.Integ_i else k.Integ_r).key
          (bs.take (bs.length - (absIntegInfo k.IntegInfo).outLen))) (absIntegInfo k.IntegInfo).outLen) >>= fun expect =>
      if e.EncryptedData.drop (e.EncryptedData.length - (absIntegInfo k.IntegInfo).outLen) = expect then
        (Gen.ike.decryptPayload P (e.EncryptedData.take (e.EncryptedData.length - (absIntegInfo k.IntegInfo).outLen))
          (Enc.macFed k (!role) (bs.take (bs.length - (absIntegInfo k.IntegInfo).outLen))) role) >>= fun plain =>
        (IKEPayloadContainer.Decode [] e.NextPayload plain) >>= fun l =>
        .ok ({ gm with Payloads := l }, Enc.macFed k (!role) (bs.take (bs.length - (absIntegInfo k.IntegInfo).outLen)),
          { gm with Payloads := l })
      else .err := by
  unfold Gen.ike.decryptMsg
  simp only [Option.isNone_some, Option.getD_some, Bool.false_eq_true, if_false, hbs, hk.integ, hk.encr, hk.integ_i,
    beq_iff_eq, hk.encr_i.1, IntegOk_outLen hi, Res.bind_ok, Int.ofNat_lt, decide_not_role, sliceTo_sub,
    IKEPayloadContainer.Reset, List.nil_append]
  refine bind_congr fun e => ?_
  by_cases h1 : e.EncryptedData.length < (absIntegInfo k.IntegInfo).outLen
  · simp only [if_pos h1]
  simp only [if_neg h1, Go.sliceFrom_len_sub _ _ (Nat.le_of_not_lt h1), Res.bind_ok]
  by_cases h2 : bs.length < (absIntegInfo k.IntegInfo).outLen
  · simp only [if_pos h2]; rfl
  simp only [if_neg h2, Res.bind_ok, verifyIntegrity_eq P k hi (!role) (integObj_not_nil hk.integ_i hk.integ_r _), Res.bind_assoc]
  refine bind_congr fun expect => ?_
  by_cases hc : e.EncryptedData.drop (e.EncryptedData.length - (absIntegInfo k.IntegInfo).outLen) = expect
  · simp only [if_pos hc, Res.bind_ok]
  · simp only [if_neg hc]; rfl

theorem decryptMsg_refines (P : Prims) (hP : P.Lawful) (k : Gen.security.IKESAKey) (hk : SaWF k)
    (hi : IntegOk k.IntegInfo) (role : Bool) (bs : Bytes) (gm : Gen.message.IKEMessage) (m : Msg)
    (hm : GenAbs.absMsg gm = some m) (hne : m.payloads ≠ []) (hbs : bs ≠ []) :
    (Gen.ike.decryptMsg P bs (some gm) (some k) role).map (fun x => (absSa x.2.1, GenAbs.absMsg x.2.2)) =
      (match decryptMsg P (absSa k) role bs m with
       | (sa', _, .ok m') => .ok (sa', some m')
       | (_, _, .err) => .err
       | (_, _, .fault) => .fault) := by
  obtain ⟨hps, hhdr⟩ := absMsg_some hm
  rw [decryptMsg_eq P k hk hi role bs hbs, loop1_refines P _ _ hps]
  unfold decryptMsg
  cases hl : lastSK m.payloads none with
  | err => rfl
  | fault => rfl
  | ok o =>
    cases o with
    | none =>
      exfalso
      cases hmp : m.payloads with
      | nil => exact hne hmp
      | cons p ps => rw [hmp] at hl; exact lastSK_cons_ne_none p ps none hl
    | some nd =>
      obtain ⟨next, encData⟩ := nd
      simp only [Res.bind_ok]
      rw [show (absSa k).integInfo.outLen = (absIntegInfo k.IntegInfo).outLen from rfl]
      by_cases h1 : encData.length < (absIntegInfo k.IntegInfo).outLen
      · rw [if_pos h1, if_pos h1]; rfl
      rw [if_neg h1, if_neg h1]
      by_cases h2 : bs.length < (absIntegInfo k.IntegInfo).outLen
      · rw [if_pos h2, if_pos h2]; rfl
      rw [if_neg h2, if_neg h2, calcIntegrity_absSa]
      cases goTo (P.mac (if !role then k.Integ_i else k.Integ_r).h (if !role then k.Integ_i else k.Integ_r).key
          (bs.take (bs.length - (absIntegInfo k.IntegInfo).outLen))) (absIntegInfo k.IntegInfo).outLen with
      | err => rfl
      | fault => rfl
      | ok expect =>
        simp only [Res.bind_ok, bytesEq]
        by_cases hc : encData.drop (encData.length - (absIntegInfo k.IntegInfo).outLen) = expect
        · subst hc
          simp only [if_true, beq_self_eq_true, Bool.not_true, Bool.false_eq_true, if_false,
            decryptPayload_refines P hP _ (macFed_SaWF k hk _ _)]
          cases decryptPayload P (absSa (Enc.macFed k (!role) (bs.take (bs.length - (absIntegInfo k.IntegInfo).outLen))))
              role (encData.take (encData.length - (absIntegInfo k.IntegInfo).outLen)) with
          | err => rfl
          | fault => rfl
          | ok plain =>
            simp only [Res.bind_ok]
            rcases Decode_chain_cases next plain with ⟨l, ps, h1, h2, h3⟩ | ⟨h1, h2⟩ | ⟨h1, h2⟩
            · simp only [h1, h2, Res.bind_ok, map_ok', GenAbs.absMsg, h3, Option.map_some, hhdr]
            · simp only [h1, h2, Res.bind_err, map_err']
            · simp only [h1, h2, Res.bind_fault, map_fault']
        · simp [hc]

/-- the first and the third component of the generated result are the same message -/
def SameMsg (r : Res (IKEMessage × Gen.security.IKESAKey × IKEMessage)) : Prop := ∀ x, r = .ok x → x.1 = x.2.2

theorem SameMsg_bind {α : Type} (a : Res α) (f : α → Res (IKEMessage × Gen.security.IKESAKey × IKEMessage))
    (h : ∀ v, SameMsg (f v)) : SameMsg (a >>= f) := by
  cases a with
  | ok v => simpa using h v
  | err => intro x hx; simp at hx
  | fault => intro x hx; simp at hx

theorem SameMsg_ite (c : Prop) [Decidable c] (a b : Res (IKEMessage × Gen.security.IKESAKey × IKEMessage))
    (ha : SameMsg a) (hb : SameMsg b) : SameMsg (if c then a else b) := by
  split <;> assumption

theorem SameMsg_err : SameMsg .err := by intro x hx; simp at hx
theorem SameMsg_ok (a : IKEMessage) (k : Gen.security.IKESAKey) : SameMsg (.ok (a, k, a)) := by
  intro x hx; simp only [Res.ok.injEq] at hx; subst hx; rfl

theorem decryptMsg_fst_eq (P : Prims) (bs : Bytes) (gm : Option IKEMessage) (k : Option Gen.security.IKESAKey)
    (role : Bool) (x : IKEMessage × Gen.security.IKESAKey × IKEMessage)
    (h : Gen.ike.decryptMsg P bs gm k role = .ok x) : x.1 = x.2.2 := by
  revert x h
  show SameMsg _
  unfold Gen.ike.decryptMsg
  dsimp only
  repeat (first
    | exact SameMsg_err
    | exact SameMsg_ok _ _
    | (apply SameMsg_ite)
    | (apply SameMsg_bind; intro _))

theorem DecodePayload_refines (gh : IKEHeader) (b : Bytes) :
    (IKEMessage.DecodePayload { IKEHeader := gh, Payloads := [] } b).map GenAbs.absMsg =
      (decodeChain gh.NextPayload b).map (fun ps => some ⟨GenAbs.absHeader gh, ps⟩) := by
  unfold IKEMessage.DecodePayload
  rcases Decode_chain_cases gh.NextPayload b with ⟨l, ps, h1, h2, h3⟩ | ⟨h1, h2⟩ | ⟨h1, h2⟩
  · simp only [h1, h2, Res.bind_ok, map_ok', GenAbs.absMsg, h3, Option.map_some]
  · simp only [h1, h2, Res.bind_err, map_err']
  · simp only [h1, h2, Res.bind_fault, map_fault']

/-- what `DecodeDecrypt` does with the decoded outer message (text copied from `Gen_ike.lean`; `DecodeDecrypt_eq`
checks by `rfl` that it is the same term) -/
def tailG (P : Prims) (bs : Bytes) (ko : Option Gen.security.IKESAKey) (role : Bool) (gm : IKEMessage) :
    Res (Gen.security.IKESAKey × IKEMessage) :=
  if gm.Payloads.length = 0 then
    (if gm.IKEHeader.NextPayload = (46 : UInt8) then Res.err else Res.ok (ko.getD {}, gm))
  else
    (Go.indexN gm.Payloads 0) >>= fun t1 =>
    (IKEPayload.Type_ t1) >>= fun t2 =>
    if t2 = (46 : UInt8) then
      (if ko.isNone = true then Res.err
       else (Gen.ike.decryptMsg P bs (some gm) (if ko.isNone then none else some (ko.getD {})) role) >>= fun t3 =>
         Res.ok (t3.2.1, t3.2.2))
    else Res.ok (ko.getD {}, gm)

/-- the outer decoding step of the generated `DecodeDecrypt` -/
def decodedG (bs : Bytes) (ho : Option IKEHeader) : Res IKEMessage :=
  match ho with
  | none => IKEMessage.Decode {} bs
  | some gh => (goFrom bs 28) >>= fun b => IKEMessage.DecodePayload { IKEHeader := gh, Payloads := [] } b

theorem DecodeDecrypt_eq (P : Prims) (bs : Bytes) (ho : Option IKEHeader) (ko : Option Gen.security.IKESAKey)
    (role : Bool) :
    Gen.ike.DecodeDecrypt P bs ho ko role = (decodedG bs ho) >>= fun gm => tailG P bs ko role gm := by
  cases ho with
  | none => rfl
  | some gh =>
    unfold Gen.ike.DecodeDecrypt decodedG
    cases goFrom bs 28 <;> rfl

/-- what `unprotect` does with the decoded outer message (model) -/
def tailM (P : Prims) (sa : Option SAKey) (role : Bool) (msg : Bytes) (m : Msg) : Option SAKey × Nat × Res Msg :=
  match m.payloads with
  | [] => if m.hdr.next == Facts.typeSK then (sa, 0, .err) else (sa, 0, .ok m)
  | p :: _ =>
    if p.typeCode == Facts.typeSK then
      match sa with
      | none => (none, 0, .err)
      | some k =>
        let (k', n, r) := decryptMsg P k role msg m
        (some k', n, r)
    else (sa, 0, .ok m)

theorem unprotect_eq (P : Prims) (sa : Option SAKey) (role : Bool) (hdr : Option Header) (msg : Bytes) :
    unprotect P sa role hdr msg =
      (match unprotectDecoded hdr msg with
       | .err => (sa, 0, .err)
       | .fault => (sa, 0, .fault)
       | .ok m => tailM P sa role msg m) := rfl

theorem decoded_cases (bs : Bytes) (h : Option Header) :
    (∃ gm m, decodedG bs (h.map GenAbs.repHeader) = .ok gm ∧ unprotectDecoded h bs = .ok m ∧ GenAbs.absMsg gm = some m ∧ bs ≠ []) ∨
    (decodedG bs (h.map GenAbs.repHeader) = .err ∧ unprotectDecoded h bs = .err) ∨
    (decodedG bs (h.map GenAbs.repHeader) = .fault ∧ unprotectDecoded h bs = .fault) := by
  cases h with
  | none =>
    rcases map_eq_map_some (Gen_Decode_msg bs) with ⟨gm, m, h1, h2, h3⟩ | h | h
    · refine Or.inl ⟨gm, m, h1, h2, h3, ?_⟩
      rintro rfl
      simp [decodeMsg, parseHeader, Facts.ikeHeaderLen] at h2
    · exact Or.inr (Or.inl h)
    · exact Or.inr (Or.inr h)
  | some hd =>
    simp only [Option.map_some, decodedG, unprotectDecoded, Facts.ikeHeaderLen]
    unfold goFrom
    by_cases hl : 28 ≤ bs.length
    · have hp : (IKEMessage.DecodePayload { IKEHeader := GenAbs.repHeader hd, Payloads := [] } (bs.drop 28)).map
          GenAbs.absMsg = (decodeChain hd.next (bs.drop 28) >>= fun ps => .ok ⟨hd, ps⟩).map some := by
        rw [DecodePayload_refines, Res.map_bind_ok]
        rfl
      have hbs : bs ≠ [] := by rintro rfl; simp at hl
      simp only [hl, if_true, Res.bind_ok]
      rcases map_eq_map_some hp with ⟨gm, m, h1, h2, h3⟩ | h | h
      · exact Or.inl ⟨gm, m, h1, h2, h3, hbs⟩
      · exact Or.inr (Or.inl h)
      · exact Or.inr (Or.inr h)
    · simp only [hl, if_false]
      exact Or.inr (Or.inr ⟨rfl, rfl⟩)

theorem tailG_abs (P : Prims) (bs : Bytes) (ko : Option Gen.security.IKESAKey) (role : Bool) (gm : IKEMessage)
    (m : Msg) (hm : GenAbs.absMsg gm = some m) :
    tailG P bs ko role gm =
      match m.payloads with
      | [] => if m.hdr.next = (46 : UInt8) then Res.err else Res.ok (ko.getD {}, gm)
      | p :: _ =>
        if p.typeCode = (46 : UInt8) then
          (if ko.isNone = true then Res.err
           else (Gen.ike.decryptMsg P bs (some gm) (if ko.isNone then none else some (ko.getD {})) role) >>= fun t3 =>
             Res.ok (t3.2.1, t3.2.2))
        else Res.ok (ko.getD {}, gm) := by
  obtain ⟨hps, hhdr⟩ := absMsg_some hm
  unfold tailG
  cases hgp : gm.Payloads with
  | nil =>
    rw [hgp] at hps
    rw [absPayloads_nil_some _ hps, ← hhdr]
    rfl
  | cons g gps =>
    rw [hgp] at hps
    obtain ⟨p, ps', hmp, hg, _⟩ := absPayloads_cons_some g gps _ hps
    rw [hmp, if_neg (List.length_cons ▸ Nat.succ_ne_zero _), indexN_cons_zero,
      Res.bind_ok, IKEPayload_Type_abs g p hg, Res.bind_ok]

theorem tail_refines (P : Prims) (hP : P.Lawful) (k : Gen.security.IKESAKey) (hk : SaWF k)
    (hi : IntegOk k.IntegInfo) (role : Bool) (bs : Bytes) (gm : IKEMessage) (m : Msg)
    (hm : GenAbs.absMsg gm = some m) (hbs : bs ≠ []) :
    (tailG P bs (some k) role gm).map (fun x => (absSa x.1, GenAbs.absMsg x.2)) =
      (match tailM P (some (absSa k)) role bs m with
       | (some sa', _, .ok m) => .ok (sa', some m)
       | (none, _, .ok m) => .ok (absSa k, some m)
       | (_, _, .err) => .err
       | (_, _, .fault) => .fault) := by
  rw [tailG_abs P bs _ role gm m hm]
  unfold tailM
  cases hmp : m.payloads with
  | nil =>
    simp only [Facts.typeSK, beq_iff_eq, Option.getD_some]
    by_cases h46 : m.hdr.next = 46
    · simp [h46]
    · simp [h46, hm]
  | cons p ps =>
    have hne : m.payloads ≠ [] := by rw [hmp]; exact List.cons_ne_nil p ps
    simp only [Facts.typeSK, beq_iff_eq, Option.isNone_some, Bool.false_eq_true, if_false, Option.getD_some]
    by_cases h46 : p.typeCode = 46
    · simp only [h46, if_true]
      rw [Res.map_bind_ok, decryptMsg_refines P hP k hk hi role bs gm m hm hne hbs]
      rcases decryptMsg P (absSa k) role bs m with ⟨k', n, (_ | _ | _)⟩ <;> rfl
    · simp [h46, hm]

theorem DecodeDecrypt_refines (P : Prims) (hP : P.Lawful) (k : Gen.security.IKESAKey) (hk : SaWF k)
    (hi : IntegOk k.IntegInfo) (role : Bool) (h : Option Header) (bs : Bytes) :
    (Gen.ike.DecodeDecrypt P bs (h.map GenAbs.repHeader) (some k) role).map
        (fun x => (absSa x.1, GenAbs.absMsg x.2)) =
      (match unprotect P (some (absSa k)) role h bs with
       | (some sa', _, .ok m) => .ok (sa', some m)
       | (none, _, .ok m) => .ok (absSa k, some m)
       | (_, _, .err) => .err
       | (_, _, .fault) => .fault) := by
  rw [DecodeDecrypt_eq, unprotect_eq]
  rcases decoded_cases bs h with ⟨gm, m, h1, h2, h3, h4⟩ | ⟨h1, h2⟩ | ⟨h1, h2⟩
  · rw [h1, h2]
    simp only [Res.bind_ok]
    exact tail_refines P hP k hk hi role bs gm m h3 h4
  · rw [h1, h2]; rfl
  · rw [h1, h2]; rfl

theorem tail_nil_key (P : Prims) (role : Bool) (bs : Bytes) (gm : IKEMessage) (m : Msg)
    (hm : GenAbs.absMsg gm = some m) :
    (tailG P bs none role gm).map (fun x => GenAbs.absMsg x.2) =
      (match tailM P none role bs m with
       | (_, _, .ok m) => .ok (some m)
       | (_, _, .err) => .err
       | (_, _, .fault) => .fault) := by
  rw [tailG_abs P bs _ role gm m hm]
  unfold tailM
  cases m.payloads with
  | nil =>
    simp only [Facts.typeSK, beq_iff_eq]
    by_cases h46 : m.hdr.next = 46
    · simp [h46]
    · simp [h46, hm]
  | cons p ps =>
    simp only [Facts.typeSK, beq_iff_eq, Option.isNone_none, if_true]
    by_cases h46 : p.typeCode = 46
    · simp [h46]
    · simp [h46, hm]

theorem DecodeDecrypt_nil_key (P : Prims) (role : Bool) (h : Option Header) (bs : Bytes) :
    (Gen.ike.DecodeDecrypt P bs (h.map GenAbs.repHeader) none role).map (fun x => GenAbs.absMsg x.2) =
      (match unprotect P none role h bs with
       | (_, _, .ok m) => .ok (some m)
       | (_, _, .err) => .err
       | (_, _, .fault) => .fault) := by
  rw [DecodeDecrypt_eq, unprotect_eq]
  rcases decoded_cases bs h with ⟨gm, m, h1, h2, h3, h4⟩ | ⟨h1, h2⟩ | ⟨h1, h2⟩
  · rw [h1, h2]
    simp only [Res.bind_ok]
    exact tail_nil_key P role bs gm m h3
  · rw [h1, h2]; rfl
  · rw [h1, h2]; rfl

/-- the trailing `outLen` octets of the SK payload's data are the truncated MAC, under the PEER's integrity key,
of the datagram without its trailing `outLen` octets -/
def ValidChecksum (P : Prims) (k : Gen.security.IKESAKey) (role : Bool) (bs encData : Bytes) : Prop :=
  let n := (absIntegInfo k.IntegInfo).outLen
  let mac := P.mac (if role then k.Integ_r else k.Integ_i).h (if role then k.Integ_r else k.Integ_i).key
    (bs.take (bs.length - n))
  n ≤ encData.length ∧ n ≤ bs.length ∧ n ≤ mac.length ∧ encData.drop (encData.length - n) = mac.take n

/-- the decoded outer message does not start with an SK payload -/
def NoSKFirst (gm : IKEMessage) : Prop :=
  match gm.Payloads with
  | [] => gm.IKEHeader.NextPayload ≠ 46
  | g :: _ => ∀ v, g ≠ .Encrypted v

theorem Type_cases (g : IKEPayload) :
    (∃ v, g = .Encrypted v ∧ IKEPayload.Type_ g = .ok 46) ∨ (IKEPayload.Type_ g = .fault) ∨
    ((∀ v, g ≠ .Encrypted v) ∧ ∃ c, IKEPayload.Type_ g = .ok c ∧ c ≠ 46) := by
  cases g with
  | Encrypted v => exact Or.inl ⟨v, rfl, rfl⟩
  | nil_ => exact Or.inr (Or.inl rfl)
  | _ => exact Or.inr (Or.inr ⟨fun v h => IKEPayload.noConfusion h, _, rfl, by decide⟩)

theorem loop1_ok (P : Prims) (gps : List IKEPayload) :
    ∀ (idx : Nat) (acc e : Encrypted), Gen.ike.decryptMsg.loop1 P gps idx acc = .ok e →
      (∀ g ∈ gps, ∃ v, g = .Encrypted v) ∧
      ((gps = [] ∧ e = acc) ∨ gps.getLast? = some (.Encrypted e)) := by
  induction gps with
  | nil =>
    intro idx acc e h
    simp only [Gen.ike.decryptMsg.loop1, Res.ok.injEq] at h
    exact ⟨by simp, Or.inl ⟨rfl, h.symm⟩⟩
  | cons g gps ih =>
    intro idx acc e h
    unfold Gen.ike.decryptMsg.loop1 at h
    rcases Type_cases g with ⟨v, rfl, ht⟩ | ht | ⟨_, c, ht, hc⟩
    · simp only [ht, Res.bind_ok, if_true] at h
      obtain ⟨h1, h2⟩ := ih _ _ _ h
      refine ⟨?_, Or.inr ?_⟩
      · intro g hg
        rcases List.mem_cons.mp hg with rfl | hg
        · exact ⟨v, rfl⟩
        · exact h1 g hg
      · rcases h2 with ⟨rfl, rfl⟩ | h2
        · rfl
        · cases gps with
          | nil => simp at h2
          | cons q qs => simpa [List.getLast?_cons_cons] using h2
    · simp [ht] at h
    · simp [ht, hc] at h

theorem decryptMsg_ok (P : Prims) (k : Gen.security.IKESAKey) (hk : SaWF k) (hi : IntegOk k.IntegInfo)
    (role : Bool) (bs : Bytes) (gm : IKEMessage) (x : IKEMessage × Gen.security.IKESAKey × IKEMessage)
    (h : Gen.ike.decryptMsg P bs (some gm) (some k) role = .ok x) :
    ∃ e, Gen.ike.decryptMsg.loop1 P gm.Payloads 0 {} = .ok e ∧ ValidChecksum P k role bs e.EncryptedData := by
  by_cases hbs : bs = []
  · unfold Gen.ike.decryptMsg at h
    simp [hbs] at h
  rw [decryptMsg_eq P k hk hi role bs hbs] at h
  obtain ⟨e, hl, h⟩ := Res.bind_eq_ok h
  refine ⟨e, hl, ?_⟩
  by_cases h1 : e.EncryptedData.length < (absIntegInfo k.IntegInfo).outLen
  · rw [if_pos h1] at h; cases h
  by_cases h2 : bs.length < (absIntegInfo k.IntegInfo).outLen
  · rw [if_neg h1, if_pos h2] at h; cases h
  rw [if_neg h1, if_neg h2, show (if !role then k.Integ_i else k.Integ_r) = (if role then k.Integ_r else k.Integ_i) by
    cases role <;> rfl] at h
  obtain ⟨expect, hg, h⟩ := Res.bind_eq_ok h
  unfold goTo at hg
  by_cases h3 : (absIntegInfo k.IntegInfo).outLen ≤ (P.mac (if role then k.Integ_r else k.Integ_i).h
      (if role then k.Integ_r else k.Integ_i).key (bs.take (bs.length - (absIntegInfo k.IntegInfo).outLen))).length
  · rw [if_pos h3] at hg
    cases hg
    by_cases h4 : e.EncryptedData.drop (e.EncryptedData.length - (absIntegInfo k.IntegInfo).outLen) =
        (P.mac (if role then k.Integ_r else k.Integ_i).h (if role then k.Integ_r else k.Integ_i).key
          (bs.take (bs.length - (absIntegInfo k.IntegInfo).outLen))).take (absIntegInfo k.IntegInfo).outLen
    · exact ⟨Nat.le_of_not_lt h1, Nat.le_of_not_lt h2, h3, h4⟩
    · rw [if_neg h4] at h; cases h
  · rw [if_neg h3] at hg; cases hg

set_option linter.unusedVariables false in
/-- `DecodeDecrypt` with an SA returns a message only if the decoded outer message does not start with an SK payload
(then it is returned as decoded, the SA untouched), or it consists of SK payloads only and the last one carries a valid
checksum of the datagram under the peer's integrity key.  About the generated code alone: `hP` is not used. -/
theorem DecodeDecrypt_accepts_only_valid (P : Prims) (hP : P.Lawful) (k : Gen.security.IKESAKey) (hk : SaWF k)
    (hi : IntegOk k.IntegInfo) (role : Bool) (h : Option Header) (bs : Bytes)
    (k' : Gen.security.IKESAKey) (gm' : IKEMessage)
    (hok : Gen.ike.DecodeDecrypt P bs (h.map GenAbs.repHeader) (some k) role = .ok (k', gm')) :
    ∃ gm, decodedG bs (h.map GenAbs.repHeader) = .ok gm ∧
      ((NoSKFirst gm ∧ k' = k ∧ gm' = gm) ∨
       (∃ e, (∀ g ∈ gm.Payloads, ∃ v, g = .Encrypted v) ∧ gm.Payloads.getLast? = some (.Encrypted e) ∧
          ValidChecksum P k role bs e.EncryptedData)) := by
  rw [DecodeDecrypt_eq] at hok
  cases hd : decodedG bs (h.map GenAbs.repHeader) with
  | err => rw [hd] at hok; simp at hok
  | fault => rw [hd] at hok; simp at hok
  | ok gm =>
    refine ⟨gm, rfl, ?_⟩
    rw [hd] at hok
    simp only [Res.bind_ok] at hok
    unfold tailG at hok
    unfold NoSKFirst
    cases hgp : gm.Payloads with
    | nil =>
      rw [hgp] at hok
      simp only [List.length_nil, if_true, Option.getD_some] at hok
      by_cases h46 : gm.IKEHeader.NextPayload = 46
      · simp [h46] at hok
      · simp only [h46, if_false, Res.ok.injEq, Prod.mk.injEq] at hok
        exact Or.inl ⟨h46, hok.1.symm, hok.2.symm⟩
    | cons g gps =>
      rw [hgp] at hok
      simp only [List.length_cons, Nat.add_one_ne_zero, if_false, indexN_cons_zero, Res.bind_ok, Option.isNone_some,
        Bool.false_eq_true, Option.getD_some] at hok
      rcases Type_cases g with ⟨v, rfl, ht⟩ | ht | ⟨hns, c, ht, hc⟩
      · simp only [ht, Res.bind_ok, if_true] at hok
        right
        cases hdm : Gen.ike.decryptMsg P bs (some gm) (some k) role with
        | err => rw [hdm] at hok; simp at hok
        | fault => rw [hdm] at hok; simp at hok
        | ok x =>
          obtain ⟨e, hl, hv⟩ := decryptMsg_ok P k hk hi role bs gm x hdm
          obtain ⟨hall, hlast⟩ := loop1_ok P gm.Payloads 0 {} e hl
          rw [hgp] at hall hlast
          refine ⟨e, hall, ?_, hv⟩
          rcases hlast with ⟨hnil, _⟩ | hlast
          · exact absurd hnil (by simp)
          · exact hlast
      · simp [ht] at hok
      · simp only [ht, Res.bind_ok, hc, if_false, Res.ok.injEq, Prod.mk.injEq] at hok
        exact Or.inl ⟨hns, hok.1.symm, hok.2.symm⟩

/-- an SA object with every object in place; `ol` is the output length of its integrity descriptor -/
def exSa (ol : Int) : Gen.security.IKESAKey :=
  { DhInfo := someDh, EncrInfo := .EncrAesCbc ⟨32⟩, IntegInfo := .AuthHmacSha1_96 ⟨20, ol⟩, PrfInfo := .PrfHmacSha1 ⟨20, 20⟩,
    Prf_d := Go.Mac.new 1 [], Integ_i := Go.Mac.new 1 [], Integ_r := Go.Mac.new 1 [],
    Encr_i := { Block := [0] }, Encr_r := { Block := [0] }, Prf_i := Go.Mac.new 1 [], Prf_r := Go.Mac.new 1 [] }

theorem exSa_wf (ol : Int) : SaWF (exSa ol) :=
  ⟨by simp [exSa], by simp [exSa], by simp [exSa], rfl, rfl, rfl, ⟨by simp [exSa], rfl, rfl⟩, ⟨by simp [exSa], rfl, rfl⟩⟩

/-- `Enc.calculateIntegrity_needs_outLen` at a concrete object -/
theorem calculateIntegrity_needs_nonneg (P : Prims) :
    Gen.ike.calculateIntegrity P (exSa (-1)) true [] = .fault ∧
    (calcIntegrity P (absSa (exSa (-1))) true []).2 = .ok [] :=
  Enc.calculateIntegrity_needs_outLen P (exSa (-1)) (fun h => by cases h) (by decide) rfl []

/-- no payload at all: the translation (zero `Encrypted` struct instead of a nil pointer) reports an error, the
model the nil dereference of the Go code -/
theorem decryptMsg_needs_hne (P : Prims) :
    Gen.ike.decryptMsg P [0] (some {}) (some (exSa 12)) true = .err ∧
    (decryptMsg P (absSa (exSa 12)) true [0] ⟨GenAbs.absHeader {}, []⟩).2.2 = .fault := by
  constructor
  · simp [Gen.ike.decryptMsg, Gen.ike.decryptMsg.loop1, exSa, Gen.integ.INTEGType.GetOutputLength,
      Gen.integ.AuthHmacSha1_96.GetOutputLength, Go.Mac.isNil, Go.Mac.new]
  · simp [decryptMsg, lastSK]

/-- an empty datagram: the translation (nil and empty slices identified) reports `msg is nil`, the model panics at
`msg[:len(msg)-checksumLength]` as the Go code does for an empty non-nil slice -/
theorem decryptMsg_needs_hbs (P : Prims) :
    Gen.ike.decryptMsg P [] (some { Payloads := [.Encrypted { NextPayload := 0, EncryptedData := zeros 12 }] })
        (some (exSa 12)) true = .err ∧
    (decryptMsg P (absSa (exSa 12)) true [] ⟨GenAbs.absHeader {}, [.sk 0 (zeros 12)]⟩).2.2 = .fault := by
  constructor
  · simp [Gen.ike.decryptMsg]
  · simp [decryptMsg, lastSK, absSa, exSa, absIntegInfo, zeros]

/-- a nil hash object of the direction used: Go returns an error (`calculateIntegrity` tests the object; the message
of `verifyIntegrity` evaluates `ikesaKey.IntegInfo.TransformID()` on the caller's object); the translation evaluates it
on the zero object `catchErr` supplies for the failed call, whose descriptor is nil: a fault.  Not reachable under
`SaWF` (both hash objects non-nil). -/
theorem verifyIntegrity_nil_mac_fault (P : Prims) (k : Gen.security.IKESAKey) (hi : IntegOk k.IntegInfo)
    (hn : Go.Mac.isNil k.Integ_i = true) (data checksum : Bytes) :
    Gen.ike.verifyIntegrity P data checksum k true = .fault := by
  unfold Gen.ike.verifyIntegrity Gen.ike.calculateIntegrity
  rw [IntegOk_outLen hi]
  simp only [Res.bind_ok, if_true, hn, Go.catchErr]
  rfl

end Ike.RefineSa.Dec

