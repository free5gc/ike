import IkeProofs.RefineSa.RandNum
import IkeProofs.Theorems.C11

/-! Proposals and descriptors of `security/security.go` (`Gen_security.lean`) against `IkeModel/Security/Registry.lean`:
`NewChildSAKeyByProposal` ⊑ `selectChild`, the two `ToProposal` ⊑ `ikeToProposal` / `childToProposal`, the selection
part of `NewIKESAKey` ⊑ `selectIke`; closed forms of `CompareRootCertificate`, `GenerateRandomUint8`.

A descriptor is abstracted twice: `RefineReg.absDh/absEncr/absInteg/absPrf : … → Option _` (nil ↦ `none`; what the
registry refinements of `RefineReg/Registries.lean` speak of) and `GenAbsSa.absEncrInfo/absIntegInfo/absPrfInfo`,
`absDhInfo` below (nil ↦ a zero record; what `absSa` is built from).  The file starts with the bridge between the two,
`absX_none_iff` and `absX_eq_some`.  `Theorems.C11` is imported for the model's round trips
(`C11_proposal_roundtrip_ike/_child`, `C11_sa_child_iff`), which `IKESA_roundtrip` / `ChildSA_roundtrip` carry over to
the translated code.  Defines `absChildSuite`, `absIkeAlgs`, `ikeAfterSelect`, `ChildRegistered`, `EncrKNonneg`. -/

namespace Ike.RefineSa
open Ike Ike.GenAbsSa

theorem absDh_none_iff (d : Gen.dh.DHType) : RefineReg.absDh d = none ↔ d = .nil_ := by
  cases d <;> simp [RefineReg.absDh]
theorem absEncr_none_iff (d : Gen.encr.ENCRType) : RefineReg.absEncr d = none ↔ d = .nil_ := by
  cases d <;> simp [RefineReg.absEncr]
theorem absInteg_none_iff (d : Gen.integ.INTEGType) : RefineReg.absInteg d = none ↔ d = .nil_ := by
  cases d <;> simp [RefineReg.absInteg]
theorem absIntegK_none_iff (d : Gen.integ.INTEGKType) : RefineReg.absIntegK d = none ↔ d = .nil_ := by
  cases d <;> simp [RefineReg.absIntegK]
theorem absPrf_none_iff (d : Gen.prf.PRFType) : RefineReg.absPrf d = none ↔ d = .nil_ := by
  cases d <;> simp [RefineReg.absPrf]

/-- the DH descriptor as the registry model's `DhInfo` (total version of `RefineReg.absDh`) -/
def absDhInfo : Gen.dh.DHType → Registry.DhInfo
  | .nil_ => ⟨0, 0, 0, 0⟩
  | .Dh1024BitModp v => RefineReg.absInfo1024 v
  | .DH2048BitModp v => RefineReg.absInfo2048 v

theorem absDh_eq_some {d : Gen.dh.DHType} (h : d ≠ .nil_) : RefineReg.absDh d = some (absDhInfo d) := by
  cases d <;> first | exact absurd rfl h | rfl
theorem absEncr_eq_some {d : Gen.encr.ENCRType} (h : d ≠ .nil_) : RefineReg.absEncr d = some (absEncrInfo d) := by
  cases d <;> first | exact absurd rfl h | rfl
theorem absInteg_eq_some {d : Gen.integ.INTEGType} (h : d ≠ .nil_) :
    RefineReg.absInteg d = some (absIntegInfo d) := by
  cases d <;> first | exact absurd rfl h | rfl
theorem absPrf_eq_some {d : Gen.prf.PRFType} (h : d ≠ .nil_) : RefineReg.absPrf d = some (absPrfInfo d) := by
  cases d <;> first | exact absurd rfl h | rfl

/-- the descriptors of a generated Child SA object as the model's `ChildSuite`; `none` when the (mandatory)
encryption descriptor is nil -/
def absChildSuite (c : Gen.security.ChildSAKey) : Option Registry.ChildSuite :=
  match RefineReg.absEncrK c.EncrKInfo with
  | none => none
  | some e => some ⟨RefineReg.absDh c.DhInfo, e, RefineReg.absIntegK c.IntegKInfo, RefineReg.absEsn c.EsnInfo⟩

/-- the key fields and the SPI of a Child SA object are still the zero values -/
def ChildFresh (c : Gen.security.ChildSAKey) : Prop :=
  c.SPI = 0 ∧ c.InitiatorToResponderEncryptionKey = [] ∧ c.ResponderToInitiatorEncryptionKey = [] ∧
  c.InitiatorToResponderIntegrityKey = [] ∧ c.ResponderToInitiatorIntegrityKey = []

/-- the DH choice of the translated `NewChildSAKeyByProposal`: decoded only when there is exactly ONE DH transform
(an unsupported one is refused); otherwise the descriptor stays nil -/
def childDhG (l : List Transform) : Res Gen.dh.DHType :=
  match l with
  | [d] => Gen.dh.DecodeTransform RefineReg.dhG d >>= fun x => if x = .nil_ then .err else .ok x
  | _ => .ok .nil_

/-- the integrity choice: decoded only when there is exactly ONE integrity transform (`i` the first, `ir` the rest) -/
def childIntegG (i : Transform) (ir : List Transform) : Res Gen.integ.INTEGKType :=
  match ir with
  | [] => Gen.integ.DecodeTransformChildSA RefineReg.integG i >>= fun x => if x = .nil_ then .err else .ok x
  | _ => .ok .nil_

theorem NewChildSAKeyByProposal_eq (p : Proposal) (e i n : Transform) (er ir nr : List Transform)
    (he : p.encr = e :: er) (hi : p.integ = i :: ir) (hn : p.esn = n :: nr) :
    Gen.security.NewChildSAKeyByProposal RefineReg.dhG RefineReg.encrG RefineReg.esnG RefineReg.integG (some p) =
      (childDhG p.dh >>= fun dh =>
       Gen.encr.DecodeTransformChildSA RefineReg.encrG e >>= fun en =>
       if en = .nil_ then .err else
       childIntegG i ir >>= fun ig =>
       Gen.esn.DecodeTransform RefineReg.esnG n >>= fun es =>
       .ok { DhInfo := dh, EncrKInfo := en, IntegKInfo := ig, EsnInfo := es }) := by
  unfold Gen.security.NewChildSAKeyByProposal
  -- the generated `let`s that do not depend on a bound variable, in the order they are lifted: `proposal_isnil`,
  -- `proposal`, the new `childsaKey` (`{}`), `err := false`, and the join points `jp5` (decode the ESN transform),
  -- `jp10` (everything after the DH choice); what the join points do, for any object built so far:
  extract_lets isnil prop c0 err jp5 jp10
  have h5 : ∀ c, jp5 c = Gen.esn.DecodeTransform RefineReg.esnG n >>= fun es => .ok { c with EsnInfo := es } :=
    fun c => by simp only [jp5, prop, Option.getD_some, hn, indexN_cons_zero, Res.bind_ok]
  have h10 : ∀ c, jp10 c = Gen.encr.DecodeTransformChildSA RefineReg.encrG e >>= fun en =>
      if en = .nil_ then .err else
      (match ir with
        | [] => Gen.integ.DecodeTransformChildSA RefineReg.integG i >>= fun x => if x = .nil_ then .err else .ok x
        | _ => .ok c.IntegKInfo) >>= fun ig =>
      Gen.esn.DecodeTransform RefineReg.esnG n >>= fun es =>
      .ok { c with EncrKInfo := en, IntegKInfo := ig, EsnInfo := es } := by
    intro c
    simp only [jp10, prop, Option.getD_some, he, hi, indexN_cons_zero, Res.bind_ok, h5, List.length_cons]
    refine bind_congr fun en => ?_
    by_cases hen : en = .nil_
    · simp only [if_pos hen]
    simp only [if_neg hen]
    cases ir with
    | nil =>
      simp only [List.length_nil, Nat.zero_add, if_true, Res.bind_assoc]
      refine bind_congr fun ig => ?_
      by_cases hig : ig = .nil_
      · simp only [if_pos hig, Res.bind_err]
      · simp only [if_neg hig, Res.bind_ok]
    | cons i2 ir2 =>
      rw [if_neg (by simp)]
      rfl
  simp only [isnil, prop, Option.isNone_some, Option.getD_some, Bool.false_eq_true, if_false, he, hi, hn,
    List.length_cons, Nat.add_one_ne_zero, h10]
  unfold childDhG childIntegG
  rcases p.dh with _ | ⟨d, _ | ⟨d2, dr⟩⟩
  · rfl
  · simp only [List.length_cons, List.length_nil, Nat.zero_add, if_true, indexN_cons_zero, Res.bind_ok, Res.bind_assoc]
    refine bind_congr fun x => ?_
    by_cases hx : x = .nil_
    · simp only [if_pos hx, Res.bind_err]
    · simp only [if_neg hx, Res.bind_ok]
      rfl
  · rw [if_neg (by simp)]
    rfl

theorem NewChildSAKeyByProposal_refines (po : Option Proposal) :
    (Gen.security.NewChildSAKeyByProposal RefineReg.dhG RefineReg.encrG RefineReg.esnG RefineReg.integG po).map
        absChildSuite = (Registry.selectChild po).map some := by
  cases po with
  | none => rfl
  | some p =>
  cases he : p.encr with
  | nil =>
    unfold Gen.security.NewChildSAKeyByProposal Registry.selectChild
    simp [he]
  | cons e er =>
  cases hi : p.integ with
  | nil =>
    unfold Gen.security.NewChildSAKeyByProposal Registry.selectChild
    simp [he, hi]
  | cons i ir =>
  cases hn : p.esn with
  | nil =>
    unfold Gen.security.NewChildSAKeyByProposal Registry.selectChild
    simp [he, hi, hn]
  | cons n nr =>
  rw [NewChildSAKeyByProposal_eq p e i n er ir nr he hi hn]
  unfold Registry.selectChild childDhG childIntegG
  simp only [he, hi, hn]
  clear he hi hn
  obtain ⟨en, hen, aen⟩ := map_eq_ok (RefineReg.encr_DecodeTransformChildSA_refines e)
  obtain ⟨ig, hig, aig⟩ := map_eq_ok (RefineReg.integ_DecodeTransformChildSA_refines i)
  have hes := RefineReg.esn_DecodeTransform_refines n
  rw [hen, ← aen, ← hes]
  -- everything after the DH group, for every DH descriptor already stored
  have tail : ∀ dh : Gen.dh.DHType,
      Res.map absChildSuite
        ((if en = .nil_ then Res.err else
          (match ir with
            | [] => Gen.integ.DecodeTransformChildSA RefineReg.integG i >>= fun x =>
                if x = .nil_ then Res.err else Res.ok x
            | _ => Res.ok .nil_) >>= fun ig =>
          Gen.esn.DecodeTransform RefineReg.esnG n >>= fun es =>
          Res.ok ({ DhInfo := dh, EncrKInfo := en, IntegKInfo := ig, EsnInfo := es } : Gen.security.ChildSAKey))) =
      Res.map some
        (match RefineReg.absEncrK en with
        | none => Res.err
        | some en' =>
          match
            (match ir with
            | [] =>
              (match Registry.decodeIntegChild i with
              | none => Res.err
              | some x => Res.ok (some x))
            | _ => Res.ok none : Res (Option Registry.IntegKInfo)) with
          | Res.err => Res.err
          | Res.fault => Res.fault
          | Res.ok ig' =>
            match Res.map RefineReg.absEsn (Gen.esn.DecodeTransform RefineReg.esnG n) with
            | Res.ok es => Res.ok { dh := RefineReg.absDh dh, encr := en', integ := ig', esn := es }
            | Res.err => Res.err
            | Res.fault => Res.fault) := by
    intro dh
    cases en with
    | nil_ => rfl
    | EncrAesCbc v =>
      simp only [RefineReg.absEncrK, reduceCtorEq, if_false]
      cases ir with
      | nil =>
        simp only [hig, ← aig, Res.bind_ok]
        cases ig <;> simp only [RefineReg.absIntegK, reduceCtorEq, if_false, if_true, Res.bind_ok, Res.bind_err,
          Res.map] <;> cases Gen.esn.DecodeTransform RefineReg.esnG n <;> rfl
      | cons i2 ir2 =>
        simp only [Res.bind_ok]
        cases Gen.esn.DecodeTransform RefineReg.esnG n <;> rfl
  cases hd : p.dh with
  | nil => simp only [Res.bind_ok]; exact tail .nil_
  | cons d dr =>
    cases dr with
    | nil =>
      obtain ⟨x, hx, ax⟩ := map_eq_ok (RefineReg.dh_DecodeTransform_refines d)
      simp only [hx, ← ax, Res.bind_ok]
      cases x with
      | nil_ => rfl
      | Dh1024BitModp v => simp only [reduceCtorEq, if_false, Res.bind_ok, RefineReg.absDh]; exact tail _
      | DH2048BitModp v => simp only [reduceCtorEq, if_false, Res.bind_ok, RefineReg.absDh]; exact tail _
    | cons d2 dr2 => simp only [Res.bind_ok]; exact tail .nil_

/-- the descriptors of a Child SA object are ones the translated registries register (DH group and integrity
algorithm optional) -/
structure ChildRegistered (c : Gen.security.ChildSAKey) : Prop where
  dh : c.DhInfo = .nil_ ∨ DhRegistered c.DhInfo
  encr : c.EncrKInfo = .EncrAesCbc ⟨16⟩ ∨ c.EncrKInfo = .EncrAesCbc ⟨24⟩ ∨ c.EncrKInfo = .EncrAesCbc ⟨32⟩
  integ : c.IntegKInfo = .nil_ ∨ c.IntegKInfo = .AuthHmacMd5_95 ⟨16, 12⟩ ∨ c.IntegKInfo = .AuthHmacSha1_96 ⟨20, 12⟩ ∨
    c.IntegKInfo = .AuthHmacSha2_256_128 ⟨32, 16⟩

theorem encrK_decoded_registered (t : Transform) (x : Gen.encr.ENCRKType)
    (h : Gen.encr.DecodeTransformChildSA RefineReg.encrG t = .ok x) (hx : x ≠ .nil_) :
    x = .EncrAesCbc ⟨16⟩ ∨ x = .EncrAesCbc ⟨24⟩ ∨ x = .EncrAesCbc ⟨32⟩ := by
  rw [RefineReg.encr_DecodeTransformChildSA_eval, Res.ok.injEq] at h
  subst h
  have h12 := ite_ne_else hx
  rw [if_pos h12] at hx ⊢
  have h14 := ite_ne_else hx
  rw [if_pos h14] at hx ⊢
  exact ite3_ne_else rfl hx

theorem integK_decoded_registered (t : Transform) (x : Gen.integ.INTEGKType)
    (h : Gen.integ.DecodeTransformChildSA RefineReg.integG t = .ok x) (hx : x ≠ .nil_) :
    x = .AuthHmacMd5_95 ⟨16, 12⟩ ∨ x = .AuthHmacSha1_96 ⟨20, 12⟩ ∨ x = .AuthHmacSha2_256_128 ⟨32, 16⟩ := by
  rw [RefineReg.integ_DecodeTransformChildSA_eval, Res.ok.injEq] at h
  exact ite3_ne_else h.symm hx

theorem childDhG_ok (l : List Transform) (x : Gen.dh.DHType) (h : childDhG l = .ok x) :
    x = .nil_ ∨ DhRegistered x := by
  rcases l with _ | ⟨d, _ | ⟨d2, dr⟩⟩
  · cases h; exact Or.inl rfl
  · obtain ⟨hd, hn⟩ := bind_guard_eq_ok h
    rw [dh_DecodeTransform_eval, Res.ok.injEq] at hd
    subst hd
    exact Or.inr (decDh_registered d hn)
  · cases h; exact Or.inl rfl

theorem childIntegG_ok (i : Transform) (ir : List Transform) (x : Gen.integ.INTEGKType)
    (h : childIntegG i ir = .ok x) :
    x = .nil_ ∨ x = .AuthHmacMd5_95 ⟨16, 12⟩ ∨ x = .AuthHmacSha1_96 ⟨20, 12⟩ ∨ x = .AuthHmacSha2_256_128 ⟨32, 16⟩ := by
  rcases ir with _ | ⟨i2, ir2⟩
  · obtain ⟨hd, hn⟩ := bind_guard_eq_ok h
    exact Or.inr (integK_decoded_registered i x hd hn)
  · cases h; exact Or.inl rfl

theorem NewChildSAKeyByProposal_ne_fault (po : Option Proposal) :
    Gen.security.NewChildSAKeyByProposal RefineReg.dhG RefineReg.encrG RefineReg.esnG RefineReg.integG po ≠ .fault := by
  intro h
  have hr := NewChildSAKeyByProposal_refines po
  rw [h] at hr
  cases hs : Registry.selectChild po with
  | ok s => rw [hs] at hr; cases hr
  | err => rw [hs] at hr; cases hr
  | fault =>
    cases po with
    | none => cases hs
    | some p => exact (C11_sa_child_iff p default).2.1 hs

theorem NewChildSAKeyByProposal_ok (po : Option Proposal) (c : Gen.security.ChildSAKey)
    (h : Gen.security.NewChildSAKeyByProposal RefineReg.dhG RefineReg.encrG RefineReg.esnG RefineReg.integG po
      = .ok c) : ChildRegistered c ∧ ChildFresh c := by
  cases po with
  | none => cases h
  | some p =>
  cases he : p.encr with
  | nil =>
    unfold Gen.security.NewChildSAKeyByProposal at h
    simp [he] at h
  | cons e er =>
  cases hi : p.integ with
  | nil =>
    unfold Gen.security.NewChildSAKeyByProposal at h
    simp [he, hi] at h
  | cons i ir =>
  cases hn : p.esn with
  | nil =>
    unfold Gen.security.NewChildSAKeyByProposal at h
    simp [he, hi, hn] at h
  | cons n nr =>
  rw [NewChildSAKeyByProposal_eq p e i n er ir nr he hi hn] at h
  obtain ⟨dh, hdh, h⟩ := Res.bind_eq_ok h
  obtain ⟨en, hen, h⟩ := Res.bind_eq_ok h
  by_cases henn : en = .nil_
  · rw [if_pos henn] at h; cases h
  rw [if_neg henn] at h
  obtain ⟨ig, hig, h⟩ := Res.bind_eq_ok h
  obtain ⟨es, hes, h⟩ := Res.bind_eq_ok h
  cases h
  exact ⟨⟨childDhG_ok _ _ hdh, encrK_decoded_registered e _ hen henn, childIntegG_ok _ _ _ hig⟩, rfl, rfl, rfl, rfl, rfl⟩

/-- non-vacuity: a proposal without DH group; one with two integrity transforms (accepted, `IntegKInfo` stays nil);
an unsupported ESN transform identifier (error) -/
example :
    Gen.security.NewChildSAKeyByProposal RefineReg.dhG RefineReg.encrG RefineReg.esnG RefineReg.integG
      (some ⟨1, 3, [1, 2, 3, 4], [⟨1, 12, true, 1, 14, 256, []⟩], [], [⟨3, 2, false, 0, 0, 0, []⟩], [],
        [⟨5, 0, false, 0, 0, 0, []⟩]⟩) =
      .ok { EncrKInfo := .EncrAesCbc ⟨32⟩, IntegKInfo := .AuthHmacSha1_96 ⟨20, 12⟩, EsnInfo := ⟨false⟩ } ∧
    Gen.security.NewChildSAKeyByProposal RefineReg.dhG RefineReg.encrG RefineReg.esnG RefineReg.integG
      (some ⟨1, 3, [1, 2, 3, 4], [⟨1, 12, true, 1, 14, 128, []⟩], [],
        [⟨3, 2, false, 0, 0, 0, []⟩, ⟨3, 12, false, 0, 0, 0, []⟩], [], [⟨5, 1, false, 0, 0, 0, []⟩]⟩) =
      .ok { EncrKInfo := .EncrAesCbc ⟨16⟩, EsnInfo := ⟨true⟩ } ∧
    Gen.security.NewChildSAKeyByProposal RefineReg.dhG RefineReg.encrG RefineReg.esnG RefineReg.integG
      (some ⟨1, 3, [1, 2, 3, 4], [⟨1, 12, true, 1, 14, 256, []⟩], [], [⟨3, 2, false, 0, 0, 0, []⟩], [],
        [⟨5, 2, false, 0, 0, 0, []⟩]⟩) = .err := by
  decide +kernel

/-- key length not negative (true of every descriptor the registries register; the model's length is a `Nat`) -/
def EncrNonneg : Gen.encr.ENCRType → Prop
  | .nil_ => True
  | .EncrAesCbc v => 0 ≤ v.keyLength

def EncrKNonneg : Gen.encr.ENCRKType → Prop
  | .nil_ => True
  | .EncrAesCbc v => 0 ≤ v.keyLength

theorem dh_ToTransform_of_ne_nil {d : Gen.dh.DHType} (h : d ≠ .nil_) :
    Gen.dh.ToTransform d = .ok (Registry.dhToTransform (absDhInfo d)) := by
  rw [RefineReg.dh_ToTransform_refines, absDh_eq_some h]

theorem encr_ToTransform_of_ne_nil {d : Gen.encr.ENCRType} (h : d ≠ .nil_) (hl : EncrNonneg d) :
    Gen.encr.ToTransform d = Registry.encrToTransform (absEncrInfo d) := by
  cases d with
  | nil_ => exact absurd rfl h
  | EncrAesCbc v => exact RefineReg.encr_ToTransform_refines v hl

theorem IKESAKey_ToProposal_refines_of_nonnil (k : Gen.security.IKESAKey)
    (hd : k.DhInfo ≠ .nil_) (he : k.EncrInfo ≠ .nil_) (hi : k.IntegInfo ≠ .nil_) (hp : k.PrfInfo ≠ .nil_)
    (hl : EncrNonneg k.EncrInfo) :
    Gen.security.IKESAKey.ToProposal k =
      Registry.ikeToProposal ⟨absDhInfo k.DhInfo, absEncrInfo k.EncrInfo, absIntegInfo k.IntegInfo,
        absPrfInfo k.PrfInfo⟩ := by
  unfold Gen.security.IKESAKey.ToProposal Registry.ikeToProposal
  rw [dh_ToTransform_of_ne_nil hd, RefineReg.prf_ToTransform_refines _ _ (absPrf_eq_some hp), encr_ToTransform_of_ne_nil he hl,
    RefineReg.integ_ToTransform_refines _ _ (absInteg_eq_some hi)]
  simp only [Res.bind_ok]
  show (Registry.encrToTransform (absEncrInfo k.EncrInfo) >>= fun t3 => _) =
    (Registry.encrToTransform (absEncrInfo k.EncrInfo) >>= fun e => _)
  cases Registry.encrToTransform (absEncrInfo k.EncrInfo) with
  | err => rfl
  | fault => rfl
  | ok t => rfl

theorem SaRegistered.ne_nil {k : Gen.security.IKESAKey} (h : SaRegistered k) :
    k.EncrInfo ≠ .nil_ ∧ k.IntegInfo ≠ .nil_ ∧ k.PrfInfo ≠ .nil_ := by
  refine ⟨?_, ?_, ?_⟩
  · rcases h.encr with e | e | e <;> rw [e] <;> exact fun h => by cases h
  · rcases h.integ with e | e | e <;> rw [e] <;> exact fun h => by cases h
  · rcases h.prf with e | e | e <;> rw [e] <;> exact fun h => by cases h

theorem SaRegistered.encrNonneg {k : Gen.security.IKESAKey} (h : SaRegistered k) : EncrNonneg k.EncrInfo := by
  rcases h.encr with e | e | e <;> rw [e] <;> simp [EncrNonneg]

set_option linter.unusedVariables false in
/-- `hdh` is not used: `SaRegistered` already asks for a non-nil DH descriptor, and `dh.ToTransform` reads nothing
but the constant `TransformID()` -/
theorem IKESAKey_ToProposal_refines (k : Gen.security.IKESAKey) (hk : SaRegistered k)
    (hdh : DhRegistered k.DhInfo) :
    Gen.security.IKESAKey.ToProposal k =
      Registry.ikeToProposal ⟨absDhInfo k.DhInfo, absEncrInfo k.EncrInfo, absIntegInfo k.IntegInfo,
        absPrfInfo k.PrfInfo⟩ :=
  IKESAKey_ToProposal_refines_of_nonnil k hk.dh hk.ne_nil.1 hk.ne_nil.2.1 hk.ne_nil.2.2 hk.encrNonneg

/-- a nil DH, PRF or encryption descriptor: the method call on the nil interface value panics -/
theorem IKESAKey_ToProposal_nil (k : Gen.security.IKESAKey)
    (h : k.DhInfo = .nil_ ∨ k.PrfInfo = .nil_ ∨ k.EncrInfo = .nil_) :
    Gen.security.IKESAKey.ToProposal k = .fault := by
  unfold Gen.security.IKESAKey.ToProposal
  by_cases hd : k.DhInfo = .nil_
  · rw [hd]; rfl
  rw [dh_ToTransform_of_ne_nil hd]
  by_cases hp : k.PrfInfo = .nil_
  · rw [hp]; rfl
  rw [RefineReg.prf_ToTransform_refines _ _ (absPrf_eq_some hp)]
  rcases h with h | h | h
  · exact absurd h hd
  · exact absurd h hp
  · rw [h]; rfl

/-- … and a nil integrity descriptor panics once the encryption transform is built -/
theorem IKESAKey_ToProposal_nil_integ (k : Gen.security.IKESAKey) (hi : k.IntegInfo = .nil_) (p : Proposal) :
    Gen.security.IKESAKey.ToProposal k ≠ .ok p := by
  unfold Gen.security.IKESAKey.ToProposal
  intro h
  obtain ⟨_, _, h⟩ := Res.bind_eq_ok h
  obtain ⟨_, _, h⟩ := Res.bind_eq_ok h
  obtain ⟨_, _, h⟩ := Res.bind_eq_ok h
  rw [hi] at h
  cases h

/-- the hypothesis on the key length is needed: with a (never registered) negative key length the Go code returns
an error where the model, whose length is a `Nat`, builds a transform with key-length attribute 0 -/
theorem IKESAKey_ToProposal_needs_nonneg :
    Gen.security.IKESAKey.ToProposal
      { DhInfo := .Dh1024BitModp RefineReg.desc1024, EncrInfo := .EncrAesCbc ⟨-1⟩,
        IntegInfo := .AuthHmacSha1_96 ⟨20, 12⟩, PrfInfo := .PrfHmacSha1 ⟨20, 20⟩ } = .err ∧
    ∃ p, Registry.ikeToProposal ⟨absDhInfo (.Dh1024BitModp RefineReg.desc1024), absEncrInfo (.EncrAesCbc ⟨-1⟩),
      absIntegInfo (.AuthHmacSha1_96 ⟨20, 12⟩), absPrfInfo (.PrfHmacSha1 ⟨20, 20⟩)⟩ = .ok p := by
  constructor
  · unfold Gen.security.IKESAKey.ToProposal
    rw [dh_ToTransform_of_ne_nil (by intro h; cases h), (RefineReg.aesCbc_getAttribute_negative ⟨-1⟩ (by decide)).1]
    rfl
  · exact ⟨_, rfl⟩

/-- both outcomes of `integ.ToTransformChildSA` (a nil `INTEGKType` makes it panic) -/
theorem integK_ToTransform_eq (d : Gen.integ.INTEGKType) :
    Gen.integ.ToTransformChildSA d = match RefineReg.absIntegK d with
      | some i => .ok (Registry.integChildToTransform i)
      | none => .fault := by
  cases d <;> rfl

theorem ChildSAKey_ToProposal_refines (c : Gen.security.ChildSAKey) (s : Registry.ChildSuite)
    (h : absChildSuite c = some s) (hl : EncrKNonneg c.EncrKInfo) :
    Gen.security.ChildSAKey.ToProposal c = Registry.childToProposal s := by
  obtain ⟨spi, dh, en, ig, es, k1, k2, k3, k4⟩ := c
  unfold absChildSuite at h
  cases en with
  | nil_ => cases h
  | EncrAesCbc v =>
    cases h
    unfold Gen.security.ChildSAKey.ToProposal Registry.childToProposal
    -- lifted `let`s: the two `p` (zero proposal, then `proto := 3`), `err := false`, and the join points `jp3` (the ESN
    -- transform is appended) and `jp5` (before it the encryption transform and, when there is an integrity descriptor,
    -- its transform)
    extract_lets p0 p err jp3 jp5
    have h3 : ∀ q, jp3 q = .ok { q with esn := q.esn ++ [Registry.esnToTransform (RefineReg.absEsn es)] } :=
      fun q => by simp only [jp3, RefineReg.esn_ToTransform_refines, Res.bind_ok]
    have h5 : ∀ q, jp5 q = Registry.encrChildToTransform ⟨12, v.keyLength.toNat⟩ >>= fun e =>
        .ok { q with encr := q.encr ++ [e],
                     integ := q.integ ++ (match RefineReg.absIntegK ig with
                        | some i => [Registry.integChildToTransform i] | none => []),
                     esn := q.esn ++ [Registry.esnToTransform (RefineReg.absEsn es)] } := by
      intro q
      simp only [jp5, RefineReg.encr_ToTransformChildSA_refines v hl, h3, integK_ToTransform_eq]
      refine bind_congr fun e => ?_
      cases ig <;> simp [RefineReg.absIntegK]
    simp only [h5, RefineReg.dh_ToTransform_refines]
    cases dh <;> simp [RefineReg.absDh, p, p0, GenExt.Proposal_zero, Facts.protoESP] <;> rfl

/-- a nil encryption descriptor (the object `absChildSuite` maps to `none`): the method call panics -/
theorem ChildSAKey_ToProposal_nil (c : Gen.security.ChildSAKey) (h : c.EncrKInfo = .nil_) :
    Gen.security.ChildSAKey.ToProposal c = .fault := by
  obtain ⟨spi, dh, en, ig, es, k1, k2, k3, k4⟩ := c
  simp only at h
  subst h
  unfold Gen.security.ChildSAKey.ToProposal
  cases dh <;> simp [RefineReg.dh_ToTransform_refines_1024, RefineReg.dh_ToTransform_refines_2048,
    RefineReg.encr_ToTransformChildSA_nil]

/-- the hypothesis on the key length is needed (same reason as for the IKE SA) -/
theorem ChildSAKey_ToProposal_needs_nonneg :
    Gen.security.ChildSAKey.ToProposal { EncrKInfo := .EncrAesCbc ⟨-1⟩ } = .err ∧
    ∃ s p, absChildSuite { EncrKInfo := .EncrAesCbc ⟨-1⟩ } = some s ∧ Registry.childToProposal s = .ok p := by
  constructor
  · decide
  · exact ⟨_, _, rfl, rfl⟩

/-- 4 = `message.X509CertificateSignature`: `true` exactly for that encoding, a non-empty CA value and equal octets
(`bytes.Equal`); the function is total (its only result is the `bool`) -/
theorem CompareRootCertificate_spec (ca : Bytes) (enc : UInt8) (h : Bytes) :
    Gen.security.CompareRootCertificate ca enc h = .ok (decide (enc = 4 ∧ ca ≠ [] ∧ ca = h)) := by
  unfold Gen.security.CompareRootCertificate
  by_cases he : enc = 4
  · subst he
    cases ca with
    | nil => simp
    | cons b bs =>
      simp only [List.length_cons, Nat.add_one_ne_zero, if_false, reduceCtorEq, not_false_eq_true, true_and,
        Res.ok.injEq, Ne, not_true_eq_false]
      by_cases hh : b :: bs = h
      · simp [hh]
      · simp [hh]
  · simp [he]

/-- one read of ONE octet from the source; a failing read is an error; the octet is the next one of the stream -/
theorem GenerateRandomUint8_eq (r : Rand) :
    Gen.security.GenerateRandomUint8 r =
      (if r.failAt = some r.reads then .err
       else .ok ({ r with reads := r.reads + 1, pos := r.pos + 1 }, byteAt r.buf (r.pos % r.buf.length))) := by
  unfold Gen.security.GenerateRandomUint8 Go.randFill Rand.draw
  by_cases hf : r.failAt = some r.reads
  · simp [hf, zeros]
  · simp [hf, zeros, cyc, goIndex, byteAt]

theorem absDh_decDh (t : Transform) : RefineReg.absDh (decDh t) = Registry.decodeDh t :=
  Res.ok.inj ((congrArg (Res.map _) (dh_DecodeTransform_eval t)).symm.trans (RefineReg.dh_DecodeTransform_refines t))
theorem absEncr_decEncr (t : Transform) : RefineReg.absEncr (decEncr t) = Registry.decodeEncr t :=
  Res.ok.inj ((congrArg (Res.map _) (encr_DecodeTransform_eval' t)).symm.trans (RefineReg.encr_DecodeTransform_refines t))
theorem absInteg_decInteg (t : Transform) : RefineReg.absInteg (decInteg t) = Registry.decodeInteg t :=
  Res.ok.inj ((congrArg (Res.map _) (integ_DecodeTransform_eval' t)).symm.trans (RefineReg.integ_DecodeTransform_refines t))
theorem absPrf_decPrf (t : Transform) : RefineReg.absPrf (decPrf t) = Registry.decodePrf t :=
  Res.ok.inj ((congrArg (Res.map _) (prf_DecodeTransform_eval' t)).symm.trans (RefineReg.prf_DecodeTransform_refines t))

/-- the four descriptors of an IKE SA object as the model's `IkeAlgs` (the integrity descriptor may be nil there:
`NewIKESAKey` does not refuse it); `none` when the DH, encryption or PRF descriptor is nil -/
def absIkeAlgs (k : Gen.security.IKESAKey) : Option Registry.IkeAlgs :=
  match RefineReg.absDh k.DhInfo, RefineReg.absEncr k.EncrInfo, RefineReg.absPrf k.PrfInfo with
  | some d, some e, some f => some ⟨d, e, RefineReg.absInteg k.IntegInfo, f⟩
  | _, _, _ => none

/-- what `NewIKESAKey` does once the descriptors are stored in `k` -/
def ikeAfterSelect (P : Prims) (r : Rand) (k : Gen.security.IKESAKey) (ke nonce : Bytes) (si sr : UInt64) :
    Res (Rand × Gen.security.IKESAKey × Bytes) :=
  Gen.security.CalculateDiffieHellmanMaterials secG r k ke >>= fun m =>
  Gen.security.IKESAKey.GenerateKeyForIKESA P (some k) nonce m.2.2 si sr >>= fun k' => .ok (m.1, k', m.2.1)

/-- the selection part of the translated `NewIKESAKey` (initialised registries) against the model's `selectIke`:
* the model refuses ⇒ the translated function returns an error, for every random source and every other argument,
  without touching the source;
* the model selects `a` ⇒ the translated function goes on to `CalculateDiffieHellmanMaterials` and
  `GenerateKeyForIKESA` on an object that holds nothing but four descriptors abstracting to `a`
  (`a.integ = none` ⇔ `IntegInfo` nil: the source's nil test after `integ.DecodeTransform` looks at `EncrInfo`),
  all of them registered ones;
* the model never panics here. -/
theorem NewIKESAKey_select_refines (po : Option Proposal) :
    match Registry.selectIke po with
    | .err => ∀ (P : Prims) (r : Rand) (ke nonce : Bytes) (si sr : UInt64),
        Gen.security.NewIKESAKey P secG RefineReg.dhG RefineReg.encrG RefineReg.integG RefineReg.prfG r po
          ke nonce si sr = .err
    | .fault => False
    | .ok a => ∃ k : Gen.security.IKESAKey,
        absIkeAlgs k = some a ∧
        k = { DhInfo := k.DhInfo, EncrInfo := k.EncrInfo, IntegInfo := k.IntegInfo, PrfInfo := k.PrfInfo } ∧
        (a.integ = none ↔ k.IntegInfo = .nil_) ∧
        DhRegistered k.DhInfo ∧ (k.IntegInfo ≠ .nil_ → SaRegistered k) ∧
        ∀ (P : Prims) (r : Rand) (ke nonce : Bytes) (si sr : UInt64),
          Gen.security.NewIKESAKey P secG RefineReg.dhG RefineReg.encrG RefineReg.integG RefineReg.prfG r po
            ke nonce si sr = ikeAfterSelect P r k ke nonce si sr := by
  cases po with
  | none =>
    show ∀ (P : Prims) (r : Rand) (ke nonce : Bytes) (si sr : UInt64), _
    intro P r ke nonce si sr
    exact NewIKESAKey_refuses P _ _ _ _ _ r none ke nonce si sr (Or.inl rfl)
  | some p =>
  have refuse : (p.dh = [] ∨ p.encr = [] ∨ p.integ = [] ∨ p.prf = []) →
      ∀ (P : Prims) (r : Rand) (ke nonce : Bytes) (si sr : UInt64),
        Gen.security.NewIKESAKey P secG RefineReg.dhG RefineReg.encrG RefineReg.integG RefineReg.prfG r (some p)
          ke nonce si sr = .err := fun h P r ke nonce si sr =>
    NewIKESAKey_refuses P _ _ _ _ _ r (some p) ke nonce si sr (Or.inr ⟨p, rfl, h⟩)
  unfold Registry.selectIke
  dsimp only
  cases hd : p.dh with
  | nil => exact refuse (Or.inl hd)
  | cons td dr =>
  cases he : p.encr with
  | nil => exact refuse (Or.inr (Or.inl he))
  | cons te er =>
  cases hi : p.integ with
  | nil => exact refuse (Or.inr (Or.inr (Or.inl hi)))
  | cons ti ir =>
  cases hp : p.prf with
  | nil => exact refuse (Or.inr (Or.inr (Or.inr hp)))
  | cons tp pr =>
  have hd' : p.dh.head? = some td := by rw [hd]; rfl
  have he' : p.encr.head? = some te := by rw [he]; rfl
  have hi' : p.integ.head? = some ti := by rw [hi]; rfl
  have hp' : p.prf.head? = some tp := by rw [hp]; rfl
  have heq := fun (P : Prims) (r : Rand) (ke nonce : Bytes) (si sr : UInt64) =>
    NewIKESAKey_init_eq P r p td te ti tp hd' he' hi' hp' ke nonce si sr
  simp only [← absDh_decDh, ← absEncr_decEncr, ← absInteg_decInteg, ← absPrf_decPrf]
  by_cases hdn : decDh td = .nil_
  · simp only [hdn, RefineReg.absDh]
    intro P r ke nonce si sr
    rw [heq, if_pos hdn]
  rw [absDh_eq_some hdn]
  by_cases hen : decEncr te = .nil_
  · simp only [hen, RefineReg.absEncr]
    intro P r ke nonce si sr
    rw [heq, if_neg hdn, if_pos hen]
  rw [absEncr_eq_some hen]
  by_cases hpn : decPrf tp = .nil_
  · simp only [hpn, RefineReg.absPrf]
    intro P r ke nonce si sr
    rw [heq, if_neg hdn, if_neg hen, if_pos hpn]
  rw [absPrf_eq_some hpn]
  refine ⟨saOfTransforms td te ti tp, ?_, rfl, ?_, decDh_registered td hdn, ?_, ?_⟩
  · simp only [absIkeAlgs, saOfTransforms, absDh_eq_some hdn, absEncr_eq_some hen, absPrf_eq_some hpn]
  · exact absInteg_none_iff _
  · intro hin
    exact ⟨decEncr_registered te hen, decInteg_registered ti hin, decPrf_registered tp hpn, hdn⟩
  · intro P r ke nonce si sr
    rw [heq, if_neg hdn, if_neg hen, if_neg hpn]
    rfl

/-- the refusal direction as an equivalence: the translated function refuses WITHOUT reading the random source
exactly when the model's selection refuses (`ikeAfterSelect` starts with `GenerateRandomNumber`) -/
theorem NewIKESAKey_select_cases (po : Option Proposal) :
    (Registry.selectIke po = .err ∧ ∀ (P : Prims) (r : Rand) (ke nonce : Bytes) (si sr : UInt64),
        Gen.security.NewIKESAKey P secG RefineReg.dhG RefineReg.encrG RefineReg.integG RefineReg.prfG r po
          ke nonce si sr = .err) ∨
    (∃ a k, Registry.selectIke po = .ok a ∧ absIkeAlgs k = some a ∧
      ∀ (P : Prims) (r : Rand) (ke nonce : Bytes) (si sr : UInt64),
        Gen.security.NewIKESAKey P secG RefineReg.dhG RefineReg.encrG RefineReg.integG RefineReg.prfG r po
          ke nonce si sr = ikeAfterSelect P r k ke nonce si sr) := by
  have hs := NewIKESAKey_select_refines po
  cases h : Registry.selectIke po with
  | err => rw [h] at hs; exact Or.inl ⟨rfl, hs⟩
  | fault => exact absurd h (selectIke_ne_fault po)
  | ok a =>
    rw [h] at hs
    obtain ⟨k, h1, _, _, _, _, h6⟩ := hs
    exact Or.inr ⟨a, k, rfl, h1, h6⟩

theorem absIkeAlgs_eq (k : Gen.security.IKESAKey) (hd : k.DhInfo ≠ .nil_) (he : k.EncrInfo ≠ .nil_)
    (hp : k.PrfInfo ≠ .nil_) :
    absIkeAlgs k = some ⟨absDhInfo k.DhInfo, absEncrInfo k.EncrInfo, RefineReg.absInteg k.IntegInfo,
      absPrfInfo k.PrfInfo⟩ := by
  simp only [absIkeAlgs, absDh_eq_some hd, absEncr_eq_some he, absPrf_eq_some hp]

/-- whatever SA object the translated `NewIKESAKey` returns holds exactly the suite the model's
`newIkeSaKeyAlgs` (selection + the parameter checks of `GenerateKeyForIKESA`) computes for the same proposal and
nonce; all its descriptors are registered ones -/
theorem NewIKESAKey_ok_suite (P : Prims) (r r' : Rand) (po : Option Proposal) (ke nonce : Bytes) (si sr : UInt64)
    (k' : Gen.security.IKESAKey) (pub : Bytes)
    (h : Gen.security.NewIKESAKey P secG RefineReg.dhG RefineReg.encrG RefineReg.integG RefineReg.prfG r po
      ke nonce si sr = .ok (r', k', pub)) :
    Registry.newIkeSaKeyAlgs po nonce = .ok ⟨absDhInfo k'.DhInfo, absEncrInfo k'.EncrInfo, absIntegInfo k'.IntegInfo,
      absPrfInfo k'.PrfInfo⟩ ∧ SaRegistered k' ∧ DhRegistered k'.DhInfo := by
  have hsel := NewIKESAKey_select_refines po
  cases hs : Registry.selectIke po with
  | err => rw [hs] at hsel; rw [hsel] at h; cases h
  | fault => exact absurd hs (selectIke_ne_fault po)
  | ok a =>
    rw [hs] at hsel
    obtain ⟨k, habs, _, _, hdr, hreg, heq⟩ := hsel
    rw [heq] at h
    unfold ikeAfterSelect at h
    obtain ⟨m, _, h⟩ := Res.bind_eq_ok h
    obtain ⟨k1, hgen, h⟩ := Res.bind_eq_ok h
    simp only [Res.ok.injEq, Prod.mk.injEq] at h
    obtain ⟨_, hk1, _⟩ := h
    subst hk1
    have hin : k.IntegInfo ≠ .nil_ := by
      intro e
      rw [GenerateKeyForIKESA_noInteg P k e] at hgen
      cases hgen
    have hsr := hreg hin
    obtain ⟨_, e1, e2, e3, e4⟩ := GenerateKeyForIKESA_wf P k hsr nonce _ si sr k1 hgen
    have hn : nonce.length ≠ 0 := by
      intro e
      rw [GenerateKeyForIKESA_empty P (some k) nonce _ (Or.inl (List.eq_nil_of_length_eq_zero e))] at hgen
      cases hgen
    refine ⟨?_, GenerateKeyForIKESA_registered P k hsr nonce _ si sr k1 hgen, e4 ▸ hdr⟩
    rw [absIkeAlgs_eq k hdr.ne_nil hsr.ne_nil.1 hsr.ne_nil.2.2, Option.some.injEq] at habs
    subst habs
    unfold Registry.newIkeSaKeyAlgs
    rw [hs]
    simp only [Res.bind_ok, Registry.keyGenChecks, absInteg_eq_some hin, if_neg hn]
    have hz : (zeros (absDhInfo k.DhInfo).len).length ≠ 0 := by
      rw [zeros_length]; rcases hdr with e | e <;> rw [e] <;> decide
    rw [if_neg hz, e1, e2, e3, e4]

theorem ChildRegistered.encrNonneg {c : Gen.security.ChildSAKey} (h : ChildRegistered c) :
    EncrKNonneg c.EncrKInfo := by
  rcases h.encr with e | e | e <;> rw [e] <;> simp [EncrKNonneg]

/-- on registered descriptors the abstractions lose nothing -/
theorem absDh_inj_registered {d d' : Gen.dh.DHType} (h : d = .nil_ ∨ DhRegistered d)
    (h' : d' = .nil_ ∨ DhRegistered d') (e : RefineReg.absDh d = RefineReg.absDh d') : d = d' := by
  rcases h with h | h | h <;> rcases h' with h' | h' | h' <;> subst h <;> subst h' <;>
    first
      | rfl
      | (exfalso; simp [RefineReg.absDh, RefineReg.absInfo1024, RefineReg.absInfo2048] at e)

theorem absChildSuite_inj (c c' : Gen.security.ChildSAKey) (hr : ChildRegistered c) (hr' : ChildRegistered c')
    (hf : ChildFresh c) (hf' : ChildFresh c') (e : absChildSuite c = absChildSuite c') : c = c' := by
  obtain ⟨spi, dh, en, ig, es, k1, k2, k3, k4⟩ := c
  obtain ⟨spi', dh', en', ig', es', k1', k2', k3', k4'⟩ := c'
  obtain ⟨f1, f2, f3, f4, f5⟩ := hf
  obtain ⟨f1', f2', f3', f4', f5'⟩ := hf'
  simp only at f1 f2 f3 f4 f5 f1' f2' f3' f4' f5'
  subst f1 f2 f3 f4 f5 f1' f2' f3' f4' f5'
  obtain ⟨r1, r2, r3⟩ := hr
  obtain ⟨r1', r2', r3'⟩ := hr'
  simp only at r1 r2 r3 r1' r2' r3'
  obtain ⟨a, h1⟩ : ∃ a, RefineReg.absEncrK en = some a := by rcases r2 with e | e | e <;> rw [e] <;> exact ⟨_, rfl⟩
  obtain ⟨a', h2⟩ : ∃ a, RefineReg.absEncrK en' = some a := by rcases r2' with e | e | e <;> rw [e] <;> exact ⟨_, rfl⟩
  simp only [absChildSuite, h1, h2, Option.some.injEq, Registry.ChildSuite.mk.injEq] at e
  obtain ⟨e1, e2, e3, e4⟩ := e
  have q1 := absDh_inj_registered r1 r1' e1
  have q2 := inj_on_three (f := RefineReg.absEncrK) (by decide) (by decide) (by decide) r2 r2' (by rw [h1, h2, e2])
  have q3 : ig = ig' := by
    rcases r3 with rfl | r3 <;> rcases r3' with rfl | r3'
    · rfl
    · rcases r3' with rfl | rfl | rfl <;> cases e3
    · rcases r3 with rfl | rfl | rfl <;> cases e3
    · exact inj_on_three (by decide) (by decide) (by decide) r3 r3' e3
  have q4 : es = es' := by
    cases es; cases es'
    simpa [RefineReg.absEsn] using e4
  subst q1 q2 q3 q4
  rfl

theorem ChildRegistered.advertised {c : Gen.security.ChildSAKey} (hr : ChildRegistered c)
    {s : Registry.ChildSuite} (hs : absChildSuite c = some s) :
    s.encr ∈ Registry.advertisedEncrChild ∧ (∀ i, s.integ = some i → i ∈ Registry.advertisedIntegChild) ∧
    (∀ d, s.dh = some d → d ∈ Registry.advertisedDh) ∧ (s.integ = none ↔ c.IntegKInfo = .nil_) := by
  obtain ⟨spi, dh, en, ig, es, k1, k2, k3, k4⟩ := c
  obtain ⟨r1, r2, r3⟩ := hr
  simp only at r1 r2 r3
  unfold absChildSuite at hs
  obtain ⟨e', he', hadv⟩ : ∃ e', RefineReg.absEncrK en = some e' ∧ e' ∈ Registry.advertisedEncrChild := by
    rcases r2 with e | e | e <;> subst e <;> exact ⟨_, rfl, by decide⟩
  simp only [he', Option.some.injEq] at hs
  subst hs
  refine ⟨hadv, fun i hi => ?_, fun d hd => ?_, absIntegK_none_iff _⟩
  · rcases r3 with e | e | e | e <;> subst e <;>
      simp only [RefineReg.absIntegK, Option.some.injEq, reduceCtorEq] at hi <;> subst hi <;> decide
  · rcases r1 with e | e | e <;> subst e <;>
      simp only [RefineReg.absDh, Option.some.injEq, reduceCtorEq, RefineReg.absInfo1024_desc,
        RefineReg.absInfo2048_desc] at hd <;> subst hd <;> simp [Registry.advertisedDh]

/-- C11's "the mapping is invertible" for whole Child SA suites, over the translated code: for every object `c`
that `NewChildSAKeyByProposal` returns, `ToProposal` succeeds, and feeding its proposal back returns the very same
object when an integrity algorithm is set — and is REFUSED when none is (the function insists on at least one
integrity transform, yet leaves `IntegKInfo` nil when the peer offers several: the asymmetry the model has) -/
theorem ChildSA_roundtrip (po : Option Proposal) (c : Gen.security.ChildSAKey)
    (h : Gen.security.NewChildSAKeyByProposal RefineReg.dhG RefineReg.encrG RefineReg.esnG RefineReg.integG po
      = .ok c) :
    ∃ q s, Gen.security.ChildSAKey.ToProposal c = .ok q ∧ absChildSuite c = some s ∧
      Registry.selectChild po = .ok s ∧ Registry.childToProposal s = .ok q ∧
      (c.IntegKInfo ≠ .nil_ →
        Gen.security.NewChildSAKeyByProposal RefineReg.dhG RefineReg.encrG RefineReg.esnG RefineReg.integG (some q)
          = .ok c) ∧
      (c.IntegKInfo = .nil_ →
        Gen.security.NewChildSAKeyByProposal RefineReg.dhG RefineReg.encrG RefineReg.esnG RefineReg.integG (some q)
          = .err) := by
  obtain ⟨hreg, hfresh⟩ := NewChildSAKeyByProposal_ok po c h
  have href := NewChildSAKeyByProposal_refines po
  rw [h] at href
  cases hsel : Registry.selectChild po with
  | err => rw [hsel] at href; cases href
  | fault => rw [hsel] at href; cases href
  | ok s =>
    rw [hsel] at href
    simp only [Res.map, Res.ok.injEq] at href
    obtain ⟨a1, a2, a3, a4⟩ := hreg.advertised href
    obtain ⟨q, hq, _, _, _, _, _, _, hsome, hnone, _⟩ := C11_proposal_roundtrip_child s a1 a2 a3
    have htp := ChildSAKey_ToProposal_refines c s href hreg.encrNonneg
    refine ⟨q, s, by rw [htp, hq], href, rfl, hq, ?_, ?_⟩
    · intro hin
      have hs : s.integ.isSome := by
        cases hi : s.integ with
        | none => exact absurd (a4.1 hi) hin
        | some _ => rfl
      have href2 := NewChildSAKeyByProposal_refines (some q)
      rw [hsome hs] at href2
      obtain ⟨c', hc', habs'⟩ := map_eq_ok href2
      obtain ⟨hreg', hfresh'⟩ := NewChildSAKeyByProposal_ok _ _ hc'
      rw [hc', absChildSuite_inj c' c hreg' hreg hfresh' hfresh (by rw [habs', href])]
    · intro hin
      have href2 := NewChildSAKeyByProposal_refines (some q)
      rw [hnone (a4.2 hin)] at href2
      cases hc : Gen.security.NewChildSAKeyByProposal RefineReg.dhG RefineReg.encrG RefineReg.esnG RefineReg.integG
          (some q) with
      | err => rfl
      | fault => rw [hc] at href2; cases href2
      | ok x => rw [hc] at href2; cases href2

theorem absDhInfo_inj_registered {d d' : Gen.dh.DHType} (h : DhRegistered d) (h' : DhRegistered d')
    (e : absDhInfo d = absDhInfo d') : d = d' := by
  rcases h with h | h <;> rcases h' with h' | h' <;> subst h <;> subst h' <;>
    first
      | rfl
      | (exfalso; simp [absDhInfo, RefineReg.absInfo1024, RefineReg.absInfo2048] at e)

theorem SaRegistered.advertised {k : Gen.security.IKESAKey} (hk : SaRegistered k) (hdh : DhRegistered k.DhInfo) :
    absDhInfo k.DhInfo ∈ Registry.advertisedDh ∧ absEncrInfo k.EncrInfo ∈ Registry.advertisedEncr ∧
    absIntegInfo k.IntegInfo ∈ Registry.advertisedInteg ∧ absPrfInfo k.PrfInfo ∈ Registry.advertisedPrf := by
  refine ⟨?_, ?_, ?_, ?_⟩
  · rcases hdh with e | e <;> rw [e]
    · show RefineReg.absInfo1024 RefineReg.desc1024 ∈ _
      rw [RefineReg.absInfo1024_desc]; simp [Registry.advertisedDh]
    · show RefineReg.absInfo2048 RefineReg.desc2048 ∈ _
      rw [RefineReg.absInfo2048_desc]; simp [Registry.advertisedDh]
  · rcases hk.encr with e | e | e <;> rw [e] <;> decide
  · rcases hk.integ with e | e | e <;> rw [e] <;> decide
  · rcases hk.prf with e | e | e <;> rw [e] <;> decide

/-- C11's "the mapping is invertible" for whole IKE suites, over the translated code: for every SA object with
registered descriptors (in particular every object `NewIKESAKey` returns, `NewIKESAKey_ok_suite`), `ToProposal`
succeeds, the model selects the same suite from its proposal, and the translated `NewIKESAKey` on that proposal
goes on with an object holding exactly the same four descriptors -/
theorem IKESA_roundtrip (k : Gen.security.IKESAKey) (hk : SaRegistered k) (hdh : DhRegistered k.DhInfo) :
    ∃ q, Gen.security.IKESAKey.ToProposal k = .ok q ∧
      Registry.selectIke (some q) = .ok ⟨absDhInfo k.DhInfo, absEncrInfo k.EncrInfo, some (absIntegInfo k.IntegInfo),
        absPrfInfo k.PrfInfo⟩ ∧
      ∀ (P : Prims) (r : Rand) (ke nonce : Bytes) (si sr : UInt64),
        Gen.security.NewIKESAKey P secG RefineReg.dhG RefineReg.encrG RefineReg.integG RefineReg.prfG r (some q)
          ke nonce si sr =
        ikeAfterSelect P r
          ({ DhInfo := k.DhInfo, EncrInfo := k.EncrInfo, IntegInfo := k.IntegInfo, PrfInfo := k.PrfInfo } :
            Gen.security.IKESAKey) ke nonce si sr := by
  obtain ⟨a1, a2, a3, a4⟩ := hk.advertised hdh
  obtain ⟨q, hq, _, _, _, _, _, _, hsel, _⟩ :=
    C11_proposal_roundtrip_ike ⟨absDhInfo k.DhInfo, absEncrInfo k.EncrInfo, absIntegInfo k.IntegInfo,
      absPrfInfo k.PrfInfo⟩ a1 a2 a3 a4
  refine ⟨q, by rw [IKESAKey_ToProposal_refines k hk hdh, hq], hsel, ?_⟩
  have hq2 := NewIKESAKey_select_refines (some q)
  rw [hsel] at hq2
  obtain ⟨k2, habs, hk2, hiff, hdr2, hreg2, heq⟩ := hq2
  have hin2 : k2.IntegInfo ≠ .nil_ := fun e => by
    have := hiff.2 e
    cases this
  have hsr2 := hreg2 hin2
  rw [absIkeAlgs_eq k2 hdr2.ne_nil hsr2.ne_nil.1 hsr2.ne_nil.2.2, absInteg_eq_some hin2, Option.some.injEq,
    Registry.IkeAlgs.mk.injEq, Option.some.injEq] at habs
  obtain ⟨e1, e2, e3, e4⟩ := habs
  have q1 := absDhInfo_inj_registered hdr2 hdh e1
  have q2 := inj_on_three (by decide) (by decide) (by decide) hsr2.encr hk.encr e2
  have q3 := inj_on_three (by decide) (by decide) (by decide) hsr2.integ hk.integ e3
  have q4 := inj_on_three (by decide) (by decide) (by decide) hsr2.prf hk.prf e4
  intro P r ke nonce si sr
  rw [heq, hk2, q1, q2, q3, q4]

theorem NewIKESAKey_roundtrip (P : Prims) (r r' : Rand) (po : Option Proposal) (ke nonce : Bytes) (si sr : UInt64)
    (k' : Gen.security.IKESAKey) (pub : Bytes)
    (h : Gen.security.NewIKESAKey P secG RefineReg.dhG RefineReg.encrG RefineReg.integG RefineReg.prfG r po
      ke nonce si sr = .ok (r', k', pub)) :
    ∃ q, Gen.security.IKESAKey.ToProposal k' = .ok q ∧
      ∀ nonce2, nonce2 ≠ [] → Registry.newIkeSaKeyAlgs (some q) nonce2 = Registry.newIkeSaKeyAlgs po nonce := by
  obtain ⟨hs, hk, hdh⟩ := NewIKESAKey_ok_suite P r r' po ke nonce si sr k' pub h
  obtain ⟨a1, a2, a3, a4⟩ := hk.advertised hdh
  obtain ⟨q, hq, _, _, _, _, _, _, _, halg, _⟩ :=
    C11_proposal_roundtrip_ike ⟨absDhInfo k'.DhInfo, absEncrInfo k'.EncrInfo, absIntegInfo k'.IntegInfo,
      absPrfInfo k'.PrfInfo⟩ a1 a2 a3 a4
  exact ⟨q, by rw [IKESAKey_ToProposal_refines k' hk hdh, hq], fun n2 hn2 => by rw [halg n2 hn2, hs]⟩

end Ike.RefineSa
