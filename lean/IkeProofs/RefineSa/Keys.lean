import IkeProofs.RefineSa.Basic
import IkeModel.GenAbsSa
import IkeProofs.RefineReg.Registries
import IkeProofs.RefineReg.Cbc
import IkeProofs.RefineEap.Crypto
import IkeProofs.Lemmas.Keys

/-! Key derivation of package `security` as translated (`Gen.security.concatenateNonceAndSPI`,
`Gen.security.IKESAKey.GenerateKeyForIKESA`, `Gen.security.ChildSAKey.GenerateKeyForChildSA`) computes what the
hand-written model computes (`concatNonceSpi`, `genKeyForIKESA`, `genKeyForChildSA`), through the abstraction
`absSa` / `absChild`.  Defines the hypotheses on descriptors the later files use (`SaDescOk`, `SaRegistered`) and the
objects of the counter-examples at the end (`flatPrims`, `badIntegSa`, `negPrfSa`, `badEncrSa`, `negEncrChild`). -/

namespace Ike.RefineSa
open Ike Ike.GenAbsSa Ike.Refine

theorem putU64_full (d : Bytes) (hd : d.length = 8) (v : UInt64) :
    Go.putU64 d 0 d.length v = Res.ok (put64 v) := by
  unfold Go.putU64 Go.splice
  rw [if_pos (by omega)]
  have h8 : (put64 v).length = 8 := rfl
  have : d.drop (0 + (put64 v).length) = [] := by
    rw [h8]; exact List.drop_eq_nil_of_le (by omega)
  rw [this]
  simp

theorem concatenateNonceAndSPI_refines (n : Bytes) (a b : UInt64) :
    Gen.security.concatenateNonceAndSPI n a b = .ok (concatNonceSpi n a b) := by
  unfold Gen.security.concatenateNonceAndSPI concatNonceSpi
  dsimp only
  rw [putU64_full (zeros 8) rfl a]
  simp only [Res.bind_ok]
  rw [putU64_full (put64 a) rfl b]
  simp only [Res.bind_ok, List.nil_append]

/-- a PRF descriptor: not nil, key length not negative (all that key derivation reads of it) -/
def PrfOk : Gen.prf.PRFType → Prop
  | .nil_ => False
  | .PrfHmacMd5 v => 0 ≤ v.keyLength
  | .PrfHmacSha1 v => 0 ≤ v.keyLength
  | .PrfHmacSha2_256 v => 0 ≤ v.keyLength

/-- an integrity descriptor: not nil, and its `keyLength` field is the constant its `Init` compares with -/
def IntegInitOk : Gen.integ.INTEGType → Prop
  | .nil_ => False
  | .AuthHmacMd5_95 v => v.keyLength = 16
  | .AuthHmacSha1_96 v => v.keyLength = 20
  | .AuthHmacSha2_256_128 v => v.keyLength = 32

/-- an encryption descriptor: not nil, an AES key length -/
def EncrOk : Gen.encr.ENCRType → Prop
  | .nil_ => False
  | .EncrAesCbc v => v.keyLength = 16 ∨ v.keyLength = 24 ∨ v.keyLength = 32

theorem PrfOk.ne_nil {p : Gen.prf.PRFType} (h : PrfOk p) : p ≠ .nil_ := by
  intro e; subst e; exact h
theorem IntegInitOk.ne_nil {i : Gen.integ.INTEGType} (h : IntegInitOk i) : i ≠ .nil_ := by
  intro e; subst e; exact h
theorem EncrOk.ne_nil {e : Gen.encr.ENCRType} (h : EncrOk e) : e ≠ .nil_ := by
  intro e'; subst e'; exact h

theorem prf_GetKeyLength (p : Gen.prf.PRFType) (h : PrfOk p) :
    Gen.prf.PRFType.GetKeyLength p = .ok (((absPrfInfo p).keyLen : Nat) : Int) := by
  cases p with
  | nil_ => exact h.elim
  | _ =>
    simp only [PrfOk] at h
    simp only [Gen.prf.PRFType.GetKeyLength, Gen.prf.PrfHmacMd5.GetKeyLength, Gen.prf.PrfHmacSha1.GetKeyLength,
      Gen.prf.PrfHmacSha2_256.GetKeyLength, Res.bind_ok, absPrfInfo, Int.toNat_of_nonneg h]

theorem prf_Init (p : Gen.prf.PRFType) (h : p ≠ .nil_) (key : Bytes) :
    Gen.prf.PRFType.Init p key = .ok (Go.Mac.new (absPrfInfo p).hash key) := by
  cases p with
  | nil_ => exact absurd rfl h
  | PrfHmacMd5 v => rfl
  | PrfHmacSha1 v => rfl
  | PrfHmacSha2_256 v => rfl

theorem prf_Init_abs (p : Gen.prf.PRFType) (h : p ≠ .nil_) (key : Bytes) :
    (Gen.prf.PRFType.Init p key).map absMac = .ok ((absPrfInfo p).init key) := by
  rw [prf_Init p h key]; rfl

theorem integ_GetKeyLength (i : Gen.integ.INTEGType) (h : IntegInitOk i) :
    Gen.integ.INTEGType.GetKeyLength i = .ok (((absIntegInfo i).keyLen : Nat) : Int) := by
  cases i with
  | nil_ => exact h.elim
  | _ =>
    simp only [IntegInitOk] at h
    simp only [Gen.integ.INTEGType.GetKeyLength, Gen.integ.AuthHmacMd5_95.GetKeyLength,
      Gen.integ.AuthHmacSha1_96.GetKeyLength, Gen.integ.AuthHmacSha2_256_128.GetKeyLength, Res.bind_ok, absIntegInfo, h]
    rfl

theorem integ_Init (i : Gen.integ.INTEGType) (h : IntegInitOk i) (key : Bytes) :
    Gen.integ.INTEGType.Init i key =
      .ok (if key.length = (absIntegInfo i).keyLen then Go.Mac.new (absIntegInfo i).hash key else Go.Mac.nil) := by
  cases i with
  | nil_ => exact h.elim
  | _ =>
    simp only [IntegInitOk] at h
    simp only [Gen.integ.INTEGType.Init, Gen.integ.AuthHmacMd5_95.Init, Gen.integ.AuthHmacSha1_96.Init,
      Gen.integ.AuthHmacSha2_256_128.Init, absIntegInfo, h]
    split <;> simp_all

theorem integ_Init_of_length (i : Gen.integ.INTEGType) (h : IntegInitOk i) (key : Bytes)
    (hk : key.length = (absIntegInfo i).keyLen) :
    Gen.integ.INTEGType.Init i key = .ok (Go.Mac.new (absIntegInfo i).hash key) := by
  rw [integ_Init i h key, if_pos hk]

/-- the hash numbers of the abstraction are those of `hmac.New`, never the nil object's 255 -/
theorem integ_hash_lt (i : Gen.integ.INTEGType) : (absIntegInfo i).hash < 3 := by
  cases i <;> simp [absIntegInfo]
theorem prf_hash_lt (p : Gen.prf.PRFType) : (absPrfInfo p).hash < 3 := by
  cases p <;> simp [absPrfInfo]

theorem Mac_new_not_nil (h : Nat) (hh : h < 3) (key : Bytes) : Go.Mac.isNil (Go.Mac.new h key) = false := by
  simp only [Go.Mac.isNil, Go.Mac.new, beq_eq_false_iff_ne, ne_eq]
  omega

theorem encr_GetKeyLength (e : Gen.encr.ENCRType) (h : EncrOk e) :
    Gen.encr.ENCRType.GetKeyLength e = .ok (((absEncrInfo e).keyLen : Nat) : Int) := by
  cases e with
  | nil_ => exact h.elim
  | EncrAesCbc v =>
    simp only [EncrOk] at h
    have h0 : 0 ≤ v.keyLength := by omega
    simp only [Gen.encr.ENCRType.GetKeyLength, Gen.encr.EncrAesCbc.GetKeyLength, Res.bind_ok, absEncrInfo,
      Int.toNat_of_nonneg h0]

theorem encr_NewCrypto (e : Gen.encr.ENCRType) (h : EncrOk e) (key : Bytes) :
    Gen.encr.ENCRType.NewCrypto e key =
      if key.length ≠ (absEncrInfo e).keyLen then .err else .ok { Block := key, Iv := [], Padding := [] } := by
  cases e with
  | nil_ => exact h.elim
  | EncrAesCbc v =>
    simp only [EncrOk] at h
    simp only [Gen.encr.ENCRType.NewCrypto, RefineReg.NewCrypto_eq v h key, absEncrInfo]
    by_cases c : key.length = v.keyLength.toNat <;> simp [c]

theorem GenerateKeyForIKESA_nil (P : Prims) (nonce secret : Bytes) (si sr : UInt64) :
    Gen.security.IKESAKey.GenerateKeyForIKESA P none nonce secret si sr = .err := rfl

theorem GenerateKeyForIKESA_refuses (P : Prims) (k : Gen.security.IKESAKey) (nonce secret : Bytes) (si sr : UInt64)
    (h : k.EncrInfo = .nil_ ∨ k.IntegInfo = .nil_ ∨ k.PrfInfo = .nil_ ∨ k.DhInfo = .nil_ ∨
      nonce.length = 0 ∨ secret.length = 0) :
    Gen.security.IKESAKey.GenerateKeyForIKESA P (some k) nonce secret si sr = .err := by
  unfold Gen.security.IKESAKey.GenerateKeyForIKESA
  simp only [Option.isNone_some, Option.getD_some, Bool.false_eq_true, if_false, ite_err_or]
  exact if_pos h

theorem GenerateKeyForIKESA_missing (P : Prims) (k : Gen.security.IKESAKey)
    (h : k.EncrInfo = .nil_ ∨ k.IntegInfo = .nil_ ∨ k.PrfInfo = .nil_ ∨ k.DhInfo = .nil_)
    (nonce secret : Bytes) (si sr : UInt64) :
    Gen.security.IKESAKey.GenerateKeyForIKESA P (some k) nonce secret si sr = .err := by
  refine GenerateKeyForIKESA_refuses P k nonce secret si sr ?_
  rcases h with h | h | h | h
  · exact Or.inl h
  · exact Or.inr (Or.inl h)
  · exact Or.inr (Or.inr (Or.inl h))
  · exact Or.inr (Or.inr (Or.inr (Or.inl h)))

theorem GenerateKeyForIKESA_noInteg (P : Prims) (k : Gen.security.IKESAKey) (h : k.IntegInfo = .nil_)
    (nonce secret : Bytes) (si sr : UInt64) :
    Gen.security.IKESAKey.GenerateKeyForIKESA P (some k) nonce secret si sr = .err :=
  GenerateKeyForIKESA_missing P k (Or.inr (Or.inl h)) nonce secret si sr

theorem GenerateKeyForIKESA_empty (P : Prims) (ko : Option Gen.security.IKESAKey) (nonce secret : Bytes)
    (h : nonce = [] ∨ secret = []) (si sr : UInt64) :
    Gen.security.IKESAKey.GenerateKeyForIKESA P ko nonce secret si sr = .err := by
  cases ko with
  | none => rfl
  | some k =>
    refine GenerateKeyForIKESA_refuses P k nonce secret si sr (Or.inr (Or.inr (Or.inr (Or.inr ?_))))
    rcases h with h | h
    · exact Or.inl (by rw [h]; rfl)
    · exact Or.inr (by rw [h]; rfl)

/-- the descriptors are usable: non-nil, the key lengths non-negative and those the methods `Init` / `NewCrypto`
of the descriptor compare with -/
structure SaDescOk (k : Gen.security.IKESAKey) : Prop where
  encr : EncrOk k.EncrInfo
  integ : IntegInitOk k.IntegInfo
  prf : PrfOk k.PrfInfo
  dh : k.DhInfo ≠ .nil_

/-- the SA object with the seven keys and the objects built from them stored -/
def ikeInstall (k : Gen.security.IKESAKey) (s : IkeKeySlices) : Gen.security.IKESAKey :=
  { k with
    SK_d := s.d, SK_ai := s.ai, SK_ar := s.ar, SK_ei := s.ei, SK_er := s.er, SK_pi := s.pi, SK_pr := s.pr,
    Prf_d := Go.Mac.new (absPrfInfo k.PrfInfo).hash s.d,
    Integ_i := Go.Mac.new (absIntegInfo k.IntegInfo).hash s.ai,
    Integ_r := Go.Mac.new (absIntegInfo k.IntegInfo).hash s.ar,
    Encr_i := { Block := s.ei, Iv := [], Padding := [] },
    Encr_r := { Block := s.er, Iv := [], Padding := [] },
    Prf_i := Go.Mac.new (absPrfInfo k.PrfInfo).hash s.pi,
    Prf_r := Go.Mac.new (absPrfInfo k.PrfInfo).hash s.pr }

def ikeTotal (lD lA lE : Nat) : Nat := lD + lA + lA + lE + lE + lD + lD

theorem GenerateKeyForIKESA_eq (P : Prims) (k : Gen.security.IKESAKey) (hk : SaDescOk k)
    (nonce secret : Bytes) (si sr : UInt64) :
    Gen.security.IKESAKey.GenerateKeyForIKESA P (some k) nonce secret si sr =
      if nonce.length = 0 then .err else if secret.length = 0 then .err else
      (Gen.lib.PrfPlus P (Go.Mac.new (absPrfInfo k.PrfInfo).hash
          (P.mac (absPrfInfo k.PrfInfo).hash nonce secret)) (concatNonceSpi nonce si sr)
          ((ikeTotal (absPrfInfo k.PrfInfo).keyLen (absIntegInfo k.IntegInfo).keyLen
            (absEncrInfo k.EncrInfo).keyLen : Nat) : Int)) >>= fun r =>
      if r.2 = [] then .err else
      (sliceIkeKeys r.2 (absPrfInfo k.PrfInfo).keyLen (absIntegInfo k.IntegInfo).keyLen
        (absEncrInfo k.EncrInfo).keyLen) >>= fun s => .ok (ikeInstall k s) := by
  obtain ⟨he, hi, hp, hd⟩ := hk
  have htot : ∀ lD lA lE : Nat, ((lD : Int) + lA + lA + lE + lE + lD + lD) = ((ikeTotal lD lA lE : Nat) : Int) := by
    intro lD lA lE; unfold ikeTotal; omega
  unfold Gen.security.IKESAKey.GenerateKeyForIKESA sliceIkeKeys
  simp only [Option.isNone_some, Option.getD_some, Bool.false_eq_true, if_false]
  rw [if_neg he.ne_nil, if_neg hi.ne_nil, if_neg hp.ne_nil, if_neg hd]
  refine ite_congr rfl (fun _ => rfl) fun _ => ite_congr rfl (fun _ => rfl) fun _ => ?_
  simp only [prf_GetKeyLength _ hp, integ_GetKeyLength _ hi, encr_GetKeyLength _ he, Res.bind_ok,
    prf_Init _ hp.ne_nil, concatenateNonceAndSPI_refines, htot]
  refine bind_congr fun r => ite_congr rfl (fun _ => rfl) fun _ => ?_
  simp only [sliceTo_nat, sliceFrom_nat, Res.bind_assoc, Res.pure_eq, Res.bind_ok]
  -- down the fourteen slice steps, both sides in step; `bind_ok_congr` keeps `goTo … = .ok t` for the four keys whose
  -- length `Init` / `NewCrypto` compare with the descriptor's, so that their `if`s can be decided at the end
  refine bind_congr fun t10 => bind_congr fun t11 => ?_
  refine bind_ok_congr fun t12 h12 => bind_congr fun t13 => ?_
  refine bind_ok_congr fun t14 h14 => bind_congr fun t15 => ?_
  refine bind_ok_congr fun t16 h16 => bind_congr fun t17 => ?_
  refine bind_ok_congr fun t18 h18 => bind_congr fun t19 => ?_
  refine bind_congr fun t20 => bind_congr fun t21 => bind_congr fun t22 => ?_
  rw [integ_Init_of_length _ hi t12 (goTo_ok_length h12), integ_Init_of_length _ hi t14 (goTo_ok_length h14),
    encr_NewCrypto _ he t16, encr_NewCrypto _ he t18,
    if_neg (by rw [goTo_ok_length h16]; simp), if_neg (by rw [goTo_ok_length h18]; simp)]
  rfl

theorem sliceIkeKeys_lengths {ks : Bytes} {lD lA lE : Nat} {s : IkeKeySlices}
    (h : sliceIkeKeys ks lD lA lE = .ok s) :
    s.d.length = lD ∧ s.ai.length = lA ∧ s.ar.length = lA ∧ s.ei.length = lE ∧ s.er.length = lE ∧
      s.pi.length = lD ∧ s.pr.length = lD := by
  unfold sliceIkeKeys at h
  obtain ⟨d, hd, h⟩ := Res.bind_eq_ok h
  obtain ⟨_, _, h⟩ := Res.bind_eq_ok h
  obtain ⟨ai, hai, h⟩ := Res.bind_eq_ok h
  obtain ⟨_, _, h⟩ := Res.bind_eq_ok h
  obtain ⟨ar, har, h⟩ := Res.bind_eq_ok h
  obtain ⟨_, _, h⟩ := Res.bind_eq_ok h
  obtain ⟨ei, hei, h⟩ := Res.bind_eq_ok h
  obtain ⟨_, _, h⟩ := Res.bind_eq_ok h
  obtain ⟨er, her, h⟩ := Res.bind_eq_ok h
  obtain ⟨_, _, h⟩ := Res.bind_eq_ok h
  obtain ⟨pi, hpi, h⟩ := Res.bind_eq_ok h
  obtain ⟨_, _, h⟩ := Res.bind_eq_ok h
  obtain ⟨pr, hpr, h⟩ := Res.bind_eq_ok h
  cases h
  exact ⟨goTo_ok_length hd, goTo_ok_length hai, goTo_ok_length har, goTo_ok_length hei, goTo_ok_length her,
    goTo_ok_length hpi, goTo_ok_length hpr⟩

/-- the model's SA object with the seven keys and the objects built from them stored -/
def saInstall (sa : SAKey) (s : IkeKeySlices) : SAKey :=
  { sa with
    sk_d := s.d, sk_ai := s.ai, sk_ar := s.ar, sk_ei := s.ei, sk_er := s.er, sk_pi := s.pi, sk_pr := s.pr,
    prf_d := sa.prfInfo.init s.d,
    integ_i := ⟨sa.integInfo.hash, s.ai, []⟩, integ_r := ⟨sa.integInfo.hash, s.ar, []⟩,
    encr_i := ⟨s.ei⟩, encr_r := ⟨s.er⟩,
    prf_i := sa.prfInfo.init s.pi, prf_r := sa.prfInfo.init s.pr }

/-- the outcome of the model's `genKeyForIKESA` (the SA object is dropped unless the call succeeds) in closed
form: the key stream, its seven slices, the objects.  The `fault` the model reports for a nil `Integ_i` / `Integ_r`
and the errors of `NewCrypto` cannot arise, because the slices have the descriptors' lengths. -/
theorem genKeyForIKESA_eq (P : Prims) (sa : SAKey) (nonce secret : Bytes) (si sr : UInt64) :
    (match genKeyForIKESA P sa nonce secret si sr with
      | (sa', .ok ()) => Res.ok sa' | (_, .err) => .err | (_, .fault) => .fault) =
      if nonce.length = 0 then .err else if secret.length = 0 then .err else
      (match prfPlus P (sa.prfInfo.init (HashObj.sum P ((sa.prfInfo.init nonce).write secret) []))
          (concatNonceSpi nonce si sr)
          (sa.prfInfo.keyLen + sa.integInfo.keyLen + sa.integInfo.keyLen + sa.encrInfo.keyLen + sa.encrInfo.keyLen +
            sa.prfInfo.keyLen + sa.prfInfo.keyLen) with
        | (h, .ok b) => Res.ok (h, b) | (_, .err) => .err | (_, .fault) => .fault) >>= fun r =>
      if r.2 = [] then .err else
      (sliceIkeKeys r.2 sa.prfInfo.keyLen sa.integInfo.keyLen sa.encrInfo.keyLen) >>= fun s =>
      .ok (saInstall sa s) := by
  unfold genKeyForIKESA
  by_cases hn : nonce.length = 0
  · rw [if_pos hn, if_pos hn]
  rw [if_neg hn, if_neg hn]
  by_cases hs : secret.length = 0
  · rw [if_pos hs, if_pos hs]
  rw [if_neg hs, if_neg hs]
  dsimp only
  generalize prfPlus P (sa.prfInfo.init (HashObj.sum P ((sa.prfInfo.init nonce).write secret) []))
          (concatNonceSpi nonce si sr)
          (sa.prfInfo.keyLen + sa.integInfo.keyLen + sa.integInfo.keyLen + sa.encrInfo.keyLen + sa.encrInfo.keyLen +
            sa.prfInfo.keyLen + sa.prfInfo.keyLen) = m
  obtain ⟨h', res⟩ := m
  cases res with
  | err => rfl
  | fault => rfl
  | ok ks =>
    simp only [Res.bind_ok]
    by_cases hks : ks = []
    · subst hks; rfl
    have hks' : ¬ (ks.isEmpty = true) := by simpa using hks
    rw [if_neg hks, if_neg hks']
    cases hsl : sliceIkeKeys ks sa.prfInfo.keyLen sa.integInfo.keyLen sa.encrInfo.keyLen with
    | err => rfl
    | fault => rfl
    | ok s =>
      obtain ⟨_, l2, l3, l4, l5, _, _⟩ := sliceIkeKeys_lengths hsl
      simp only [Res.bind_ok, IntegInfo.init, newCrypto, l2, l3, l4, l5, if_true, ne_eq, not_true_eq_false, if_false]
      rfl

theorem GenerateKeyForIKESA_refines_gen (P : Prims) (hP : P.Lawful) (k : Gen.security.IKESAKey) (hk : SaDescOk k)
    (nonce secret : Bytes) (si sr : UInt64) :
    (Gen.security.IKESAKey.GenerateKeyForIKESA P (some k) nonce secret si sr).map absSa =
      (match genKeyForIKESA P (absSa k) nonce secret si sr with
       | (sa', .ok ()) => .ok sa' | (_, .err) => .err | (_, .fault) => .fault) := by
  rw [GenerateKeyForIKESA_eq P k hk, genKeyForIKESA_eq, Res.map_ite, Res.map_ite]
  refine ite_congr rfl (fun _ => rfl) fun _ => ite_congr rfl (fun _ => rfl) fun _ => ?_
  -- `PrfPlus_refines_lawful` speaks of `RefineEap.absMac`, `absSa` of `GenAbsSa.absMac`: the same body, equal by unfolding
  have hpp : (Gen.lib.PrfPlus P (Go.Mac.new (absPrfInfo k.PrfInfo).hash
          (P.mac (absPrfInfo k.PrfInfo).hash nonce secret)) (concatNonceSpi nonce si sr)
          ((ikeTotal (absPrfInfo k.PrfInfo).keyLen (absIntegInfo k.IntegInfo).keyLen
            (absEncrInfo k.EncrInfo).keyLen : Nat) : Int)).map (fun r => (absMac r.1, r.2)) =
      (match prfPlus P ((absSa k).prfInfo.init (HashObj.sum P (((absSa k).prfInfo.init nonce).write secret) []))
          (concatNonceSpi nonce si sr)
          ((absSa k).prfInfo.keyLen + (absSa k).integInfo.keyLen + (absSa k).integInfo.keyLen +
            (absSa k).encrInfo.keyLen + (absSa k).encrInfo.keyLen + (absSa k).prfInfo.keyLen +
            (absSa k).prfInfo.keyLen) with
        | (h, .ok b) => Res.ok (h, b) | (_, .err) => .err | (_, .fault) => .fault) :=
    RefineEap.PrfPlus_refines_lawful P hP _ _ _
  rw [← hpp, Res.bind_map, Res.map_bind]
  refine bind_congr fun r => ?_
  by_cases hr : r.2 = []
  · simp only [if_pos hr]; rfl
  simp only [if_neg hr, Res.map_bind]
  rfl

/-- the descriptors are ones the translated registries register (`encrG_encrTypes`, `integG_integTypes`, `prfG_prfTypes`) -/
structure SaRegistered (k : Gen.security.IKESAKey) : Prop where
  encr : k.EncrInfo = .EncrAesCbc ⟨16⟩ ∨ k.EncrInfo = .EncrAesCbc ⟨24⟩ ∨ k.EncrInfo = .EncrAesCbc ⟨32⟩
  integ : k.IntegInfo = .AuthHmacMd5_95 ⟨16, 12⟩ ∨ k.IntegInfo = .AuthHmacSha1_96 ⟨20, 12⟩ ∨
    k.IntegInfo = .AuthHmacSha2_256_128 ⟨32, 16⟩
  prf : k.PrfInfo = .PrfHmacMd5 ⟨16, 16⟩ ∨ k.PrfInfo = .PrfHmacSha1 ⟨20, 20⟩ ∨ k.PrfInfo = .PrfHmacSha2_256 ⟨32, 32⟩
  dh : k.DhInfo ≠ .nil_

theorem SaRegistered.descOk {k : Gen.security.IKESAKey} (h : SaRegistered k) : SaDescOk k := by
  obtain ⟨he, hi, hp, hd⟩ := h
  refine ⟨?_, ?_, ?_, hd⟩
  · rcases he with he | he | he <;> rw [he] <;> simp [EncrOk]
  · rcases hi with hi | hi | hi <;> rw [hi] <;> simp [IntegInitOk]
  · rcases hp with hp | hp | hp <;> rw [hp] <;> simp [PrfOk]

theorem GenerateKeyForIKESA_refines (P : Prims) (hP : P.Lawful) (k : Gen.security.IKESAKey) (hk : SaRegistered k)
    (nonce secret : Bytes) (si sr : UInt64) :
    (Gen.security.IKESAKey.GenerateKeyForIKESA P (some k) nonce secret si sr).map absSa =
      (match genKeyForIKESA P (absSa k) nonce secret si sr with
       | (sa', .ok ()) => .ok sa' | (_, .err) => .err | (_, .fault) => .fault) :=
  GenerateKeyForIKESA_refines_gen P hP k hk.descOk nonce secret si sr

theorem GenerateKeyForIKESA_ok_model (P : Prims) (hP : P.Lawful) (k : Gen.security.IKESAKey) (hk : SaDescOk k)
    (nonce secret : Bytes) (si sr : UInt64) (k' : Gen.security.IKESAKey)
    (h : Gen.security.IKESAKey.GenerateKeyForIKESA P (some k) nonce secret si sr = .ok k') :
    genKeyForIKESA P (absSa k) nonce secret si sr = (absSa k', .ok ()) := by
  have href := GenerateKeyForIKESA_refines_gen P hP k hk nonce secret si sr
  rw [h] at href
  generalize genKeyForIKESA P (absSa k) nonce secret si sr = g at href
  obtain ⟨sa', res⟩ := g
  cases res with
  | err => cases href
  | fault => cases href
  | ok u => cases u; cases href; rfl

theorem EncrOk.keyLen_pos {e : Gen.encr.ENCRType} (h : EncrOk e) : 0 < (absEncrInfo e).keyLen := by
  cases e with
  | nil_ => exact h.elim
  | EncrAesCbc v => simp only [EncrOk] at h; simp only [absEncrInfo]; omega

theorem GenerateKeyForIKESA_wf_gen (P : Prims) (k : Gen.security.IKESAKey) (hk : SaDescOk k)
    (nonce secret : Bytes) (si sr : UInt64) (k' : Gen.security.IKESAKey)
    (h : Gen.security.IKESAKey.GenerateKeyForIKESA P (some k) nonce secret si sr = .ok k') :
    SaWF k' ∧ k'.EncrInfo = k.EncrInfo ∧ k'.IntegInfo = k.IntegInfo ∧ k'.PrfInfo = k.PrfInfo ∧
      k'.DhInfo = k.DhInfo := by
  rw [GenerateKeyForIKESA_eq P k hk] at h
  split at h
  · cases h
  split at h
  · cases h
  obtain ⟨r, _, h⟩ := Res.bind_eq_ok h
  split at h
  · cases h
  obtain ⟨s, hs, h⟩ := Res.bind_eq_ok h
  cases h
  obtain ⟨_, _, _, l4, l5, _, _⟩ := sliceIkeKeys_lengths hs
  have hpos := hk.encr.keyLen_pos
  refine ⟨⟨hk.encr.ne_nil, hk.integ.ne_nil, hk.prf.ne_nil, ?_, ?_, ?_, ⟨?_, rfl, rfl⟩, ⟨?_, rfl, rfl⟩⟩, rfl, rfl, rfl, rfl⟩
  · exact Mac_new_not_nil _ (integ_hash_lt _) _
  · exact Mac_new_not_nil _ (integ_hash_lt _) _
  · exact Mac_new_not_nil _ (prf_hash_lt _) _
  · show s.ei ≠ []
    intro e; rw [e] at l4; simp only [List.length_nil] at l4; omega
  · show s.er ≠ []
    intro e; rw [e] at l5; simp only [List.length_nil] at l5; omega

theorem GenerateKeyForIKESA_wf (P : Prims) (k : Gen.security.IKESAKey) (hk : SaRegistered k)
    (nonce secret : Bytes) (si sr : UInt64) (k' : Gen.security.IKESAKey)
    (h : Gen.security.IKESAKey.GenerateKeyForIKESA P (some k) nonce secret si sr = .ok k') :
    SaWF k' ∧ k'.EncrInfo = k.EncrInfo ∧ k'.IntegInfo = k.IntegInfo ∧ k'.PrfInfo = k.PrfInfo ∧
      k'.DhInfo = k.DhInfo :=
  GenerateKeyForIKESA_wf_gen P k hk.descOk nonce secret si sr k' h

theorem GenerateKeyForIKESA_registered (P : Prims) (k : Gen.security.IKESAKey) (hk : SaRegistered k)
    (nonce secret : Bytes) (si sr : UInt64) (k' : Gen.security.IKESAKey)
    (h : Gen.security.IKESAKey.GenerateKeyForIKESA P (some k) nonce secret si sr = .ok k') : SaRegistered k' := by
  obtain ⟨_, e1, e2, e3, e4⟩ := GenerateKeyForIKESA_wf P k hk nonce secret si sr k' h
  exact ⟨e1 ▸ hk.encr, e2 ▸ hk.integ, e3 ▸ hk.prf, e4 ▸ hk.dh⟩

/-- Child SA encryption descriptor: not nil, key length not negative -/
def EncrKOk : Gen.encr.ENCRKType → Prop
  | .nil_ => False
  | .EncrAesCbc v => 0 ≤ v.keyLength

/-- Child SA integrity descriptor: nil (no integrity algorithm), or key length not negative -/
def IntegKOk : Gen.integ.INTEGKType → Prop
  | .nil_ => True
  | .AuthHmacMd5_95 v => 0 ≤ v.keyLength
  | .AuthHmacSha1_96 v => 0 ≤ v.keyLength
  | .AuthHmacSha2_256_128 v => 0 ≤ v.keyLength

theorem EncrKOk.ne_nil {e : Gen.encr.ENCRKType} (h : EncrKOk e) : e ≠ .nil_ := by
  intro e'; subst e'; exact h

theorem encrK_GetKeyLength (e : Gen.encr.ENCRKType) (h : EncrKOk e) :
    Gen.encr.ENCRKType.GetKeyLength e = .ok ((absEncrKLen e : Nat) : Int) := by
  cases e with
  | nil_ => exact h.elim
  | EncrAesCbc v =>
    simp only [EncrKOk] at h
    simp only [Gen.encr.ENCRKType.GetKeyLength, Gen.encr.EncrAesCbc.GetKeyLength, Res.bind_ok, absEncrKLen,
      Int.toNat_of_nonneg h]

theorem integK_GetKeyLength (i : Gen.integ.INTEGKType) (h : IntegKOk i) (hn : i ≠ .nil_) :
    ∃ n : Nat, absIntegKLen i = some n ∧ Gen.integ.INTEGKType.GetKeyLength i = .ok (n : Int) := by
  cases i with
  | nil_ => exact absurd rfl hn
  | _ =>
    simp only [IntegKOk] at h
    exact ⟨_, rfl, by simp only [Gen.integ.INTEGKType.GetKeyLength, Gen.integ.AuthHmacMd5_95.GetKeyLength,
      Gen.integ.AuthHmacSha1_96.GetKeyLength, Gen.integ.AuthHmacSha2_256_128.GetKeyLength, Res.bind_ok,
      Int.toNat_of_nonneg h]⟩

/-- the part of `GenerateKeyForChildSA` after the two key lengths are known (the join point `jp10` of the
translation; text copied from `Gen_security.lean`, `GenerateKeyForChildSA_some` checks by `rfl` that it is the same term) -/
def childBody (P : Prims) (ikeSA : Gen.security.IKESAKey) (childsaKey : Gen.security.ChildSAKey)
    (concatenatedNonce : Bytes) (lengthEncryptionKeyIPSec lengthIntegrityKeyIPSec : Int) :
    Res (Gen.security.ChildSAKey × Gen.security.IKESAKey) :=
  (Gen.lib.PrfPlus P ikeSA.Prf_d concatenatedNonce
    ((lengthEncryptionKeyIPSec + lengthIntegrityKeyIPSec) * (2 : Int))) >>= fun t2 =>
  let ikeSA : Gen.security.IKESAKey := { ikeSA with Prf_d := t2.1 };
  let keyStream : Bytes := t2.2;
  if (keyStream = []) then Res.err
  else (
    (Go.sliceTo keyStream lengthEncryptionKeyIPSec) >>= fun t3 =>
    let childsaKey : Gen.security.ChildSAKey :=
      { childsaKey with InitiatorToResponderEncryptionKey := (childsaKey.InitiatorToResponderEncryptionKey ++ t3) };
    (Go.sliceFrom keyStream lengthEncryptionKeyIPSec) >>= fun t4 =>
    let keyStream : Bytes := t4;
    (Go.sliceTo keyStream lengthIntegrityKeyIPSec) >>= fun t5 =>
    let childsaKey : Gen.security.ChildSAKey :=
      { childsaKey with InitiatorToResponderIntegrityKey := (childsaKey.InitiatorToResponderIntegrityKey ++ t5) };
    (Go.sliceFrom keyStream lengthIntegrityKeyIPSec) >>= fun t6 =>
    let keyStream : Bytes := t6;
    (Go.sliceTo keyStream lengthEncryptionKeyIPSec) >>= fun t7 =>
    let childsaKey : Gen.security.ChildSAKey :=
      { childsaKey with ResponderToInitiatorEncryptionKey := (childsaKey.ResponderToInitiatorEncryptionKey ++ t7) };
    (Go.sliceFrom keyStream lengthEncryptionKeyIPSec) >>= fun t8 =>
    let keyStream : Bytes := t8;
    (Go.sliceTo keyStream lengthIntegrityKeyIPSec) >>= fun t9 =>
    let childsaKey : Gen.security.ChildSAKey :=
      { childsaKey with ResponderToInitiatorIntegrityKey := (childsaKey.ResponderToInitiatorIntegrityKey ++ t9) };
    Res.ok (childsaKey, ikeSA))

theorem GenerateKeyForChildSA_some (P : Prims) (k : Gen.security.IKESAKey) (c : Gen.security.ChildSAKey)
    (nonce : Bytes) :
    Gen.security.ChildSAKey.GenerateKeyForChildSA P (some c) (some k) nonce =
      if k.PrfInfo = .nil_ ∨ c.EncrKInfo = .nil_ ∨ Go.Mac.isNil k.Prf_d = true then .err else
      (Gen.encr.ENCRKType.GetKeyLength c.EncrKInfo) >>= fun lE =>
      if c.IntegKInfo ≠ .nil_ then
        (Gen.integ.INTEGKType.GetKeyLength c.IntegKInfo) >>= fun lA => childBody P k c nonce lE lA
      else childBody P k c nonce lE 0 := by
  unfold Gen.security.ChildSAKey.GenerateKeyForChildSA
  simp only [Option.isNone_some, Option.getD_some, Bool.false_eq_true, if_false, ite_err_or]
  rfl

theorem GenerateKeyForChildSA_missing (P : Prims) (co : Option Gen.security.ChildSAKey)
    (ko : Option Gen.security.IKESAKey) (nonce : Bytes)
    (h : co = none ∨ ko = none ∨ (∃ k, ko = some k ∧ (k.PrfInfo = .nil_ ∨ Go.Mac.isNil k.Prf_d = true)) ∨
      (∃ c, co = some c ∧ c.EncrKInfo = .nil_)) :
    Gen.security.ChildSAKey.GenerateKeyForChildSA P co ko nonce = .err := by
  cases ko with
  | none => rfl
  | some k =>
    cases co with
    | none => rfl
    | some c =>
      rw [GenerateKeyForChildSA_some]
      refine if_pos ?_
      rcases h with h | h | ⟨k', h, hk⟩ | ⟨c', h, hc⟩
      · cases h
      · cases h
      · cases h
        exact hk.elim Or.inl fun h => Or.inr (Or.inr h)
      · cases h
        exact Or.inr (Or.inl hc)

/-- the model's `genKeyForChildSA` from the key stream on, for given key lengths -/
def childSlices (sa : SAKey) (c : ChildSAKey) (lE lA : Nat) (r : HashObj × Bytes) : Res (SAKey × ChildSAKey) :=
  if r.2.isEmpty then .err else (appendChildKeys c r.2 lE lA).map fun c' => ({ sa with prf_d := r.1 }, c')

theorem genKeyForChildSA_eq (P : Prims) (sa : SAKey) (c : ChildSAKey) (nonce : Bytes) (lA : Nat)
    (hlA : (match c.integKeyLen with | some n => n | none => 0) = lA) :
    (match genKeyForChildSA P sa c nonce with
      | (sa', .ok c') => Res.ok (sa', c') | (_, .err) => .err | (_, .fault) => .fault) =
      (match prfPlus P sa.prf_d nonce ((c.encrKeyLen + lA) * 2) with
        | (h, .ok b) => Res.ok (h, b) | (_, .err) => .err | (_, .fault) => .fault) >>=
        childSlices sa c c.encrKeyLen lA := by
  subst hlA
  unfold genKeyForChildSA
  dsimp only
  generalize prfPlus P sa.prf_d nonce
    ((c.encrKeyLen + (match c.integKeyLen with | some n => n | none => 0)) * 2) = m
  obtain ⟨h, res⟩ := m
  cases res with
  | err => rfl
  | fault => rfl
  | ok ks =>
    simp only [Res.bind_ok, childSlices]
    by_cases hks : ks.isEmpty = true
    · rw [if_pos hks, if_pos hks]
    · rw [if_neg hks, if_neg hks]
      cases appendChildKeys c ks c.encrKeyLen (match c.integKeyLen with | some n => n | none => 0) <;> rfl

theorem childBody_refines (P : Prims) (hP : P.Lawful) (k : Gen.security.IKESAKey) (c : Gen.security.ChildSAKey)
    (nonce : Bytes) (lE lA : Nat) :
    (childBody P k c nonce (lE : Int) (lA : Int)).map (fun x => (absSa x.2, absChild x.1)) =
      (match prfPlus P (absSa k).prf_d nonce ((lE + lA) * 2) with
        | (h, .ok b) => Res.ok (h, b) | (_, .err) => .err | (_, .fault) => .fault) >>=
        childSlices (absSa k) (absChild c) lE lA := by
  have htot : (((lE : Int) + (lA : Int)) * 2) = (((lE + lA) * 2 : Nat) : Int) := by omega
  have hpp : (Gen.lib.PrfPlus P k.Prf_d nonce (((lE + lA) * 2 : Nat) : Int)).map (fun r => (absMac r.1, r.2)) =
      (match prfPlus P (absSa k).prf_d nonce ((lE + lA) * 2) with
        | (h, .ok b) => Res.ok (h, b) | (_, .err) => .err | (_, .fault) => .fault) :=
    RefineEap.PrfPlus_refines_lawful P hP _ _ _
  rw [← hpp, Res.bind_map]
  unfold childBody
  rw [htot, Res.map_bind]
  refine bind_congr fun r => ?_
  unfold childSlices
  by_cases hr : r.2 = []
  · rw [if_pos hr, hr]; rfl
  have hr' : ¬ (r.2.isEmpty = true) := by simpa using hr
  simp only [if_neg hr, if_neg hr']
  unfold appendChildKeys
  simp only [sliceTo_nat, sliceFrom_nat, Res.map_bind, map_ok', Res.pure_eq]
  rfl

theorem GenerateKeyForChildSA_refines_gen (P : Prims) (hP : P.Lawful) (k : Gen.security.IKESAKey)
    (c : Gen.security.ChildSAKey) (hprf : k.PrfInfo ≠ .nil_) (hd : Go.Mac.isNil k.Prf_d = false)
    (he : EncrKOk c.EncrKInfo) (hi : IntegKOk c.IntegKInfo) (nonce : Bytes) :
    (Gen.security.ChildSAKey.GenerateKeyForChildSA P (some c) (some k) nonce).map
        (fun x => (absSa x.2, absChild x.1)) =
      (match genKeyForChildSA P (absSa k) (absChild c) nonce with
       | (sa', .ok c') => .ok (sa', c') | (_, .err) => .err | (_, .fault) => .fault) := by
  have hne : ¬ (k.PrfInfo = .nil_ ∨ c.EncrKInfo = .nil_ ∨ Go.Mac.isNil k.Prf_d = true) := by
    rw [hd]; exact fun h => h.elim hprf fun h => h.elim he.ne_nil Bool.false_ne_true
  rw [GenerateKeyForChildSA_some, if_neg hne, encrK_GetKeyLength _ he, Res.bind_ok]
  by_cases hn : c.IntegKInfo = .nil_
  · have hl : (match (absChild c).integKeyLen with | some n => n | none => 0) = 0 := by
      show (match absIntegKLen c.IntegKInfo with | some n => n | none => 0) = 0
      rw [hn]; rfl
    rw [if_neg (not_not_intro hn), genKeyForChildSA_eq P _ _ nonce 0 hl]
    exact childBody_refines P hP k c nonce (absEncrKLen c.EncrKInfo) 0
  · obtain ⟨n, e, hg⟩ := integK_GetKeyLength _ hi hn
    have hl : (match (absChild c).integKeyLen with | some n => n | none => 0) = n := by
      show (match absIntegKLen c.IntegKInfo with | some n => n | none => 0) = n
      rw [e]
    rw [if_pos hn, hg, genKeyForChildSA_eq P _ _ nonce n hl]
    exact childBody_refines P hP k c nonce (absEncrKLen c.EncrKInfo) n

theorem GenerateKeyForChildSA_refines (P : Prims) (hP : P.Lawful) (k : Gen.security.IKESAKey)
    (c : Gen.security.ChildSAKey) (hprf : k.PrfInfo ≠ .nil_) (hd : Go.Mac.isNil k.Prf_d = false)
    (he : c.EncrKInfo = .EncrAesCbc ⟨16⟩ ∨ c.EncrKInfo = .EncrAesCbc ⟨24⟩ ∨ c.EncrKInfo = .EncrAesCbc ⟨32⟩)
    (hi : c.IntegKInfo = .nil_ ∨ c.IntegKInfo = .AuthHmacMd5_95 ⟨16, 12⟩ ∨ c.IntegKInfo = .AuthHmacSha1_96 ⟨20, 12⟩ ∨
      c.IntegKInfo = .AuthHmacSha2_256_128 ⟨32, 16⟩)
    (nonce : Bytes) :
    (Gen.security.ChildSAKey.GenerateKeyForChildSA P (some c) (some k) nonce).map
        (fun x => (absSa x.2, absChild x.1)) =
      (match genKeyForChildSA P (absSa k) (absChild c) nonce with
       | (sa', .ok c') => .ok (sa', c') | (_, .err) => .err | (_, .fault) => .fault) := by
  have he' : EncrKOk c.EncrKInfo := by rcases he with he | he | he <;> rw [he] <;> simp [EncrKOk]
  have hi' : IntegKOk c.IntegKInfo := by rcases hi with hi | hi | hi | hi <;> rw [hi] <;> simp [IntegKOk]
  exact GenerateKeyForChildSA_refines_gen P hP k c hprf hd he' hi' nonce

/-- the loop of `PrfPlus` leaves hash and key of the object alone and never takes its `return nil` exit -/
theorem PrfPlus_loop1_frame (P : Prims) (s : Bytes) (n : Int) :
    ∀ (fuel : Nat) (prf : Go.Mac) (stream block : Bytes) (i : Nat)
      (r : Sum (Go.Mac × Bytes × Bytes × Nat) (Go.Mac × Bytes)),
      Gen.lib.PrfPlus.loop1 P fuel s n prf stream block i = .ok r →
      ∃ st, r = Sum.inl st ∧ st.1.h = prf.h ∧ st.1.key = prf.key := by
  intro fuel
  induction fuel with
  | zero => intro prf stream block i r h; cases h
  | succ f ih =>
    intro prf stream block i r h
    unfold Gen.lib.PrfPlus.loop1 at h
    split at h
    · simp only [Bool.false_eq_true, if_false] at h
      obtain ⟨t, _, h⟩ := Res.bind_eq_ok h
      obtain ⟨st, e, h1, h2⟩ := ih _ _ _ _ r h
      exact ⟨st, e, h1, h2⟩
    · cases h
      exact ⟨_, rfl, rfl, rfl⟩

theorem PrfPlus_frame (P : Prims) (prf : Go.Mac) (s : Bytes) (n : Int) (r : Go.Mac × Bytes)
    (h : Gen.lib.PrfPlus P prf s n = .ok r) : r.1.h = prf.h ∧ r.1.key = prf.key := by
  unfold Gen.lib.PrfPlus at h
  obtain ⟨st, hl, h⟩ := Res.bind_eq_ok h
  obtain ⟨st', rfl, h1, h2⟩ := PrfPlus_loop1_frame P s n _ prf [] [] 1 st hl
  obtain ⟨t, _, h⟩ := Res.bind_eq_ok h
  cases h
  exact ⟨h1, h2⟩

theorem childBody_frame (P : Prims) (k : Gen.security.IKESAKey) (c : Gen.security.ChildSAKey) (nonce : Bytes)
    (lE lA : Int) (c' : Gen.security.ChildSAKey) (k' : Gen.security.IKESAKey)
    (h : childBody P k c nonce lE lA = .ok (c', k')) :
    k' = { k with Prf_d := k'.Prf_d } ∧ k'.Prf_d.h = k.Prf_d.h ∧ k'.Prf_d.key = k.Prf_d.key ∧
      c'.SPI = c.SPI ∧ c'.DhInfo = c.DhInfo ∧ c'.EncrKInfo = c.EncrKInfo ∧ c'.IntegKInfo = c.IntegKInfo ∧
      c'.EsnInfo = c.EsnInfo := by
  unfold childBody at h
  obtain ⟨r, hg, h⟩ := Res.bind_eq_ok h
  obtain ⟨f1, f2⟩ := PrfPlus_frame P _ _ _ r hg
  dsimp only at h
  split at h
  · cases h
  obtain ⟨t3, _, h⟩ := Res.bind_eq_ok h
  obtain ⟨t4, _, h⟩ := Res.bind_eq_ok h
  obtain ⟨t5, _, h⟩ := Res.bind_eq_ok h
  obtain ⟨t6, _, h⟩ := Res.bind_eq_ok h
  obtain ⟨t7, _, h⟩ := Res.bind_eq_ok h
  obtain ⟨t8, _, h⟩ := Res.bind_eq_ok h
  obtain ⟨t9, _, h⟩ := Res.bind_eq_ok h
  cases h
  exact ⟨rfl, f1, f2, rfl, rfl, rfl, rfl, rfl⟩

theorem GenerateKeyForChildSA_frame_all (P : Prims) (k : Gen.security.IKESAKey) (c : Gen.security.ChildSAKey)
    (nonce : Bytes) (c' : Gen.security.ChildSAKey) (k' : Gen.security.IKESAKey)
    (h : Gen.security.ChildSAKey.GenerateKeyForChildSA P (some c) (some k) nonce = .ok (c', k')) :
    k' = { k with Prf_d := k'.Prf_d } ∧ k'.Prf_d.h = k.Prf_d.h ∧ k'.Prf_d.key = k.Prf_d.key ∧
      c'.SPI = c.SPI ∧ c'.DhInfo = c.DhInfo ∧ c'.EncrKInfo = c.EncrKInfo ∧ c'.IntegKInfo = c.IntegKInfo ∧
      c'.EsnInfo = c.EsnInfo := by
  rw [GenerateKeyForChildSA_some] at h
  split at h
  · cases h
  obtain ⟨lE, _, h⟩ := Res.bind_eq_ok h
  split at h
  · obtain ⟨lA, _, h⟩ := Res.bind_eq_ok h
    exact childBody_frame P k c nonce lE lA c' k' h
  · exact childBody_frame P k c nonce lE 0 c' k' h

theorem GenerateKeyForChildSA_frame (P : Prims) (k : Gen.security.IKESAKey) (c : Gen.security.ChildSAKey)
    (nonce : Bytes) (c' : Gen.security.ChildSAKey) (k' : Gen.security.IKESAKey)
    (h : Gen.security.ChildSAKey.GenerateKeyForChildSA P (some c) (some k) nonce = .ok (c', k')) :
    k' = { k with Prf_d := k'.Prf_d } ∧ k'.Prf_d.h = k.Prf_d.h ∧ k'.Prf_d.key = k.Prf_d.key :=
  let f := GenerateKeyForChildSA_frame_all P k c nonce c' k' h
  ⟨f.1, f.2.1, f.2.2.1⟩

theorem GenerateKeyForChildSA_frame_child (P : Prims) (k : Gen.security.IKESAKey) (c : Gen.security.ChildSAKey)
    (nonce : Bytes) (c' : Gen.security.ChildSAKey) (k' : Gen.security.IKESAKey)
    (h : Gen.security.ChildSAKey.GenerateKeyForChildSA P (some c) (some k) nonce = .ok (c', k')) :
    c'.SPI = c.SPI ∧ c'.DhInfo = c.DhInfo ∧ c'.EncrKInfo = c.EncrKInfo ∧ c'.IntegKInfo = c.IntegKInfo ∧
      c'.EsnInfo = c.EsnInfo :=
  (GenerateKeyForChildSA_frame_all P k c nonce c' k' h).2.2.2

theorem GenerateKeyForChildSA_wf (P : Prims) (k : Gen.security.IKESAKey) (c : Gen.security.ChildSAKey)
    (nonce : Bytes) (c' : Gen.security.ChildSAKey) (k' : Gen.security.IKESAKey)
    (h : Gen.security.ChildSAKey.GenerateKeyForChildSA P (some c) (some k) nonce = .ok (c', k'))
    (hwf : SaWF k) : SaWF k' := by
  obtain ⟨h1, h2, _⟩ := GenerateKeyForChildSA_frame P k c nonce c' k' h
  rw [h1]
  obtain ⟨w1, w2, w3, w4, w5, w6, w7, w8⟩ := hwf
  refine ⟨w1, w2, w3, w4, w5, ?_, w7, w8⟩
  show Go.Mac.isNil k'.Prf_d = false
  unfold Go.Mac.isNil at w6 ⊢
  rw [h2]; exact w6

/-! ### why the hypotheses on the descriptors cannot be dropped

`SaDescOk` (and so `SaRegistered`) asks more than "not nil"; each extra clause is needed, even for lawful
primitives.  The descriptors below are values of the Go types that no registry hands out. -/

/-- lawful primitives: the MAC is 40 octets of `1`, the block cipher the identity -/
def flatPrims : Prims := ⟨fun _ _ _ => List.replicate 40 1, fun _ => 40, fun _ b => b, fun _ b => b⟩
theorem flatPrims_lawful : flatPrims.Lawful := ⟨fun _ _ _ => rfl, fun _ _ h => h, fun _ _ h => h, fun _ _ _ => rfl⟩

/-- an integrity descriptor whose `keyLength` field (1) is not the constant (16) that its `Init` compares with -/
def badIntegSa : Gen.security.IKESAKey :=
  { DhInfo := someDh, EncrInfo := .EncrAesCbc ⟨16⟩, IntegInfo := .AuthHmacMd5_95 ⟨1, 12⟩, PrfInfo := .PrfHmacMd5 ⟨0, 16⟩ }

/-- the translated code succeeds and stores the nil `hash.Hash` in `Integ_i`; the model (whose `init` compares with the
descriptor's own key length) succeeds with a real object: the two results differ -/
theorem GenerateKeyForIKESA_needs_integLen :
    (Gen.security.IKESAKey.GenerateKeyForIKESA flatPrims (some badIntegSa) [1] [1] 0 0).map
        (fun k => Go.Mac.isNil k.Integ_i) = .ok true ∧
      (genKeyForIKESA flatPrims (absSa badIntegSa) [1] [1] 0 0).2 = .ok () ∧
      (genKeyForIKESA flatPrims (absSa badIntegSa) [1] [1] 0 0).1.integ_i.alg = 0 := by decide +kernel

def negPrfSa : Gen.security.IKESAKey :=
  { DhInfo := someDh, EncrInfo := .EncrAesCbc ⟨16⟩, IntegInfo := .AuthHmacMd5_95 ⟨16, 12⟩, PrfInfo := .PrfHmacMd5 ⟨-1, 16⟩ }

/-- the translated code panics in `keyStream[:length_SK_d]`; the model (natural-number lengths) succeeds -/
theorem GenerateKeyForIKESA_needs_prfLen_nonneg :
    Gen.security.IKESAKey.GenerateKeyForIKESA flatPrims (some negPrfSa) [1] [1] 0 0 = .fault ∧
      (genKeyForIKESA flatPrims (absSa negPrfSa) [1] [1] 0 0).2 = .ok () := by decide +kernel

def badEncrSa : Gen.security.IKESAKey :=
  { DhInfo := someDh, EncrInfo := .EncrAesCbc ⟨5⟩, IntegInfo := .AuthHmacMd5_95 ⟨16, 12⟩, PrfInfo := .PrfHmacMd5 ⟨16, 16⟩ }

/-- the translated code fails in `aes.NewCipher`; the model's `newCrypto` only compares lengths and succeeds -/
theorem GenerateKeyForIKESA_needs_encrLen :
    Gen.security.IKESAKey.GenerateKeyForIKESA flatPrims (some badEncrSa) [1] [1] 0 0 = .err ∧
      (genKeyForIKESA flatPrims (absSa badEncrSa) [1] [1] 0 0).2 = .ok () := by decide +kernel

def negEncrChild : Gen.security.ChildSAKey := { EncrKInfo := .EncrAesCbc ⟨-1⟩ }

/-- the translated code panics (`stream[:streamLen]` with a negative length); the model returns an error -/
theorem GenerateKeyForChildSA_needs_encrLen_nonneg :
    Gen.security.ChildSAKey.GenerateKeyForChildSA flatPrims (some negEncrChild)
        (some { PrfInfo := .PrfHmacMd5 ⟨16, 16⟩, Prf_d := Go.Mac.new 0 [1] }) [1] = .fault ∧
      (genKeyForChildSA flatPrims (absSa { PrfInfo := .PrfHmacMd5 ⟨16, 16⟩, Prf_d := Go.Mac.new 0 [1] })
        (absChild negEncrChild) [1]).2 = .err := by decide +kernel

/-- without `hd`: a nil `Prf_d` is an error in the translated code, while the model (no nil objects) goes on -/
theorem GenerateKeyForChildSA_needs_prf_d :
    Gen.security.ChildSAKey.GenerateKeyForChildSA flatPrims (some { EncrKInfo := .EncrAesCbc ⟨16⟩ })
        (some { PrfInfo := .PrfHmacMd5 ⟨16, 16⟩ }) [1] = .err ∧
      (genKeyForChildSA flatPrims (absSa { PrfInfo := .PrfHmacMd5 ⟨16, 16⟩ })
        (absChild { EncrKInfo := .EncrAesCbc ⟨16⟩ }) [1]).2.isOk = true := by decide +kernel

end Ike.RefineSa
