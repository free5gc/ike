import IkeProofs.RefineSa.Keys
import IkeProofs.RefineSa.Protect
import IkeProofs.RefineSa.Unprotect

/-! From an outcome of the translated `ike.EncodeEncrypt` / `ike.DecodeDecrypt` (`Gen_ike.lean`) to the outcome of
the model's `protect` / `unprotect`, and back: what every `Theorems/CxxGen.lean` about the protected path goes through.
(`Refine/Transfer.lean` names the translated `message.Decode` / `Encode` of the unprotected codec.) -/

namespace Ike.RefineSa
open Ike Ike.GenAbsSa

theorem gen_protect_ok (P : Prims) (hP : P.Lawful) (k : Gen.security.IKESAKey) (hk : SaWF k)
    (hi : IntegRegistered k.IntegInfo) (role : Bool) (r : Rand) (m : Msg)
    (r' : Rand) (gm' : Gen.message.IKEMessage) (k' : Gen.security.IKESAKey) (out : Bytes)
    (h : Gen.ike.EncodeEncrypt P r (GenAbs.repMsg m) (some k) role = .ok (r', gm', k', out)) :
    ∃ m', GenAbs.absMsg gm' = some m' ∧ protect P (absSa k) role r m = (absSa k', r', .ok (out, m')) := by
  have hr := Enc.EncodeEncrypt_refines_registered P hP k hk hi role r m
  rw [h] at hr
  generalize protect P (absSa k) role r m = pr at hr
  obtain ⟨sa', r1, res⟩ := pr
  cases res with
  | ok x =>
    obtain ⟨o, m'⟩ := x
    simp only [Res.map, Res.ok.injEq, Prod.mk.injEq] at hr
    obtain ⟨h1, h2, h3, h4⟩ := hr
    exact ⟨m', h2, by rw [h1, h3, h4]⟩
  | err => simp [Res.map] at hr
  | fault => simp [Res.map] at hr

theorem gen_protect_of_model (P : Prims) (hP : P.Lawful) (k : Gen.security.IKESAKey) (hk : SaWF k)
    (hi : IntegRegistered k.IntegInfo) (role : Bool) (r : Rand) (m : Msg)
    (sa' : SAKey) (r' : Rand) (out : Bytes) (m' : Msg)
    (h : protect P (absSa k) role r m = (sa', r', .ok (out, m'))) :
    ∃ gm' k', Gen.ike.EncodeEncrypt P r (GenAbs.repMsg m) (some k) role = .ok (r', gm', k', out) ∧
      GenAbs.absMsg gm' = some m' ∧ absSa k' = sa' := by
  have hr := Enc.EncodeEncrypt_refines_registered P hP k hk hi role r m
  rw [h] at hr
  obtain ⟨x, hx, hf⟩ := map_eq_ok hr
  obtain ⟨r1, gm', k', o⟩ := x
  simp only [Prod.mk.injEq] at hf
  obtain ⟨h1, h2, h3, h4⟩ := hf
  exact ⟨gm', k', by rw [hx, h1, h4], h2, h3⟩

theorem gen_unprotect_ok (P : Prims) (hP : P.Lawful) (k : Gen.security.IKESAKey) (hk : SaWF k)
    (hi : IntegRegistered k.IntegInfo) (role : Bool) (h : Option Header) (bs : Bytes)
    (k' : Gen.security.IKESAKey) (gm' : Gen.message.IKEMessage)
    (hok : Gen.ike.DecodeDecrypt P bs (h.map GenAbs.repHeader) (some k) role = .ok (k', gm')) :
    ∃ o n m, unprotect P (some (absSa k)) role h bs = (o, n, .ok m) ∧ GenAbs.absMsg gm' = some m := by
  have hr := Dec.DecodeDecrypt_refines P hP k hk (Dec.IntegOk_of_registered hi) role h bs
  rw [hok] at hr
  generalize unprotect P (some (absSa k)) role h bs = u at hr
  obtain ⟨o, n, res⟩ := u
  cases res with
  | ok m =>
    refine ⟨o, n, m, rfl, ?_⟩
    cases o <;> exact (Prod.mk.inj (Res.ok.inj hr)).2
  | err => cases o <;> simp [Res.map] at hr
  | fault => cases o <;> simp [Res.map] at hr

theorem gen_unprotect_of_model (P : Prims) (hP : P.Lawful) (k : Gen.security.IKESAKey) (hk : SaWF k)
    (hi : IntegRegistered k.IntegInfo) (role : Bool) (h : Option Header) (bs : Bytes)
    (o : Option SAKey) (n : Nat) (m : Msg)
    (hu : unprotect P (some (absSa k)) role h bs = (o, n, .ok m)) :
    ∃ k' gm', Gen.ike.DecodeDecrypt P bs (h.map GenAbs.repHeader) (some k) role = .ok (k', gm') ∧
      GenAbs.absMsg gm' = some m := by
  have hr := Dec.DecodeDecrypt_refines P hP k hk (Dec.IntegOk_of_registered hi) role h bs
  rw [hu] at hr
  cases o <;> exact (map_eq_ok hr).elim fun x hx => ⟨x.1, x.2, hx.1, (Prod.mk.inj hx.2).2⟩

theorem gen_unprotect_not_ok (P : Prims) (hP : P.Lawful) (k : Gen.security.IKESAKey) (hk : SaWF k)
    (hi : IntegRegistered k.IntegInfo) (role : Bool) (h : Option Header) (bs : Bytes)
    (hno : ∀ m, (unprotect P (some (absSa k)) role h bs).2.2 ≠ .ok m) :
    ∀ x, Gen.ike.DecodeDecrypt P bs (h.map GenAbs.repHeader) (some k) role ≠ .ok x := by
  intro x hx
  obtain ⟨o, n, m, hu, _⟩ := gen_unprotect_ok P hP k hk hi role h bs x.1 x.2 hx
  exact hno m (by rw [hu])

end Ike.RefineSa
