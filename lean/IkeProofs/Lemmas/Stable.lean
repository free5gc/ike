import IkeProofs.Lemmas.RoundTrip
import IkeProofs.Lemmas.Eap
import IkeProofs.Lemmas.NoFault

/-! Stability for C12: what a decoder returns re-encodes to octets that it reads back to the
same value.  Per decoder, what it returns is shown to lie where the round-trip lemma of its kind
(RoundTrip.lean, Eap.lean) applies; `X_stable` is that statement for the decoder `X`.  The flat
payload bodies, proposals, chain step, header and the two packet frames are read off their
characterisations in NoFault.lean (`_safe`, `_eq`); `parseTransform`, `parseCPAttr`,
`parseAkaBody` and the two plain EAP method readers are walked here, because what is needed of
them is the shape of the value, which those characterisations do not state. -/

namespace Ike

/-- `dec` reads every payload it returns back from that payload's own encoding -/
def StableDec (dec : Bytes → Res Payload) : Prop :=
  ∀ b p, dec b = .ok p → ∀ bs, marshalPayload p = .ok bs → dec bs = .ok p

theorem unmarshalKE_stable : StableDec unmarshalKE := by
  intro b p h bs hm
  obtain ⟨g, d, rfl, hd⟩ := (unmarshalKE_safe b).of_ok h
  exact rt_KE g d bs hd hm

theorem unmarshalT4_stable (mk : UInt8 → Bytes → Payload)
    (hmk : ∀ x d, marshalPayload (mk x d) = marshalT4 x d) : StableDec (unmarshalT4 mk) := by
  intro b p h bs hm
  obtain ⟨x, d, rfl, hd⟩ := (unmarshalT4_safe mk b).of_ok h
  exact rt_T4 mk x d bs hd (hmk x d ▸ hm)

theorem unmarshalT1_stable (mk : UInt8 → Bytes → Payload)
    (hmk : ∀ x d, marshalPayload (mk x d) = marshalT1 x d) : StableDec (unmarshalT1 mk) := by
  intro b p h bs hm
  obtain ⟨x, d, rfl, hd⟩ := (unmarshalT1_safe mk b).of_ok h
  exact rt_T1 mk x d bs hd (hmk x d ▸ hm)

theorem raw_stable (mk : Bytes → Payload) (hmk : ∀ d, marshalPayload (mk d) = marshalRaw d) :
    StableDec fun b => .ok (mk b) := by
  intro b p h bs hm
  cases h
  rw [hmk] at hm
  cases hm
  rfl

theorem unmarshalNotify_stable : StableDec unmarshalNotify := by
  intro b p h bs hm
  obtain ⟨pr, nt, spi, d, rfl⟩ := (unmarshalNotify_safe b).of_ok h
  exact rt_notify pr nt spi d bs hm

theorem unmarshalDelete_stable : StableDec unmarshalDelete := by
  intro b p h bs hm
  obtain ⟨pr, s, n, spis, rfl, hk⟩ := (unmarshalDelete_safe b).of_ok h
  refine rt_delete pr s n spis bs ?_ hm
  rcases hk with ⟨_, _, _, rfl, _⟩ | ⟨_, _, _, _, h4, _⟩
  · exact Or.inl rfl
  · by_cases hz : n.toNat = 0
    · exact Or.inl hz
    · exact Or.inr (h4 (Nat.pos_of_ne_zero hz))

theorem unmarshalTS_stable (mk : List TSel → Payload) (hmk : ∀ l, marshalPayload (mk l) = marshalTS l) :
    StableDec (unmarshalTS mk) := by
  intro b p h bs hm
  obtain ⟨l, rfl, _⟩ := (unmarshalTS_safe mk b).of_ok h
  exact rt_TS mk l bs (hmk l ▸ hm)

theorem parseCPAttr_type (d : Bytes) (a : CPAttr) (n : Nat) (h : parseCPAttr d = .ok (a, n)) :
    a.atype.toNat < 32768 := by
  unfold parseCPAttr at h
  obtain ⟨len, _, h⟩ := Res.bind_eq_ok h
  obtain ⟨hl, h⟩ := Res.ite_err_eq_ok h
  obtain ⟨ty, _, h⟩ := Res.bind_eq_ok h
  obtain ⟨v, _, h⟩ := Res.bind_eq_ok h
  cases h
  exact u16_and_7fff_lt ty

/-- what `rt_CP` asks of an attribute list: types below 2^15, and not empty -/
theorem unmarshalCPAttrs_dom (d : Bytes) (l : List CPAttr) (h : unmarshalCPAttrs d = .ok l) :
    (∀ a ∈ l, a.atype.toNat < 32768) ∧ (d.length ≠ 0 → l ≠ []) := by
  fun_induction unmarshalCPAttrs d generalizing l with
  | case1 d h0 => cases h; exact ⟨fun _ hx => absurd hx List.not_mem_nil, fun hc => absurd h0 hc⟩
  | case2 => cases h
  | case3 d h0 h4 a n hp hn rest hrest ih =>
    cases h
    refine ⟨fun x hx => ?_, fun _ => List.cons_ne_nil _ _⟩
    rcases List.mem_cons.mp hx with rfl | hx
    · exact parseCPAttr_type _ _ _ hp
    · exact (ih rest hrest).1 x hx
  | case4 => cases h
  | case5 => cases h
  | case6 => cases h
  | case7 => cases h
  | case8 => cases h

theorem unmarshalCP_stable : StableDec unmarshalCP := by
  intro b p h bs hm
  obtain ⟨ct, attrs, rfl, hl, ha⟩ := (unmarshalCP_safe b).of_ok h
  obtain ⟨k1, k2⟩ := unmarshalCPAttrs_dom _ _ ha
  exact rt_CP ct attrs bs (k2 (by rw [List.length_drop]; omega)) k1 hm

/-- a transform that `marshalAttr` accepts lies in the encodable domain.  `parseTransform` returns
only such transforms: the one shape it returns outside `Transform.Dom`, a TLV attribute with an
EMPTY value, is the one the encoder refuses. -/
def Transform.DomIfMarshals (t : Transform) : Prop := ∀ a, marshalAttr t = .ok a → t.Dom

/-- the three outcomes of `parseTransform` — no attribute, a TV attribute (format bit 1), a TLV
attribute (format bit 0) — are the three disjuncts of `Transform.Dom`, the last one up to the
non-empty value -/
theorem parseTransform_domIfMarshals (td : Bytes) (t : Transform) (n : Nat)
    (h : parseTransform td = .ok (t, n)) : t.DomIfMarshals := by
  unfold parseTransform at h
  obtain ⟨tl, _, h⟩ := Res.bind_eq_ok h
  obtain ⟨_, h⟩ := Res.ite_err_eq_ok h
  obtain ⟨_, h⟩ := Res.ite_err_eq_ok h
  obtain ⟨tt, _, h⟩ := Res.bind_eq_ok h
  obtain ⟨tid, _, h⟩ := Res.bind_eq_ok h
  by_cases c3 : tl > 8
  · rw [if_pos c3] at h
    obtain ⟨_, h⟩ := Res.ite_err_eq_ok h
    obtain ⟨b8, _, h⟩ := Res.bind_eq_ok h
    obtain ⟨ft, _, h⟩ := Res.bind_eq_ok h
    dsimp only at h
    by_cases hf : ((b8 &&& 0x80) >>> 7 == 0) = true
    · rw [if_pos hf] at h
      obtain ⟨al, _, h⟩ := Res.bind_eq_ok h
      obtain ⟨_, h⟩ := Res.ite_err_eq_ok h
      obtain ⟨v, _, h⟩ := Res.bind_eq_ok h
      cases h
      intro a hm
      refine Or.inr (Or.inr ⟨rfl, beq_iff_eq.mp hf, u16_and_7fff_lt ft, rfl, fun hv => ?_⟩)
      -- with an empty value `marshalAttr` returns an error
      unfold marshalAttr at hm
      dsimp only at hm
      rw [if_neg (by decide), if_pos hf, if_pos (show v.length = 0 from congrArg List.length hv)] at hm
      cases hm
    · rw [if_neg hf] at h
      obtain ⟨av, _, h⟩ := Res.bind_eq_ok h
      cases h
      intro a _
      refine Or.inr (Or.inl ⟨rfl, ?_, u16_and_7fff_lt ft, rfl⟩)
      rcases u8_bit7_cases b8 with h0 | h1
      · exact absurd (beq_iff_eq.mpr h0) hf
      · exact h1
  · rw [if_neg c3] at h
    cases h
    exact fun a _ => Or.inl ⟨rfl, rfl, rfl, rfl, rfl⟩

/-- every transform of the proposal sits in the container of its own type and satisfies `P`;
`Proposal.Dom p` unfolds to `p.Filed Transform.Dom` -/
def Proposal.Filed (P : Transform → Prop) (p : Proposal) : Prop :=
  (∀ t ∈ p.encr, t.ttype = Facts.ttEncr ∧ P t) ∧ (∀ t ∈ p.prf, t.ttype = Facts.ttPrf ∧ P t) ∧
  (∀ t ∈ p.integ, t.ttype = Facts.ttInteg ∧ P t) ∧ (∀ t ∈ p.dh, t.ttype = Facts.ttDh ∧ P t) ∧
  (∀ t ∈ p.esn, t.ttype = Facts.ttEsn ∧ P t)

theorem Proposal.Filed.file {P : Transform → Prop} {p : Proposal} {t : Transform}
    (hp : p.Filed P) (ht : P t) : (p.file t).Filed P := by
  obtain ⟨h1, h2, h3, h4, h5⟩ := hp
  have snoc : ∀ {l : List Transform} {k : UInt8}, (∀ x ∈ l, x.ttype = k ∧ P x) → t.ttype = k →
      ∀ x ∈ l ++ [t], x.ttype = k ∧ P x := by
    intro l k hl hk x hx
    rcases List.mem_append.mp hx with hx | hx
    · exact hl x hx
    · rw [List.mem_singleton.mp hx]
      exact ⟨hk, ht⟩
  -- one branch of `Proposal.file`: the transform goes to the container of type `c`
  have step : ∀ {c : UInt8} {x y : Proposal}, (t.ttype = c → x.Filed P) → y.Filed P →
      (if t.ttype == c then x else y).Filed P :=
    fun hx hy => ite_cases (motive := Proposal.Filed P) (fun h => hx (beq_iff_eq.mp h)) fun _ => hy
  unfold Proposal.file
  exact step (fun hk => ⟨snoc h1 hk, h2, h3, h4, h5⟩) <| step (fun hk => ⟨h1, snoc h2 hk, h3, h4, h5⟩) <|
    step (fun hk => ⟨h1, h2, snoc h3 hk, h4, h5⟩) <| step (fun hk => ⟨h1, h2, h3, snoc h4 hk, h5⟩) <|
    step (fun hk => ⟨h1, h2, h3, h4, snoc h5 hk⟩) ⟨h1, h2, h3, h4, h5⟩

theorem Proposal.Filed.mono {P Q : Transform → Prop} {p : Proposal} (hp : p.Filed P)
    (h : ∀ t ∈ p.transforms, P t → Q t) : p.Filed Q := by
  obtain ⟨h1, h2, h3, h4, h5⟩ := hp
  simp only [Proposal.transforms, List.mem_append] at h
  exact ⟨fun t ht => ⟨(h1 t ht).1, h t (.inl (.inl (.inl (.inl ht)))) (h1 t ht).2⟩,
    fun t ht => ⟨(h2 t ht).1, h t (.inl (.inl (.inl (.inr ht)))) (h2 t ht).2⟩,
    fun t ht => ⟨(h3 t ht).1, h t (.inl (.inl (.inr ht))) (h3 t ht).2⟩,
    fun t ht => ⟨(h4 t ht).1, h t (.inl (.inr ht)) (h4 t ht).2⟩,
    fun t ht => ⟨(h5 t ht).1, h t (.inr ht) (h5 t ht).2⟩⟩

theorem unmarshalTransforms_filed (td : Bytes) (p q : Proposal) (hp : p.Filed Transform.DomIfMarshals)
    (h : unmarshalTransforms td p = .ok q) : q.Filed Transform.DomIfMarshals := by
  fun_induction unmarshalTransforms td p with
  | case1 td p h0 => cases h; exact hp
  | case2 => cases h
  | case3 td p h0 h8 t n hpt hn ih => exact ih (hp.file (parseTransform_domIfMarshals _ _ _ hpt)) h
  | case4 => cases h
  | case5 => cases h
  | case6 => cases h

theorem unmarshalProposals_filed (b : Bytes) (ps : List Proposal) (h : unmarshalProposals b = .ok ps) :
    ∀ p ∈ ps, p.Filed Transform.DomIfMarshals := by
  fun_induction unmarshalProposals b generalizing ps with
  | case1 b h0 => cases h; exact fun _ hx => absurd hx List.not_mem_nil
  | case2 => cases h
  | case3 b h0 h8 p n hp hn rest hrest ih =>
    cases h
    obtain ⟨_, _, _, spi, hq⟩ := (parseProposal_safe b (Nat.le_of_not_lt h8)).of_ok hp
    intro x hx
    rcases List.mem_cons.mp hx with rfl | hx
    · exact unmarshalTransforms_filed _ _ _ (by simp [Proposal.Filed]) hq
    · exact ih rest hrest x hx
  | case4 => cases h
  | case5 => cases h
  | case6 => cases h
  | case7 => cases h
  | case8 => cases h

/-- `marshalTransforms` and `marshalProposals` have this shape: when the list encoder succeeds, the
element encoder succeeded on every element -/
theorem marshalList_each {α : Type} (g : Bool → α → Res Bytes) (f : List α → Res Bytes)
    (hf : ∀ x rest, f (x :: rest) = g rest.isEmpty x >>= fun h => f rest >>= fun tl => .ok (h ++ tl))
    (l : List α) (bs : Bytes) (hm : f l = .ok bs) : ∀ x ∈ l, ∃ last h, g last x = .ok h := by
  induction l generalizing bs with
  | nil => exact fun _ hx => absurd hx List.not_mem_nil
  | cons y rest ih =>
    rw [hf] at hm
    obtain ⟨h, hh, hm⟩ := Res.bind_eq_ok hm
    obtain ⟨tl, hr, _⟩ := Res.bind_eq_ok hm
    intro x hx
    rcases List.mem_cons.mp hx with rfl | hx
    · exact ⟨_, _, hh⟩
    · exact ih tl hr x hx

/-- a proposal whose transforms are filed and that the encoder accepts lies in the encodable domain -/
theorem Proposal.dom_of_filed (p : Proposal) (hi : p.Filed Transform.DomIfMarshals) (last : Bool) (h : Bytes)
    (hm : marshalProposal last p = .ok h) : p.Dom := by
  unfold marshalProposal at hm
  obtain ⟨_, hm⟩ := Res.ite_err_eq_ok hm
  dsimp only at hm
  obtain ⟨_, hm⟩ := Res.ite_err_eq_ok hm
  obtain ⟨_, hm⟩ := Res.ite_err_eq_ok hm
  obtain ⟨td, htd, _⟩ := Res.bind_eq_ok hm
  refine hi.mono fun t ht hit => ?_
  obtain ⟨_, _, hmt⟩ := marshalList_each marshalTransform marshalTransforms (fun _ _ => rfl) _ _ htd t ht
  obtain ⟨a, ha, _⟩ := Res.bind_eq_ok hmt
  exact hit a ha

theorem unmarshalSA_stable : StableDec unmarshalSA := by
  intro b p h data hm
  unfold unmarshalSA at h
  obtain ⟨ps, hps, h⟩ := Res.bind_eq_ok h
  cases h
  refine rt_SA ps data (fun q hq => ?_) hm
  obtain ⟨last, hh, hmq⟩ := marshalList_each marshalProposal marshalProposals (fun _ _ => rfl) ps data hm q hq
  exact Proposal.dom_of_filed q (unmarshalProposals_filed _ _ hps q hq) last hh hmq

/-- one branch per attribute class of `parseAkaBody` (fixed 16-octet value; bit-length field, value
and padding; AT_KDF; any other type): the reads fix the length of the value, and the lemma of that
class in Eap.lean (`parse_marshal_*`) says that such an attribute is read back from its own
emission, whose body has the length that was consumed -/
theorem parseAkaBody_stable (t len : UInt8) (r : Bytes) (a : AkaAttr) (n : Nat)
    (hp : parseAkaBody t len r = .ok (a, n)) : AkaAttrRT a ∧ (akaBody a).length = n := by
  unfold parseAkaBody at hp
  by_cases c1 : (t == Facts.atMac || t == Facts.atRand || t == Facts.atAutn) = true
  · -- AT_MAC, AT_RAND, AT_AUTN: length octet 5, reserved word, 16 octets
    rw [if_pos c1] at hp
    obtain ⟨h5, hp⟩ := Res.ite_err_eq_ok hp
    obtain ⟨_, hp⟩ := readN_match_ok hp
    obtain ⟨l2, hp⟩ := readN_match_ok hp
    cases hp
    have hlen5 : len = 5 := Decidable.not_not.mp fun hne => h5 (bne_iff_ne.mpr hne)
    have ht : t = Facts.atRand ∨ t = Facts.atAutn ∨ t = Facts.atMac := by
      rcases Bool.or_eq_true_iff.mp c1 with h | h
      · rcases Bool.or_eq_true_iff.mp h with h | h
        · exact .inr (.inr (beq_iff_eq.mp h))
        · exact .inl (beq_iff_eq.mp h)
      · exact .inr (.inl (beq_iff_eq.mp h))
    have hv : ((r.drop 2).take 16).length = 16 := by rw [List.length_take, Nat.min_eq_left l2]
    obtain ⟨e, hrt⟩ := parse_marshal_fixed16 t _ ht hv
    rw [hlen5]
    exact ⟨hrt, by rw [e, List.length_append, put16_length, hv]⟩
  rw [if_neg c1] at hp
  by_cases c2 : (t == Facts.atKdfInput || t == Facts.atRes) = true
  · -- AT_KDF_INPUT, AT_RES: bit-length word, `bits / 8` octets, padding up to `4 * len`
    rw [if_pos c2] at hp
    obtain ⟨_, hp⟩ := readN_match_ok hp
    dsimp only at hp
    generalize be16 (byteAt (r.take 2) 0) (byteAt (r.take 2) 1) = bits at hp
    obtain ⟨hvl, hlt, hpad⟩ := akaPad_arith len bits
    obtain ⟨hfit, hp⟩ := Res.ite_err_eq_ok hp
    have hfit : bits.toNat / 8 + 4 ≤ 4 * len.toNat := Nat.le_of_not_lt (mt hlt.mpr hfit)
    have hpad := hpad hfit
    obtain ⟨l2, hp⟩ := readN_match_ok hp
    generalize hvd : (r.drop 2).take (bits / 8).toNat = v at hp
    have hv : v.length = bits.toNat / 8 := by rw [← hvd, List.length_take, Nat.min_eq_left l2, hvl]
    have ht : t = Facts.atRes ∨ t = Facts.atKdfInput :=
      (Bool.or_eq_true_iff.mp c2).symm.imp beq_iff_eq.mp beq_iff_eq.mp
    -- `n` is kept in the shape of the emitted body's length: value, then padding
    have key : a = ⟨t, len, bits, v⟩ → n = 2 + v.length + (4 * len.toNat - 4 - v.length) →
        AkaAttrRT a ∧ (akaBody a).length = n := by
      intro ha hn
      subst ha hn
      obtain ⟨e, hrt⟩ := parse_marshal_padded t len bits v ht hv (hv ▸ hfit)
      exact ⟨hrt, by rw [e, List.length_append, List.length_append, put16_length, zeros_length]⟩
    by_cases hpos : len.toUInt16 * 4 - bits / 8 - 4 > 0
    · rw [if_pos hpos] at hp
      cases h3 : readN ((r.drop 2).drop (bits / 8).toNat) (len.toUInt16 * 4 - bits / 8 - 4).toNat with
      | none => rw [h3] at hp; cases hp
      | some _ =>
        rw [h3] at hp
        cases hp
        exact key rfl (by rw [hvl, hpad, hv])
    · rw [if_neg hpos] at hp
      cases hp
      have h0 : 4 * len.toNat - 4 - bits.toNat / 8 = 0 :=
        hpad ▸ Nat.eq_zero_of_not_pos fun h => hpos (UInt16.lt_iff_toNat_lt.mpr h)
      exact key rfl (by rw [hvl, hv, h0, Nat.add_zero])
  rw [if_neg c2] at hp
  by_cases c3 : (t == Facts.atKdf) = true
  · -- AT_KDF: no reserved word, `(4 * len - 2) mod 256` octets
    rw [if_pos c3] at hp
    obtain ⟨l1, hp⟩ := readN_match_ok hp
    cases hp
    have hv : (r.take (4 * len - 1 - 1).toNat).length = (4 * len - 1 - 1).toNat := by
      rw [List.length_take, Nat.min_eq_left l1]
    rw [beq_iff_eq.mp c3]
    obtain ⟨e, hrt⟩ := parse_marshal_kdf len _ hv
    exact ⟨hrt, by rw [e, hv]⟩
  -- any other type: reserved word, `4 * len - 4` octets
  rw [if_neg c3] at hp
  obtain ⟨hl0, hp⟩ := Res.ite_err_eq_ok hp
  obtain ⟨_, hp⟩ := readN_match_ok hp
  obtain ⟨l2, hp⟩ := readN_match_ok hp
  cases hp
  have hv : ((r.drop 2).take (4 * len.toNat - 4)).length = 4 * len.toNat - 4 := by
    rw [List.length_take, Nat.min_eq_left l2]
  obtain ⟨e, hrt⟩ := parse_marshal_other t len _ _ c1 c2 c3 hl0 hv
  exact ⟨hrt, by rw [e, List.length_append, put16_length, hv]⟩

theorem marshalAkaAttrs_insert_length (l : List AkaAttr) (a : AkaAttr) :
    (marshalAkaAttrs (akaInsert l a)).length ≤ (marshalAkaAttrs l).length + (marshalAkaAttr a).length := by
  induction l with
  | nil => simp [akaInsert, marshalAkaAttrs]
  | cons x rest ih =>
    unfold akaInsert
    by_cases c1 : a.atype < x.atype
    · rw [if_pos c1]
      simp only [marshalAkaAttrs, List.length_append]; omega
    · rw [if_neg c1]
      by_cases c2 : (a.atype == x.atype) = true
      · rw [if_pos c2]
        simp only [marshalAkaAttrs, List.length_append]; omega
      · rw [if_neg c2]
        simp only [marshalAkaAttrs, List.length_append] at ih ⊢; omega

/-- every attribute the loop returns is read back from its own emission; and re-emitting the
returned list is not longer than what was read: the loop drops duplicates and a lone trailing
type octet, nothing grows -/
theorem unmarshalAkaAttrs_stable (r : Bytes) (acc l : List AkaAttr)
    (hacc : ∀ x ∈ acc, AkaAttrRT x) (h : unmarshalAkaAttrs r acc = .ok l) :
    (∀ x ∈ l, AkaAttrRT x) ∧ (marshalAkaAttrs l).length ≤ (marshalAkaAttrs acc).length + r.length := by
  fun_induction unmarshalAkaAttrs r acc with
  | case1 acc => cases h; exact ⟨hacc, Nat.le_add_right _ _⟩
  | case2 acc _ => cases h; exact ⟨hacc, Nat.le_add_right _ _⟩
  | case3 acc t len body a n hp hn ih =>
    obtain ⟨hrt, hsz⟩ := parseAkaBody_stable _ _ _ _ _ hp
    have hacc' : ∀ x ∈ akaInsert acc a, AkaAttrRT x := by
      intro x hx
      rcases akaInsert_mem hx with rfl | hx
      · exact hrt
      · exact hacc x hx
    obtain ⟨i1, i2⟩ := ih hacc' h
    refine ⟨i1, ?_⟩
    have := marshalAkaAttrs_insert_length acc a
    rw [marshalAkaAttr_cons, List.length_cons, List.length_cons, hsz] at this
    simp only [List.length_drop, List.length_cons] at i2 ⊢
    omega
  | case4 => cases h
  | case5 => cases h
  | case6 => cases h

/-- `EapAkaPrime.Unmarshal`, `Marshal`, `Unmarshal`: same packet; the re-encoding is not longer -/
theorem unmarshalAka_stable (raw bs : Bytes) (a : Aka) (h : unmarshalAka raw = .ok a) (hm : marshalAka a = .ok bs) :
    unmarshalAka bs = .ok a ∧ bs.length ≤ raw.length := by
  have hsorted := unmarshalAka_sorted raw a h
  rw [unmarshalAka_eq] at h
  obtain ⟨h4, h⟩ := Res.ite_err_eq_ok h
  obtain ⟨hc, h⟩ := Res.ite_err_eq_ok h
  obtain ⟨attrs, ha, h⟩ := Res.bind_eq_ok h
  cases h
  obtain ⟨i1, i2⟩ := unmarshalAkaAttrs_stable _ _ _ (by simp) ha
  refine ⟨rt_aka _ bs hsorted i1 hm, ?_⟩
  cases hm
  simp only [marshalAkaAttrs, List.length_nil, List.length_drop, Nat.zero_add] at i2
  simp only [List.length_append, List.length_cons, List.length_nil, put16_length]
  omega

theorem unmarshalEap_data (bs : Bytes) (e : Eap) (h : unmarshalEap bs = .ok e) :
    e.data = .none ∨ ∃ body, body ≠ [] ∧ 4 + body.length ≤ 65535 ∧ unmarshalEapData body = .ok e.data := by
  rw [unmarshalEap_eq] at h
  by_cases h0 : bs.length = 0
  · rw [if_pos h0] at h; cases h; exact Or.inl rfl
  rw [if_neg h0] at h
  obtain ⟨h4, h⟩ := Res.ite_err_eq_ok h
  obtain ⟨_, h⟩ := Res.ite_err_eq_ok h
  obtain ⟨hlen, h⟩ := Res.ite_err_eq_ok h
  by_cases c4 : bs.length = 4
  · rw [if_pos c4] at h; cases h; exact Or.inl rfl
  rw [if_neg c4] at h
  obtain ⟨d, hd, h⟩ := Res.bind_eq_ok h
  cases h
  -- the length field holds the whole length, so the packet fits 16 bits
  have hpl := (be16 (byteAt bs 2) (byteAt bs 3)).toNat_lt
  refine Or.inr ⟨bs.drop 4, fun hc => ?_, by rw [List.length_drop]; omega, hd⟩
  have : bs.length - 4 = 0 := List.length_drop ▸ congrArg List.length hc
  omega

/-- the reader `dec` of the method with type octet `c`: on a non-empty type-data, what it returns
re-encodes to a type-data that starts with `c`, is not longer, and reads back to the same value -/
def MethodStable (c : UInt8) (dec : Bytes → Res EapData) : Prop :=
  ∀ body td d, body ≠ [] → dec body = .ok d → marshalEapData d = .ok td →
    byteAt td 0 = c ∧ dec td = .ok d ∧ td.length ≤ body.length

theorem unmarshalSimple_methodStable (c : UInt8) (mk : Bytes → EapData)
    (hmk : ∀ dd, marshalEapData (mk dd) = if dd.length = 0 then .err else .ok ([c] ++ dd)) :
    MethodStable c (unmarshalSimple c mk) := by
  intro body td d _ h hm
  have key : ∀ dd, 1 + dd.length ≤ body.length → d = mk dd →
      byteAt td 0 = c ∧ unmarshalSimple c mk td = .ok d ∧ td.length ≤ body.length := by
    rintro dd hl rfl
    rw [hmk] at hm
    obtain ⟨h0, hm⟩ := Res.ite_err_eq_ok hm
    cases hm
    exact ⟨rfl, rt_unmarshalSimple c mk dd (by omega), by rw [List.length_append, List.length_singleton]; exact hl⟩
  unfold unmarshalSimple at h
  by_cases hl : body.length > 1
  · rw [if_pos hl, goIndex_ok (by omega), Res.bind_ok] at h
    obtain ⟨ht, h⟩ := Res.ite_err_eq_ok h
    rw [goFrom_ok (by omega)] at h
    cases h
    exact key _ (by rw [List.length_drop]; omega) rfl
  · rw [if_neg hl] at h
    cases h
    rw [hmk] at hm
    cases hm

theorem unmarshalExpanded_methodStable : MethodStable Facts.eapTypeExpanded unmarshalExpanded := by
  intro body td d hne h hm
  unfold unmarshalExpanded at h
  by_cases h0 : body.length = 0
  · exact absurd (List.eq_nil_of_length_eq_zero h0) hne
  rw [if_neg h0] at h
  obtain ⟨h8, h⟩ := Res.ite_err_eq_ok h
  obtain ⟨tv, _, h⟩ := Res.bind_eq_ok h
  obtain ⟨vt, _, h⟩ := Res.bind_eq_ok h
  dsimp only at h
  rw [← Res.ite_bind] at h
  obtain ⟨dd, hdd, h⟩ := Res.bind_eq_ok h
  cases h
  have hdl : dd.length + 8 ≤ body.length := by
    by_cases hg : body.length > 8
    · rw [if_pos hg, goFrom_ok (by omega)] at hdd; cases hdd; rw [List.length_drop]; omega
    · rw [if_neg hg] at hdd; cases hdd; exact Nat.le_of_not_lt h8
  cases hm
  obtain ⟨r1, r2⟩ := rt_eapData_expanded (tv &&& 0x00ffffff) vt dd
    (by rw [u32_and_ffffff]; exact Nat.mod_lt _ (by decide))
  refine ⟨r1, r2, ?_⟩
  rw [List.length_append, List.length_append, put32_length, put32_length]
  omega

theorem unmarshalAka_methodStable :
    MethodStable Facts.eapTypeAkaPrime fun b => unmarshalAka b >>= fun a => .ok (.aka a) := by
  intro body td d _ h hm
  obtain ⟨a, ha, h⟩ := Res.bind_eq_ok h
  cases h
  obtain ⟨k1, k2⟩ := unmarshalAka_stable body td a ha hm
  refine ⟨?_, ?_, k2⟩
  · cases hm
    rfl
  · show (unmarshalAka td >>= _) = _
    rw [k1]
    rfl

/-- the method reader the type octet selects: `unmarshalEapData b` is `eapMethod (byteAt b 0) b` -/
def eapMethod (c : UInt8) : Bytes → Res EapData :=
  if c == Facts.eapTypeIdentity then unmarshalSimple Facts.eapTypeIdentity .identity
  else if c == Facts.eapTypeNotification then unmarshalSimple Facts.eapTypeNotification .notification
  else if c == Facts.eapTypeNak then unmarshalSimple Facts.eapTypeNak .nak
  else if c == Facts.eapTypeAkaPrime then fun b => unmarshalAka b >>= fun a => .ok (.aka a)
  else if c == Facts.eapTypeExpanded then unmarshalExpanded
  else fun _ => .err

theorem unmarshalEapData_eq (b : Bytes) : unmarshalEapData b = eapMethod (byteAt b 0) b := by
  unfold unmarshalEapData eapMethod
  simp only [ite_apply]

/-- every method reader is stable under a type octet other than 0; an unknown type octet has none -/
theorem eapMethod_stable (c : UInt8) :
    eapMethod c = (fun _ => .err) ∨ (c ≠ 0 ∧ MethodStable c (eapMethod c)) := by
  have step : ∀ {k : UInt8} {x y : Bytes → Res EapData}, k ≠ 0 → MethodStable k x →
      (y = (fun _ => .err) ∨ (c ≠ 0 ∧ MethodStable c y)) →
      ((if c == k then x else y) = (fun _ => .err) ∨ (c ≠ 0 ∧ MethodStable c (if c == k then x else y))) := by
    intro k x y hk hx hy
    by_cases h : (c == k) = true
    · rw [if_pos h, beq_iff_eq.mp h]; exact Or.inr ⟨hk, hx⟩
    · rw [if_neg h]; exact hy
  unfold eapMethod
  exact step (by decide) (unmarshalSimple_methodStable _ .identity fun _ => rfl) <|
    step (by decide) (unmarshalSimple_methodStable _ .notification fun _ => rfl) <|
    step (by decide) (unmarshalSimple_methodStable _ .nak fun _ => rfl) <|
    step (by decide) unmarshalAka_methodStable <| step (by decide) unmarshalExpanded_methodStable <| Or.inl rfl

theorem unmarshalEapData_stable (body td : Bytes) (d : EapData) (hne : body ≠ [])
    (h : unmarshalEapData body = .ok d) (hm : marshalEapData d = .ok td) :
    unmarshalEapData td = .ok d ∧ td.length ≤ body.length ∧ td ≠ [] := by
  rw [unmarshalEapData_eq] at h ⊢
  rcases eapMethod_stable (byteAt body 0) with herr | ⟨hc0, hs⟩
  · rw [herr] at h; cases h
  · obtain ⟨k0, k1, k2⟩ := hs body td d hne h hm
    refine ⟨by rw [k0]; exact k1, k2, fun hnil => hc0 ?_⟩
    rw [← k0, hnil]
    rfl

/-- `EAP.Unmarshal`, `Marshal`, `Unmarshal`: the first decoded packet again -/
theorem unmarshalEap_stable (bs bs' : Bytes) (e : Eap) (h : unmarshalEap bs = .ok e) (hm : marshalEap e = .ok bs') :
    unmarshalEap bs' = .ok e := by
  obtain ⟨td, hmd, rfl⟩ := marshalEap_eq e bs' hm
  obtain ⟨code, ident, data⟩ := e
  dsimp only at *
  rcases unmarshalEap_data bs _ h with hnone | ⟨body, hne, hsz, hdd⟩
  · dsimp only at hnone
    subst hnone
    simp only [marshalEapData, Res.ok.injEq] at hmd
    subst hmd
    exact unmarshalEap_emitted code ident [] .none (by simp) (Or.inl ⟨rfl, rfl⟩)
  · dsimp only at hdd
    obtain ⟨k1, k2, k3⟩ := unmarshalEapData_stable body td data hne hdd hmd
    exact unmarshalEap_emitted code ident td data (by omega) (Or.inr ⟨k3, k1⟩)

theorem unmarshalEapPayload_stable : StableDec fun b => unmarshalEap b >>= fun e => .ok (.eap e) := by
  intro b p h bs hm
  obtain ⟨e, he, h⟩ := Res.bind_eq_ok h
  cases h
  show (unmarshalEap bs >>= _) = _
  rw [unmarshalEap_stable b bs e he hm]
  rfl

/-- the type selects the decoder whatever the next-payload octet is, so what a stable decoder
returned is read back from its re-encoding under any next-payload octet -/
theorem unmarshalPayload_stable (t nx : UInt8) (body : Bytes) (p : Payload)
    (h : unmarshalPayload t nx body = .ok p) (hs : p.isSK = false) : PayloadRT p := by
  -- what is shown of the decoder `f` that the type selects
  let M : (UInt8 → Bytes → Res Payload) → Prop := fun f =>
    ∀ q, f nx body = .ok q → q.isSK = false → ∀ bs nx', marshalPayload q = .ok bs → f nx' bs = .ok q
  have of {dec : Bytes → Res Payload} (hd : StableDec dec) : M fun _ b => dec b :=
    fun q hq _ bs _ hm => hd body q hq bs hm
  intro bs nx' hm
  rw [((unmarshalPayload_safe t nx body).of_ok h).1]
  exact unmarshalPayload_cases (motive := fun _ f => M f)
    (sa := of unmarshalSA_stable) (ke := of unmarshalKE_stable)
    (idi := of (unmarshalT4_stable .idi fun _ _ => rfl)) (idr := of (unmarshalT4_stable .idr fun _ _ => rfl))
    (cert := of (unmarshalT1_stable .cert fun _ _ => rfl))
    (certreq := of (unmarshalT1_stable .certreq fun _ _ => rfl))
    (auth := of (unmarshalT4_stable .auth fun _ _ => rfl)) (nonce := of (raw_stable .nonce fun _ => rfl))
    (notify := of unmarshalNotify_stable) (delete := of unmarshalDelete_stable)
    (vendor := of (raw_stable .vendor fun _ => rfl)) (tsi := of (unmarshalTS_stable .tsi fun _ => rfl))
    (tsr := of (unmarshalTS_stable .tsr fun _ => rfl))
    (sk := fun q hq hqs => by cases hq; cases hqs)
    (cp := of unmarshalCP_stable) (eap := of unmarshalEapPayload_stable)
    (unknown := fun _ q hq => by cases hq)
    t p h hs bs nx' hm

theorem decodeChain_stable (t : UInt8) (b : Bytes) (ps : List Payload) (h : decodeChain t b = .ok ps) :
    (∀ p ∈ ps, p.isSK = false → PayloadRT p) ∧ SKLast ps := by
  fun_induction decodeChain t b generalizing ps with
  | case1 => cases h; exact ⟨fun _ hx => absurd hx List.not_mem_nil, trivial⟩
  | case2 t b h0 op nx n hp hn rest hrest ih =>
    cases h
    obtain ⟨i1, i2⟩ := ih rest hrest
    cases op with
    | none => exact ⟨i1, i2⟩
    | some p =>
      obtain ⟨_, _, _, _, hstep⟩ := (chainStep_safe _ _).of_ok hp
      obtain ⟨_, hsk, hu⟩ := hstep p rfl
      refine ⟨?_, ?_⟩
      · intro x hx
        rcases List.mem_cons.mp hx with rfl | hx
        · exact unmarshalPayload_stable _ _ _ _ hu
        · exact i1 x hx
      · cases rest with
        | nil => trivial
        | cons q r =>
          refine ⟨?_, i2⟩
          cases hs : p.isSK with
          | false => rfl
          | true =>
            -- an Encrypted payload is only accepted when it ends the container: nothing is left to decode
            have hn : n = b.length :=
              hsk (((unmarshalPayload_safe _ _ _).of_ok hu).1 ▸ beq_iff_eq.mp (typeCode_sk p hs))
            rw [hn, decodeChain, dif_pos (by rw [List.length_drop, Nat.sub_self])] at hrest
            cases hrest
  | case3 => cases h
  | case4 => cases h
  | case5 => cases h
  | case6 => cases h
  | case7 => cases h

theorem parseHeader_version (b : Bytes) (h : Header) (hp : parseHeader b = .ok h) :
    h.major.toNat < 16 ∧ h.minor.toNat < 16 := by
  rw [parseHeader_eq] at hp
  obtain ⟨_, hp⟩ := Res.ite_err_eq_ok hp
  obtain ⟨_, hp⟩ := Res.ite_err_eq_ok hp
  cases hp
  constructor
  · show (byteAt b 17 >>> 4).toNat < 16
    rw [UInt8.toNat_shiftRight, Nat.shiftRight_eq_div_pow]
    exact Nat.div_lt_of_lt_mul (byteAt b 17).toNat_lt
  · show (byteAt b 17 &&& 0x0F).toNat < 16
    rw [UInt8.toNat_and]
    exact Nat.lt_succ_of_le Nat.and_le_right

/-- every decoded message meets the hypotheses of `rt_msg_sk` -/
theorem decodeMsg_stable (bs : Bytes) (m : Msg) (h : decodeMsg bs = .ok m) :
    m.hdr.major.toNat < 16 ∧ m.hdr.minor.toNat < 16 ∧
    (∀ p ∈ m.payloads, p.isSK = false → PayloadRT p) ∧ SKLast m.payloads := by
  obtain ⟨hh, hc⟩ := decodeMsg_inv h
  exact ⟨(parseHeader_version _ _ hh).1, (parseHeader_version _ _ hh).2, decodeChain_stable _ _ _ hc⟩

end Ike
