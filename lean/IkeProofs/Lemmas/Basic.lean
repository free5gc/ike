import IkeModel

/-! Length facts of the big-endian encoders and the case-analysis lemmas for `if` chains that the proofs share. -/

namespace Ike

@[simp] theorem put16_length (v : UInt16) : (put16 v).length = 2 := rfl
@[simp] theorem put32_length (v : UInt32) : (put32 v).length = 4 := rfl
@[simp] theorem put64_length (v : UInt64) : (put64 v).length = 8 := rfl

theorem u16_not_lt_toNat {a b : UInt16} (h : ¬ a < b) : b.toNat ≤ a.toNat :=
  Nat.le_of_not_lt (fun hc => h (UInt16.lt_iff_toNat_lt.mpr hc))

theorem u16_gt_toNat {a b : UInt16} (h : a > b) : b.toNat < a.toNat :=
  UInt16.lt_iff_toNat_lt.mp h

/-- a guard `if a < n then return err` on a 16-bit field that was passed, in the form `omega` can use
(`n` is the literal, `(n : UInt16).toNat` does not reduce for it) -/
theorem u16_le_of_not_lt {a : UInt16} (n : Nat) (h : ¬ a < UInt16.ofNat n) (hn : n < 65536 := by decide) :
    n ≤ a.toNat := by
  have := u16_not_lt_toNat h
  rwa [UInt16.toNat_ofNat', Nat.mod_eq_of_lt hn] at this

/-- case analysis on an `if`; each branch may use the condition -/
theorem ite_cases {α : Type} {motive : α → Prop} {c : Prop} [Decidable c] {x y : α}
    (hx : c → motive x) (hy : ¬c → motive y) : motive (if c then x else y) := by
  by_cases h : c
  · rw [if_pos h]; exact hx h
  · rw [if_neg h]; exact hy h

/-- a guard `if c then none else …` that was passed -/
theorem ite_none_eq_some {α : Type} {c : Prop} [Decidable c] {x : Option α} {y : α}
    (h : (if c then none else x) = some y) : ¬ c ∧ x = some y := by
  by_cases hc : c
  · rw [if_pos hc] at h; cases h
  · rw [if_neg hc] at h; exact ⟨hc, h⟩

theorem ite_apply {α β : Type} (c : Prop) [Decidable c] (f g : α → β) (a : α) :
    (if c then f else g) a = if c then f a else g a := by
  split <;> rfl

/-- one step of a dispatch `if t == c₁ then x₁ else if t == c₂ then x₂ else …`: in the branch taken `t` is `c`;
the other branch keeps `t` and forgets `t ≠ c`, which no dispatch proof here needs -/
theorem ite_beq_cases {α β : Type} [BEq α] [LawfulBEq α] {motive : α → β → Prop} {t c : α} {x y : β}
    (hx : motive c x) (hy : motive t y) : motive t (if t == c then x else y) := by
  by_cases h : (t == c) = true
  · rw [if_pos h, beq_iff_eq.mp h]; exact hx
  · rw [if_neg h]; exact hy

/-- `ite_beq_cases` for a dispatch that selects a function of two arguments -/
theorem ite_beq_cases_fun {α β γ δ : Type} [BEq α] [LawfulBEq α] {motive : α → (γ → δ → β) → Prop} {t c : α}
    {x y : γ → δ → β} (hx : motive c x) (hy : motive t y) :
    motive t fun a b => if t == c then x a b else y a b := by
  by_cases h : (t == c) = true
  · simp only [h, if_true]
    exact beq_iff_eq.mp h ▸ hx
  · simp only [h]
    exact hy

/-- 46 is the type code of the SK payload only -/
theorem Payload.eq_sk_of_typeCode (p : Payload) (h : p.typeCode = 46) : ∃ n d, p = .sk n d := by
  cases p <;> first | exact ⟨_, _, rfl⟩ | (simp only [Payload.typeCode] at h; exact absurd h (by decide))

/-- a dispatch among two identifiers that, unlike `ite_beq_cases`, keeps what `t` is NOT in the last branch -/
theorem ite2_cases {α β : Type} [BEq α] [LawfulBEq α] (a k1 k2 : α) (x y z : β) :
    (a = k1 ∧ (if a == k1 then x else if a == k2 then y else z) = x) ∨
    (a = k2 ∧ (if a == k1 then x else if a == k2 then y else z) = y) ∨
    (a ≠ k1 ∧ a ≠ k2 ∧ (if a == k1 then x else if a == k2 then y else z) = z) := by
  by_cases h1 : a = k1
  · exact Or.inl ⟨h1, if_pos (beq_iff_eq.mpr h1)⟩
  · rw [if_neg fun h => h1 (beq_iff_eq.mp h)]
    by_cases h2 : a = k2
    · exact Or.inr (Or.inl ⟨h2, if_pos (beq_iff_eq.mpr h2)⟩)
    · exact Or.inr (Or.inr ⟨h1, h2, if_neg fun h => h2 (beq_iff_eq.mp h)⟩)

/-- a predicate holds for every octet if it holds for the 256 values `0 … 255` (the form `decide` can check) -/
theorem forall_uint8 {p : UInt8 → Prop} (h : ∀ n : Fin 256, p (UInt8.ofNat n.val)) (x : UInt8) : p x := by
  simpa using h ⟨x.toNat, x.toNat_lt⟩

end Ike
