import IkeProofs.Lemmas.Wire

/-! Round trips `unmarshal (marshal p) = p` per payload kind, for the header, the payload chain and whole
messages (used by C01, C03, C12, C13 and Lemmas/Sk.lean), stated on the encodable domain of each kind.
This file DEFINES `PayloadRT` (a payload decodes back from its own body), `Payload.isSK` and `SKLast` (an
Encrypted payload occurs at most as the last element of a chain).

The model's own encoder is the independent RFC encoder under the canonical liberties (`marshalX_spec`,
`encodeX_canonical` in Lemmas/Wire.lean), so for every kind that leaves the sender a choice (SA, KE, ID / AUTH,
TS, CP) the round trip is the case "all reserved octets zero, canonical order" of the `…_encode` lemma there.
Notify, Delete and CERT / CERTREQ leave no choice and are walked here, in the way described at the head of Wire.lean. -/

namespace Ike

theorem rt_KE (g : UInt16) (d bs : Bytes) (hd : 1 ≤ d.length) (h : marshalKE g d = .ok bs) :
    unmarshalKE bs = .ok (.ke g d) := by
  rw [marshalKE_spec] at h
  cases h
  exact unmarshalKE_encode 0 0 g d hd

theorem rt_T4 (mk : UInt8 → Bytes → Payload) (t : UInt8) (d bs : Bytes) (hd : 1 ≤ d.length)
    (h : marshalT4 t d = .ok bs) : unmarshalT4 mk bs = .ok (mk t d) := by
  rw [marshalT4_spec] at h
  cases h
  exact unmarshalT4_encode mk 0 0 0 t d hd

theorem rt_T1 (mk : UInt8 → Bytes → Payload) (t : UInt8) (d bs : Bytes) (hd : 1 ≤ d.length)
    (h : marshalT1 t d = .ok bs) : unmarshalT1 mk bs = .ok (mk t d) := by
  cases h
  have hl : ([t] ++ d).length = d.length + 1 := rfl
  have g0 : goIndex ([t] ++ d) 0 = .ok t := rfl
  have g1 : goFrom ([t] ++ d) 1 = .ok d := rfl
  unfold unmarshalT1
  rw [if_neg (by omega), g0, Res.bind_ok, g1, Res.bind_ok]

theorem rt_notify (proto : UInt8) (nt : UInt16) (spi d bs : Bytes)
    (h : marshalNotify proto nt spi d = .ok bs) : unmarshalNotify bs = .ok (.notify proto nt spi d) := by
  unfold marshalNotify at h
  by_cases hs : spi.length > 0xFF
  · rw [if_pos hs] at h; cases h
  rw [if_neg hs] at h
  cases h
  have hsz : (UInt8.ofNat spi.length).toNat = spi.length := toNat_ofNat_u8 _ (by omega)
  generalize hb : [proto, UInt8.ofNat spi.length] ++ put16 nt ++ spi ++ d = b
  simp only [put16, List.cons_append, List.nil_append] at hb
  have hl : b.length = (spi ++ d).length + 4 := by rw [← hb]; rfl
  rw [List.length_append] at hl
  have g0 : goIndex b 0 = .ok proto := by rw [← hb]; rfl
  have g1 : goIndex b 1 = .ok (UInt8.ofNat spi.length) := by rw [← hb]; rfl
  have g2 : goU16 b 2 = .ok nt := by rw [← hb]; exact congrArg Res.ok (be16_put nt)
  have gspi : goSlice b 4 (4 + spi.length) = .ok spi := by
    rw [← hb]; exact goSlice_mid [_, _, _, _] spi d _ _ rfl rfl
  have hd : List.drop (4 + spi.length) b = d := by
    rw [← hb]; exact drop_prefix_eq ([_, _, _, _] ++ spi) d _ (by rw [List.length_append])
  unfold unmarshalNotify
  rw [if_neg (by omega), if_neg (by omega), g1, Res.bind_ok, hsz, if_neg (by omega), g0, Res.bind_ok, g2, Res.bind_ok,
    gspi, Res.bind_ok, goFrom_ok (by omega), hd, Res.bind_ok]

theorem deleteSPIs_flatten (spis : List UInt32) : deleteSPIs spis.length (spis.map put32).flatten = .ok spis := by
  induction spis with
  | nil => rfl
  | cons v rest ih =>
    simp only [List.map_cons, List.flatten_cons, List.length_cons, put32, List.cons_append, List.nil_append,
      deleteSPIs, ih, be32_put]

/-- Delete: no SPI at all (the SPI size octet is then arbitrary), or 4-octet SPIs -/
theorem rt_delete (proto spiSize : UInt8) (num : UInt16) (spis : List UInt32) (bs : Bytes)
    (hdom : num.toNat = 0 ∨ spiSize = 4)
    (h : marshalDelete proto spiSize num spis = .ok bs) :
    unmarshalDelete bs = .ok (.delete proto spiSize num spis) := by
  have hn := marshalDelete_count proto spiSize num spis bs h
  have hb := deleteSPIs_flatten spis
  rw [hn] at hb
  have hl : ((spis.map put32).flatten).length = 4 * num.toNat := by
    rw [← hn, List.length_flatten, List.map_map]
    show ((spis.map fun _ => 4).sum) = _
    rw [List.map_const', List.sum_replicate_nat, Nat.mul_comm]
  rw [marshalDelete_ok proto spiSize num spis bs hdom h]
  have hsz : spiSize.toNat * num.toNat = 4 * num.toNat ∨ num.toNat = 0 := by
    rcases hdom with h0 | h4
    · exact Or.inr h0
    · rw [h4]; exact Or.inl rfl
  have hguard : (decide (num.toNat > 0) && spiSize != 4) = false := by
    rcases hdom with h0 | h4
    · rw [h0]; rfl
    · rw [h4]; exact Bool.and_false _
  generalize (spis.map put32).flatten = body at hb hl
  generalize hbb : [proto, spiSize] ++ put16 num ++ body = b
  simp only [put16, List.cons_append, List.nil_append] at hbb
  have hlb : b.length = body.length + 4 := by rw [← hbb]; rfl
  have g0 : goIndex b 0 = .ok proto := by rw [← hbb]; rfl
  have g1 : goIndex b 1 = .ok spiSize := by rw [← hbb]; rfl
  have g2 : goU16 b 2 = .ok num := by rw [← hbb]; exact congrArg Res.ok (be16_put num)
  have g4 : goFrom b 4 = .ok body := by rw [← hbb]; rfl
  unfold unmarshalDelete
  rw [if_neg (by omega), if_neg (by omega), g1, Res.bind_ok, g2, Res.bind_ok,
    if_neg (by rcases hsz with h | h <;> rw [h] <;> omega), hguard, g0, g4, if_neg (by decide), Res.bind_ok,
    Res.bind_ok, hb]
  rfl

theorem rt_CP (ct : UInt8) (attrs : List CPAttr) (bs : Bytes) (hne : attrs ≠ [])
    (ht : ∀ a ∈ attrs, a.atype.toNat < 32768) (h : marshalCP ct attrs = .ok bs) :
    unmarshalCP bs = .ok (.cp ct attrs) :=
  unmarshalCP_encode 0 0 0 [] ct attrs bs hne (by rw [encodeCP_canonical ct attrs ht]; exact h)

theorem rt_TS (mk : List TSel → Payload) (l : List TSel) (bs : Bytes) (h : marshalTS l = .ok bs) :
    unmarshalTS mk bs = .ok (mk l) :=
  unmarshalTS_encode mk 0 0 0 l bs (by rw [encodeTS_canonical]; exact h)

theorem parseTransform_marshal (t : Transform) (last : Bool) (h rest : Bytes) (hd : t.Dom)
    (hm : marshalTransform last t = .ok h) :
    parseTransform (h ++ rest) = .ok (t, h.length) ∧ 8 ≤ h.length :=
  parseTransform_encode {} t last h rest hd (by rw [encodeTransform_canonical t last hd]; exact hm)

theorem rt_SA (ps : List Proposal) (bs : Bytes) (hd : ∀ p ∈ ps, p.Dom)
    (hm : marshalSA ps = .ok bs) : unmarshalSA bs = .ok (.sa ps) := by
  have hadm : Spec.PropsAdmissible [] ps := by cases ps <;> trivial
  unfold unmarshalSA
  rw [unmarshalProposals_encode [] ps bs hd hadm (by rw [encodeProposals_canonical ps hd]; exact hm)]
  rfl

theorem rt_header (h : Header) (bs : Bytes) (hmaj : h.major.toNat < 16) (hmin : h.minor.toNat < 16)
    (hm : marshalHeader h = .ok bs) : parseHeader bs = .ok h := by
  unfold marshalHeader at hm
  have e : Facts.ikeHeaderLen = 28 := rfl
  rw [e] at hm
  dsimp only at hm
  by_cases htot : 28 + h.payloadBytes.length > 0xFFFFFFFF
  · rw [if_pos htot] at hm; cases hm
  rw [if_neg htot] at hm
  cases hm
  obtain ⟨v1, v2⟩ := version_octet_rt h.major h.minor hmaj hmin
  rw [parseHeader_frame _ _ _ _ _ _ _ _ _ (by rw [toNat_ofNat_u32 _ (by omega)]; omega), v1, v2]

/-- `IKEMessage.Decode` on what `IKEHeader.Marshal` wrote: the header comes back, the chain is decoded -/
theorem decodeMsg_marshalHeader (h : Header) (bs : Bytes) (hmaj : h.major.toNat < 16) (hmin : h.minor.toNat < 16)
    (hm : marshalHeader h = .ok bs) :
    decodeMsg bs = (do let ps ← decodeChain h.next h.payloadBytes; .ok ⟨h, ps⟩) := by
  unfold decodeMsg
  rw [rt_header h bs hmaj hmin hm]
  rfl

/-- the payload decodes back from its own body, whatever the generic header's next field -/
def PayloadRT (p : Payload) : Prop :=
  ∀ bs nx, marshalPayload p = .ok bs → unmarshalPayload p.typeCode nx bs = .ok p

def Payload.isSK : Payload → Bool
  | .sk _ _ => true
  | _ => false

theorem knownType_typeCode (p : Payload) : knownType p.typeCode = true := by
  cases p <;> (simp only [Payload.typeCode]; decide)

theorem typeCode_beq_sk (p : Payload) : (p.typeCode == Facts.typeSK) = p.isSK := by
  cases p <;> rfl

theorem typeCode_ne_sk (p : Payload) (h : p.isSK = false) : (p.typeCode == Facts.typeSK) = false :=
  (typeCode_beq_sk p).trans h

theorem typeCode_sk (p : Payload) (h : p.isSK = true) : (p.typeCode == Facts.typeSK) = true :=
  (typeCode_beq_sk p).trans h

/-- an Encrypted payload may only be the last element -/
def SKLast : List Payload → Prop
  | [] => True
  | [_] => True
  | p :: q :: rest => p.isSK = false ∧ SKLast (q :: rest)

/-- chain round trip where every non-Encrypted payload round-trips and an Encrypted
payload, if any, is the last one: its own next-payload octet is written and read back -/
theorem rt_chain_sk (ps : List Payload) (bs : Bytes)
    (hrt : ∀ p ∈ ps, p.isSK = false → PayloadRT p) (hlast : SKLast ps)
    (h : encodeChain ps = .ok bs) : decodeChain (firstType ps) bs = .ok ps := by
  induction ps generalizing bs with
  | nil => cases h; unfold decodeChain; rfl
  | cons p rest ih =>
    obtain ⟨data, hm, h⟩ := Res.bind_eq_ok h
    by_cases hlen : 4 + data.length > 0xFFFF
    · rw [if_pos hlen] at h; cases h
    rw [if_neg hlen] at h
    obtain ⟨tl, hr, h⟩ := Res.bind_eq_ok h
    cases h
    show decodeChain p.typeCode _ = _
    rw [decodeChain_frame _ _ _ _ _ (by omega), if_pos (knownType_typeCode p)]
    cases hs : p.isSK with
    | false =>
      -- the next field names the payload that follows
      have hnext : nextField p rest = firstType rest := by
        cases rest with
        | cons q _ => rfl
        | nil => cases p <;> first | rfl | (simp [Payload.isSK] at hs)
      have hlast' : SKLast rest := by
        cases rest with
        | nil => trivial
        | cons q r => exact hlast.2
      rw [typeCode_ne_sk p hs, hnext, hrt p (by simp) hs data _ hm,
        ih tl (fun x hx => hrt x (by simp [hx])) hlast' hr]
      rfl
    | true =>
      -- an Encrypted payload closes the chain and carries its own next field
      have hrest : rest = [] := by
        cases rest with
        | nil => rfl
        | cons q r => rw [hlast.1] at hs; cases hs
      subst hrest
      cases hr
      cases p with
      | sk n d =>
        simp only [marshalPayload, marshalSK] at hm
        by_cases hd : d.length = 0
        · rw [if_pos hd] at hm; cases hm
        rw [if_neg hd] at hm
        cases hm
        unfold decodeChain
        rfl
      | _ => simp [Payload.isSK] at hs

theorem SKLast_of_none (ps : List Payload) (h : ∀ p ∈ ps, p.isSK = false) : SKLast ps := by
  induction ps with
  | nil => trivial
  | cons p rest ih =>
    cases rest with
    | nil => trivial
    | cons q r => exact ⟨h p (by simp), ih (fun x hx => h x (by simp [hx]))⟩

theorem rt_chain (ps : List Payload) (bs : Bytes)
    (hrt : ∀ p ∈ ps, PayloadRT p ∧ p.isSK = false)
    (h : encodeChain ps = .ok bs) : decodeChain (firstType ps) bs = .ok ps :=
  rt_chain_sk ps bs (fun p hp _ => (hrt p hp).1) (SKLast_of_none ps (fun p hp => (hrt p hp).2)) h

theorem rt_msg_sk (m : Msg) (bs : Bytes) (h' : Header)
    (hmaj : m.hdr.major.toNat < 16) (hmin : m.hdr.minor.toNat < 16)
    (hrt : ∀ p ∈ m.payloads, p.isSK = false → PayloadRT p) (hlast : SKLast m.payloads)
    (h : encodeMsg m = .ok (bs, h')) :
    decodeMsg bs = .ok ⟨h', m.payloads⟩ ∧
      h'.ispi = m.hdr.ispi ∧ h'.rspi = m.hdr.rspi ∧ h'.major = m.hdr.major ∧
      h'.minor = m.hdr.minor ∧ h'.exch = m.hdr.exch ∧ h'.flags = m.hdr.flags ∧
      h'.mid = m.hdr.mid := by
  unfold encodeMsg at h
  obtain ⟨pb, hc, h⟩ := Res.bind_eq_ok h
  obtain ⟨out, hm, h⟩ := Res.bind_eq_ok h
  cases h
  refine ⟨?_, rfl, rfl, rfl, rfl, rfl, rfl, rfl⟩
  rw [decodeMsg_marshalHeader { m.hdr with next := firstType m.payloads, payloadBytes := pb } bs hmaj hmin hm]
  show (do let ps ← decodeChain (firstType m.payloads) pb; Res.ok (⟨_, ps⟩ : Msg)) = _
  rw [rt_chain_sk m.payloads pb hrt hlast hc]
  rfl

end Ike
