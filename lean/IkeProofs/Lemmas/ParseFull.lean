import IkeProofs.Lemmas.Parse
import IkeProofs.Lemmas.EapParse
import IkeModel.Spec.ParseFull

/-! The fully independent parser `Spec.parseFull`.  IkeModel/Spec/ParseFull.lean repeats the EAP-free
definitions of IkeModel/Spec/Parse.lean in the namespace `Spec.Full` (it may not import that file,
which imports the model of the library's EAP codec) and takes as a parameter the EAP step: the
function that reads the body of an EAP payload.  Two steps are in sight: the trusted step
`Spec.parseEAP`, which goes through the library model's `unmarshalEap` / `marshalEap` and gives
`Spec.parse`, and the independent step `Spec.parseEapPayload` (RFC 3748 / 4187 / 5448 from the
figures), which gives `Spec.parseFull`.  The copies are equal to the originals, and the parser
depends on the step under payload type 48 (EAP) only, so a result transfers between steps that agree
on its EAP payloads: the lemmas of Lemmas/Parse.lean are reused instead of being proved twice. -/

namespace Ike.ParseFullLemmas
open Spec ParseLemmas

theorem parseAttr_eq : @Full.parseAttr = @parseAttr := rfl
theorem ofType_eq : @Full.ofType = @ofType := rfl
theorem parseKE_eq : @Full.parseKE = @parseKE := rfl
theorem parseTypeRes3_eq : @Full.parseTypeRes3 = @parseTypeRes3 := rfl
theorem parseCert_eq : @Full.parseCert = @parseCert := rfl
theorem parseNotify_eq : @Full.parseNotify = @parseNotify := rfl

theorem read32s_eq (b : Bytes) : Full.read32s b = read32s b := by
  fun_induction read32s b with
  | case1 a b c d rest ih => rw [Full.read32s, ih]
  | case2 x h => rw [Full.read32s]; exact h

theorem parseDelete_eq (b : Bytes) : Full.parseDelete b = parseDelete b := by
  unfold Full.parseDelete parseDelete
  split
  · simp only [read32s_eq]
  · rename_i h
    split
    · exact absurd rfl (h _ _ _ _ _)
    · rfl

theorem parseTransforms_eq (fuel : Nat) (b : Bytes) : Full.parseTransforms fuel b = parseTransforms fuel b := by
  induction fuel generalizing b with
  | zero => rfl
  | succ f ih =>
    unfold Full.parseTransforms parseTransforms
    split
    · rfl
    · simp only [ih, parseAttr_eq]; rfl
    · rename_i h1 h2
      split
      · exact absurd rfl h1
      · exact absurd rfl (h2 _ _ _ _ _ _ _ _ _)
      · rfl

theorem parseProposals_eq (fuel : Nat) (b : Bytes) : Full.parseProposals fuel b = parseProposals fuel b := by
  induction fuel generalizing b with
  | zero => rfl
  | succ f ih =>
    unfold Full.parseProposals parseProposals
    split
    · rfl
    · simp only [ih, parseTransforms_eq, ofType_eq]; rfl
    · rename_i h1 h2
      split
      · exact absurd rfl h1
      · exact absurd rfl (h2 _ _ _ _ _ _ _ _ _)
      · rfl

theorem parseSelectors_eq (fuel : Nat) (b : Bytes) : Full.parseSelectors fuel b = parseSelectors fuel b := by
  induction fuel generalizing b with
  | zero => rfl
  | succ f ih =>
    unfold Full.parseSelectors parseSelectors
    split
    · rfl
    · simp only [ih]; rfl
    · rename_i h1 h2
      split
      · exact absurd rfl h1
      · exact absurd rfl (h2 _ _ _ _ _ _ _ _ _)
      · rfl

theorem parseTS_eq (mk : List TSel → Payload) (b : Bytes) : Full.parseTS mk b = parseTS mk b := by
  unfold Full.parseTS parseTS
  split
  · simp only [parseSelectors_eq]; rfl
  · rename_i h
    split
    · exact absurd rfl (h _ _ _ _ _)
    · rfl

theorem parseCPAttrs_eq (fuel : Nat) (b : Bytes) : Full.parseCPAttrs fuel b = parseCPAttrs fuel b := by
  induction fuel generalizing b with
  | zero => rfl
  | succ f ih =>
    unfold Full.parseCPAttrs parseCPAttrs
    split
    · rfl
    · simp only [ih]; rfl
    · rename_i h1 h2
      split
      · exact absurd rfl h1
      · exact absurd rfl (h2 _ _ _ _ _)
      · rfl

theorem parseCP_eq (b : Bytes) : Full.parseCP b = parseCP b := by
  unfold Full.parseCP parseCP
  split
  · simp only [parseCPAttrs_eq]; rfl
  · rename_i h
    split
    · exact absurd rfl (h _ _ _ _ _)
    · rfl

theorem parseBody_eq_with (t : UInt8) (b : Bytes) : parseBody t b = Full.parseBodyWith parseEAP t b := by
  unfold Full.parseBodyWith parseBody
  simp only [parseProposals_eq, parseKE_eq, parseTypeRes3_eq, parseCert_eq, parseNotify_eq, parseDelete_eq,
    parseTS_eq, parseCP_eq]

theorem parseChain_eq_with (fuel : Nat) (t : UInt8) (b : Bytes) :
    parseChain fuel t b = Full.parseChainWith parseEAP fuel t b := by
  induction fuel generalizing t b with
  | zero => rfl
  | succ f ih =>
    unfold Full.parseChainWith parseChain
    by_cases ht : t = 0
    · rw [if_pos ht, if_pos ht]
    · rw [if_neg ht, if_neg ht]
      split
      · simp only [ih, parseBody_eq_with]; rfl
      · rename_i h
        split
        · exact absurd rfl (h _ _ _ _ _)
        · rfl

theorem parse_eq_parseWith : Spec.parse = Full.parseWith Spec.parseEAP := by
  funext b
  unfold Full.parseWith Spec.parse
  simp only [parseChain_eq_with]
  rfl

theorem parseBodyWith_48 (s : Bytes → Option Payload) (b : Bytes) : Full.parseBodyWith s 48 b = s b := rfl

theorem parseBodyWith_ne48 (s s' : Bytes → Option Payload) (t : UInt8) (b : Bytes) (h : t ≠ 48) :
    Full.parseBodyWith s t b = Full.parseBodyWith s' t b := by
  unfold Full.parseBodyWith
  rw [if_neg h, if_neg h]

/-- a result moves from step `s1` to step `s2` when `s2` reads what `s1` read — required only for
results with the property `Q` -/
theorem parseBodyWith_transfer (s1 s2 : Bytes → Option Payload) (Q : Payload → Prop)
    (hs : ∀ b p, s1 b = some p → Q p → s2 b = some p)
    (t : UInt8) (b : Bytes) (p : Payload) (h : Full.parseBodyWith s1 t b = some p) (hq : Q p) :
    Full.parseBodyWith s2 t b = some p := by
  by_cases ht : t = 48
  · subst ht
    rw [parseBodyWith_48] at h ⊢
    exact hs b p h hq
  · rw [parseBodyWith_ne48 s2 s1 t b ht]; exact h

theorem parseChainWith_transfer (s1 s2 : Bytes → Option Payload) (Q : Payload → Prop)
    (hs : ∀ b p, s1 b = some p → Q p → s2 b = some p)
    (fuel : Nat) (t : UInt8) (b : Bytes) (ps : List Payload)
    (h : Full.parseChainWith s1 fuel t b = some ps) (hq : ∀ p ∈ ps, Q p) :
    Full.parseChainWith s2 fuel t b = some ps := by
  induction fuel generalizing t b ps with
  | zero => simp [Full.parseChainWith] at h
  | succ f ih =>
    unfold Full.parseChainWith at h ⊢
    by_cases ht : t = 0
    · rw [if_pos ht] at h ⊢; exact h
    · rw [if_neg ht] at h ⊢
      split at h
      · rename_i nx fl l0 l1 rest
        dsimp only at h ⊢
        peel h with hfl
        peel h with hlen
        rw [if_neg hfl, if_neg hlen]
        split at h
        · rename_i p ps' hpb hpc
          simp only [Option.some.injEq] at h
          subst h
          rw [parseBodyWith_transfer s1 s2 Q hs _ _ _ hpb (hq p (by simp)),
            ih _ _ _ hpc (fun q hq' => hq q (by simp [hq']))]
        · simp at h
      · simp at h

theorem parseWith_transfer (s1 s2 : Bytes → Option Payload) (Q : Payload → Prop)
    (hs : ∀ b p, s1 b = some p → Q p → s2 b = some p)
    (bs : Bytes) (m : Msg) (h : Full.parseWith s1 bs = some m) (hq : ∀ p ∈ m.payloads, Q p) :
    Full.parseWith s2 bs = some m := by
  unfold Full.parseWith at h ⊢
  peel h with h28
  peel h with hlen
  rw [if_neg h28, if_neg hlen]
  split at h
  · simp at h
  · rename_i ps hpc
    simp only [Option.some.injEq] at h
    subst h
    rw [parseChainWith_transfer s1 s2 Q hs _ _ _ _ hpc hq]

/-- an EAP payload in a result was produced by the step `s` -/
theorem parseBodyWith_eap_from_step (s : Bytes → Option Payload) (t : UInt8) (b : Bytes) (e : Eap)
    (h : Full.parseBodyWith s t b = some (.eap e)) : s b = some (.eap e) := by
  by_cases ht : t = 48
  · subst ht; rw [parseBodyWith_48] at h; exact h
  · rw [parseBodyWith_ne48 s parseEAP t b ht, ← parseBody_eq_with] at h
    exact absurd (encodeBody_parse t b _ h).2.symm ht

theorem parseChainWith_eap_from_step (s : Bytes → Option Payload) (fuel : Nat) (t : UInt8) (b : Bytes)
    (ps : List Payload) (h : Full.parseChainWith s fuel t b = some ps) (e : Eap) (he : .eap e ∈ ps) :
    ∃ b', s b' = some (.eap e) := by
  induction fuel generalizing t b ps with
  | zero => simp [Full.parseChainWith] at h
  | succ f ih =>
    unfold Full.parseChainWith at h
    by_cases ht : t = 0
    · rw [if_pos ht] at h
      by_cases hb : b = []
      · rw [if_pos hb] at h
        simp only [Option.some.injEq] at h
        subst h
        simp at he
      · rw [if_neg hb] at h; simp at h
    · rw [if_neg ht] at h
      split at h
      · rename_i nx fl l0 l1 rest
        dsimp only at h
        peel h with hfl
        peel h with hlen
        split at h
        · rename_i p ps' hpb hpc
          simp only [Option.some.injEq] at h
          subst h
          rcases List.mem_cons.mp he with he' | he'
          · subst he'
            exact ⟨_, parseBodyWith_eap_from_step s _ _ e hpb⟩
          · exact ih _ _ _ hpc he'
        · simp at h
      · simp at h

theorem parseWith_eap_from_step (s : Bytes → Option Payload) (bs : Bytes) (m : Msg)
    (h : Full.parseWith s bs = some m) (e : Eap) (he : .eap e ∈ m.payloads) :
    ∃ b', s b' = some (.eap e) := by
  unfold Full.parseWith at h
  peel h with h28
  peel h with hlen
  split at h
  · simp at h
  · rename_i ps hpc
    simp only [Option.some.injEq] at h
    subst h
    exact parseChainWith_eap_from_step s _ _ _ _ hpc e he

/-- whatever `Spec.parseFull` accepts, `Spec.parse` accepts with the same result -/
theorem parse_of_parseFull (bs : Bytes) (m : Msg) (h : Spec.parseFull bs = some m) : Spec.parse bs = some m := by
  rw [parse_eq_parseWith]
  exact parseWith_transfer parseEapPayload parseEAP (fun _ => True) (fun b p hp _ => eapStep_refines b p hp)
    bs m h (fun _ _ => trivial)

/-- … and conversely when every EAP packet of the result lies in `DomEap` -/
theorem parseFull_of_parse (bs : Bytes) (m : Msg) (h : Spec.parse bs = some m)
    (hd : ∀ e, .eap e ∈ m.payloads → DomEap e) : Spec.parseFull bs = some m := by
  rw [parse_eq_parseWith] at h
  exact parseWith_transfer parseEAP parseEapPayload (fun p => ∀ e, p = .eap e → DomEap e) eapStep_dom bs m h
    (fun p hp e he => hd e (he ▸ hp))

/-- the independent step returns packets of `DomEap` only -/
theorem parseFull_eap_dom (bs : Bytes) (m : Msg) (h : Spec.parseFull bs = some m) (e : Eap)
    (he : .eap e ∈ m.payloads) : DomEap e := by
  obtain ⟨b', hb⟩ := parseWith_eap_from_step parseEapPayload bs m h e he
  obtain ⟨e', hp, he'⟩ := parseEapPayload_some hb
  cases he'
  exact (parseEap_sound hp).1

end Ike.ParseFullLemmas
