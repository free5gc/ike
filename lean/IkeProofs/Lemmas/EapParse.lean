import IkeProofs.Lemmas.Parse
import IkeModel.Spec.EapParse

/-! The strict EAP parser `Spec.parseEap` against the library's codec: whatever it accepts is the
encoder's output for a value of `DomEap` (soundness, figure by figure), and it reads every such output
back (completeness); `Spec.akaAttrOf` ties the value to the input of `Spec.encodeEapAka`.

The parser is written with the RFCs' numbers (1, 2, 11, 3, 23, 24, 134; 50, 254), the model with `Facts.*`:
the same numerals, so a `show … from` between the two spellings is only a respelling.  `peel h with c`
(Lemmas/Parse.lean, the reason for that import) takes one guard `if c then none else …` off `h : … = some _`. -/

namespace Ike
open Spec ParseLemmas

/-- RFC 4187 §10.6, §10.7, §10.15 -/
theorem parseAtFixed16_sound {t w : UInt8} {body : Bytes} {x : AkaAttr}
    (ht : t = Facts.atRand ∨ t = Facts.atAutn ∨ t = Facts.atMac) (h : parseAtFixed16 t w body = some x) :
    AkaAttrBuilt x ∧ marshalAkaAttr x = t :: w :: body := by
  match body, h with
  | r0 :: r1 :: v, h =>
    simp only [parseAtFixed16] at h
    peel h with hc
    simp only [not_or, Decidable.not_not] at hc
    obtain ⟨rfl, rfl, rfl, hv⟩ := hc
    cases h
    exact ⟨(akaAttrBuilt_iff _).mpr (Or.inl ⟨t, v, ht, hv, rfl⟩),
      by rw [marshalAkaAttr_cons, (parse_marshal_fixed16 t v ht hv).1]; rfl⟩
  | [], h => nomatch h
  | [_], h => nomatch h

/-- RFC 4187 §10.8, RFC 5448 §3.1; both callers pass the unit 8 (bits per octet, `Spec.kdfInputLenUnit`) -/
theorem parseAtPadded_sound {t w : UInt8} {lo hi : Nat} {body : Bytes} {x : AkaAttr}
    (ht : t = Facts.atRes ∨ t = Facts.atKdfInput) (hres : t = Facts.atRes → 4 ≤ lo ∧ hi ≤ 16) (hhi : hi ≤ 1016)
    (h : parseAtPadded t w 8 lo hi body = some x) :
    AkaAttrBuilt x ∧ marshalAkaAttr x = t :: w :: body := by
  match body, h with
  | l0 :: l1 :: rest, h =>
    simp only [parseAtPadded] at h
    peel h with c1
    peel h with c2
    peel h with c3
    peel h with c4
    peel h with c5
    cases h
    simp only [Decidable.not_not] at c1 c3 c4 c5
    have hbits : (be16 l0 l1).toNat = (l0.toNat * 256 + l1.toNat) / 8 * 8 := by rw [be16_toNat]; omega
    generalize (l0.toNat * 256 + l1.toNat) / 8 = n at c2 c3 c4 c5 hbits ⊢
    -- the word count `w = ⌈(n + 4) / 4⌉` in linear form
    obtain ⟨hn, h1, h2⟩ : n ≤ rest.length ∧ n + 4 ≤ 4 * w.toNat ∧ 4 * w.toNat < n + 8 := by omega
    have hvl : (rest.take n).length = n := by rw [List.length_take]; exact Nat.min_eq_left hn
    have hrest : rest.take n ++ zeros (4 * w.toNat - 4 - (rest.take n).length) = rest := by
      rw [hvl, ← c4, ← c5, List.take_append_drop]
    rw [← hvl] at h1 h2 hbits
    generalize rest.take n = v at hvl hrest h1 h2 hbits
    have hn' : lo ≤ v.length ∧ v.length ≤ hi := by
      rw [hvl]; exact ⟨Nat.le_of_not_lt (not_or.mp c2).1, Nat.le_of_not_lt (not_or.mp c2).2⟩
    refine ⟨(akaAttrBuilt_iff _).mpr (Or.inr (Or.inl ⟨t, w, be16 l0 l1, v, ht,
      fun h => ⟨Nat.le_trans (hres h).1 hn'.1, Nat.le_trans hn'.2 (hres h).2⟩, Nat.le_trans hn'.2 hhi, h1, h2, hbits,
      rfl⟩)), ?_⟩
    rw [marshalAkaAttr_cons, (parse_marshal_padded_exact t w (be16 l0 l1) v ht hbits h1).1, put16_be16,
      List.append_assoc, hrest]
    rfl
  | [], h => nomatch h
  | [_], h => nomatch h

/-- RFC 5448 §3.2 -/
theorem parseAtKdf_sound {w : UInt8} {body : Bytes} {x : AkaAttr}
    (h : parseAtKdf Facts.atKdf w body = some x) :
    AkaAttrBuilt x ∧ marshalAkaAttr x = Facts.atKdf :: w :: body := by
  match body, h with
  | [k0, k1], h =>
    simp only [parseAtKdf] at h
    peel h with hc
    cases Decidable.not_not.mp hc
    cases h
    exact ⟨(akaAttrBuilt_iff _).mpr (Or.inr (Or.inr (Or.inl ⟨_, rfl, rfl⟩))),
      by rw [marshalAkaAttr_cons, (parse_marshal_kdf 1 [k0, k1] (show [k0, k1].length = 2 from rfl)).1]⟩
  | [], h => nomatch h
  | [_], h => nomatch h
  | _ :: _ :: _ :: _, h => nomatch h

/-- RFC 4187 §10.13 -/
theorem parseAtCheckcode_sound {w : UInt8} {body : Bytes} {x : AkaAttr} (hw : w ≠ 0)
    (h : parseAtCheckcode Facts.atCheckcode w body = some x) :
    AkaAttrBuilt x ∧ marshalAkaAttr x = Facts.atCheckcode :: w :: body := by
  match body, h with
  | r0 :: r1 :: v, h =>
    simp only [parseAtCheckcode] at h
    peel h with hc
    simp only [not_or, Decidable.not_not] at hc
    obtain ⟨rfl, rfl, hv⟩ := hc
    cases h
    have hwlt := w.toNat_lt
    have hw1 : w.toNat ≠ 0 := fun h0 => hw (UInt8.toNat_inj.mp h0)
    obtain ⟨hlen, hv'⟩ : 4 * w.toNat = 4 + v.length ∧ v.length ≤ 1016 := by omega
    exact ⟨(akaAttrBuilt_iff _).mpr (Or.inr (Or.inr (Or.inr ⟨w, v, hv', hlen, rfl⟩))),
      by rw [marshalAkaAttr_cons, (parse_marshal_checkcode w v hlen).1]; rfl⟩
  | [], h => nomatch h
  | [_], h => nomatch h

theorem parseAkaAttr_sound {t w : UInt8} {body : Bytes} {x : AkaAttr} (hw : w ≠ 0)
    (h : parseAkaAttr t w body = some x) :
    AkaAttrBuilt x ∧ marshalAkaAttr x = t :: w :: body := by
  unfold parseAkaAttr at h
  by_cases c1 : t = 1 ∨ t = 2 ∨ t = 11
  · rw [if_pos c1] at h; exact parseAtFixed16_sound c1 h
  rw [if_neg c1] at h
  by_cases c2 : t = 3
  · rw [if_pos c2] at h
    exact parseAtPadded_sound (Or.inl c2) (fun _ => ⟨Nat.le_refl _, Nat.le_refl _⟩) (by decide) h
  rw [if_neg c2] at h
  by_cases c3 : t = 23
  · rw [if_pos c3] at h
    exact parseAtPadded_sound (Or.inr c3) (fun h3 => absurd h3 c2) (Nat.le_refl _) h
  rw [if_neg c3] at h
  by_cases c4 : t = 24
  · rw [if_pos c4] at h; subst c4; exact parseAtKdf_sound h
  rw [if_neg c4] at h
  by_cases c5 : t = 134
  · rw [if_pos c5] at h; subst c5; exact parseAtCheckcode_sound hw h
  rw [if_neg c5] at h
  nomatch h

theorem parseAkaAttrs_sound (fuel lo : Nat) (b : Bytes) (l : List AkaAttr)
    (h : parseAkaAttrs fuel lo b = some l) :
    AkaSorted l ∧ (∀ x ∈ l, lo ≤ x.atype.toNat) ∧ (∀ x ∈ l, AkaAttrBuilt x) ∧ marshalAkaAttrs l = b := by
  induction fuel generalizing lo b l with
  | zero => nomatch h
  | succ fuel ih =>
    match b, h with
    | [], h => cases h; exact ⟨List.Pairwise.nil, nofun, nofun, rfl⟩
    | [_], h => nomatch h
    | t :: w :: rest, h =>
      simp only [parseAkaAttrs] at h
      peel h with c1
      peel h with c2
      cases ha : parseAkaAttr t w (rest.take (4 * w.toNat - 2)) with
      | none => rw [ha] at h; nomatch h
      | some a =>
        cases hs : parseAkaAttrs fuel (t.toNat + 1) (rest.drop (4 * w.toNat - 2)) with
        | none => rw [ha, hs] at h; nomatch h
        | some as =>
          rw [ha, hs] at h
          cases h
          obtain ⟨hb, hm⟩ := parseAkaAttr_sound (not_or.mp c1).1 ha
          obtain ⟨is, ilo, ib, im⟩ := ih _ _ _ hs
          have hat : a.atype = t := by rw [marshalAkaAttr_cons] at hm; exact (List.cons.inj hm).1
          refine ⟨List.pairwise_cons.mpr ⟨fun y hy => ?_, is⟩, fun y hy => ?_, fun y hy => ?_, ?_⟩
          · have := ilo y hy
            rw [UInt8.lt_iff_toNat_lt, hat]; omega
          · rcases List.mem_cons.mp hy with rfl | hy
            · rw [hat]; omega
            · have := ilo y hy; omega
          · rcases List.mem_cons.mp hy with rfl | hy
            · exact hb
            · exact ib y hy
          · rw [marshalAkaAttrs, hm, im, List.cons_append, List.cons_append, List.take_append_drop]

theorem parseAka_sound {d : Bytes} {x : EapData} (h : parseAka d = some x) :
    DomEapData x ∧ marshalEapData x = .ok (Facts.eapTypeAkaPrime :: d) := by
  match d, h with
  | st :: r0 :: r1 :: attrs, h =>
    simp only [parseAka] at h
    peel h with c
    simp only [not_or, Decidable.not_not] at c
    obtain ⟨rfl, rfl⟩ := c
    cases hs : parseAkaAttrs (attrs.length + 1) 0 attrs with
    | none => rw [hs] at h; nomatch h
    | some as =>
      rw [hs] at h
      cases h
      obtain ⟨is, _, ib, im⟩ := parseAkaAttrs_sound _ _ _ _ hs
      exact ⟨⟨rfl, is, ib⟩, by rw [marshalEapData, marshalAka, im]; dsimp only; rfl⟩
  | [], h => nomatch h
  | [_], h => nomatch h
  | [_, _], h => nomatch h

theorem parseExpanded_sound {d : Bytes} {x : EapData} (h : parseExpanded d = some x) :
    DomEapData x ∧ marshalEapData x = .ok (Facts.eapTypeExpanded :: d) := by
  match d, h with
  | v0 :: v1 :: v2 :: t0 :: t1 :: t2 :: t3 :: d, h =>
    cases h
    have h0 := v0.toNat_lt
    have h1 := v1.toNat_lt
    have h2 := v2.toNat_lt
    have hvid : (UInt32.ofNat ((v0.toNat * 256 + v1.toNat) * 256 + v2.toNat)).toNat
        = (v0.toNat * 256 + v1.toNat) * 256 + v2.toNat := toNat_ofNat_u32 _ (by omega)
    have hlt : (UInt32.ofNat ((v0.toNat * 256 + v1.toNat) * 256 + v2.toNat)).toNat < 16777216 := by omega
    refine ⟨hlt, ?_⟩
    -- the three octets of `(v0·256 + v1)·256 + v2`, one division by 256 at a time
    obtain ⟨d2, e2⟩ := mul_add_divmod (v0.toNat * 256 + v1.toNat) v2.toNat 256 h2
    obtain ⟨d1, m1⟩ := mul_add_divmod v0.toNat v1.toNat 256 h1
    have e0 : ((v0.toNat * 256 + v1.toNat) * 256 + v2.toNat) / 65536 = v0.toNat := by
      rw [show 65536 = 256 * 256 from rfl, ← Nat.div_div_eq_div_mul, d2, d1]
    have e1 : ((v0.toNat * 256 + v1.toNat) * 256 + v2.toNat) / 256 % 256 = v1.toNat := by rw [d2, m1]
    rw [marshalEapData, put32_expanded_word _ hlt, hvid, e0, e1, e2, put32_be32, UInt8.ofNat_toNat, UInt8.ofNat_toNat,
      UInt8.ofNat_toNat]
    rfl
  | [], h => nomatch h
  | [_], h => nomatch h
  | [_, _], h => nomatch h
  | [_, _, _], h => nomatch h
  | [_, _, _, _], h => nomatch h
  | [_, _, _, _, _], h => nomatch h
  | [_, _, _, _, _, _], h => nomatch h

theorem parseNonEmpty_sound {mk : Bytes → EapData} {d : Bytes} {x : EapData}
    (h : parseNonEmpty mk d = some x) : 1 ≤ d.length ∧ x = mk d := by
  rw [parseNonEmpty] at h
  peel h with hne
  exact ⟨List.length_pos_iff.mpr hne, (Option.some.inj h).symm⟩

theorem parseTypeData_sound {ty : UInt8} {d : Bytes} {x : EapData} (h : parseTypeData ty d = some x) :
    DomEapData x ∧ marshalEapData x = .ok (ty :: d) := by
  have simple : ∀ {mk : Bytes → EapData}, parseNonEmpty mk d = some x →
      (∀ v, marshalEapData (mk v) = if v.length = 0 then .err else .ok ([ty] ++ v)) →
      (∀ v, DomEapData (mk v) = (1 ≤ v.length)) → DomEapData x ∧ marshalEapData x = .ok (ty :: d) := by
    intro mk hp hm hdom
    obtain ⟨hl, rfl⟩ := parseNonEmpty_sound hp
    exact ⟨(hdom d).mpr hl, by rw [hm, if_neg (Nat.ne_of_gt hl)]; rfl⟩
  unfold parseTypeData at h
  by_cases c1 : ty = 1
  · rw [if_pos c1] at h; subst c1; exact simple h (fun _ => rfl) (fun _ => rfl)
  rw [if_neg c1] at h
  by_cases c2 : ty = 2
  · rw [if_pos c2] at h; subst c2; exact simple h (fun _ => rfl) (fun _ => rfl)
  rw [if_neg c2] at h
  by_cases c3 : ty = 3
  · rw [if_pos c3] at h; subst c3; exact simple h (fun _ => rfl) (fun _ => rfl)
  rw [if_neg c3] at h
  by_cases c4 : ty = 50
  · rw [if_pos c4] at h; subst c4; exact parseAka_sound h
  rw [if_neg c4] at h
  by_cases c5 : ty = 254
  · rw [if_pos c5] at h; subst c5; exact parseExpanded_sound h
  rw [if_neg c5] at h
  nomatch h

/-- **soundness of the strict parser**: an accepted packet is the library's encoding of a value of
the domain of property C14 -/
theorem parseEap_sound {bs : Bytes} {e : Eap} (h : parseEap bs = some e) :
    DomEap e ∧ marshalEap e = .ok bs := by
  match bs, h with
  | code :: ident :: l0 :: l1 :: rest, h =>
    simp only [parseEap] at h
    peel h with c0
    have c0 := Decidable.not_not.mp c0
    have hput : put16 (UInt16.ofNat (4 + rest.length)) = [l0, l1] := by rw [← c0]; exact put16_be16 l0 l1
    have h0 := l0.toNat_lt
    have h1 := l1.toNat_lt
    match rest, h with
    | [], h =>
      cases h
      exact ⟨⟨fun _ => rfl, trivial, show 4 + 0 ≤ 65535 by decide⟩,
        by rw [marshalEap, marshalEapData, Res.bind_ok, hput]; rfl⟩
    | ty :: d, h =>
      dsimp only at h
      peel h with cc
      cases hx : parseTypeData ty d with
      | none => rw [hx] at h; nomatch h
      | some x =>
        rw [hx] at h
        cases h
        obtain ⟨hd, hm⟩ := parseTypeData_sound hx
        have hsz := marshalEapData_size _ _ hm
        refine ⟨⟨fun hc => absurd hc cc, hd, by rw [← hsz]; rw [List.length_cons] at hsz c0 ⊢; omega⟩, ?_⟩
        rw [marshalEap, hm, Res.bind_ok, hput]
        rfl
  | [], h => nomatch h
  | [_], h => nomatch h
  | [_, _], h => nomatch h
  | [_, _, _], h => nomatch h

theorem parseAkaAttr_complete {x : AkaAttr} (hb : AkaAttrBuilt x) :
    parseAkaAttr x.atype x.length (akaBody x) = some x := by
  rcases (akaAttrBuilt_iff x).mp hb with ⟨t, v, ht, hv, rfl⟩ | ⟨t, len, bits, v, ht, hres, hv, h1, h2, hbits, rfl⟩ |
    ⟨v, hv, rfl⟩ | ⟨len, v, hv, hlen, rfl⟩
  · show parseAkaAttr t 5 _ = _
    rw [(parse_marshal_fixed16 t v ht hv).1, parseAkaAttr, if_pos (show t = 1 ∨ t = 2 ∨ t = 11 from ht)]
    show parseAtFixed16 t 5 (0 :: 0 :: v) = _
    rw [parseAtFixed16, if_neg (by simp [hv])]
  · show parseAkaAttr t len _ = _
    have key : ∀ lo hi, lo ≤ v.length → v.length ≤ hi →
        parseAtPadded t len 8 lo hi (put16 bits ++ v ++ zeros (4 * len.toNat - 4 - v.length)) = some ⟨t, len, bits, v⟩ := by
      intro lo hi hlo hhi
      have hf := (octets16_toNat _ (Nat.le_of_lt_succ bits.toNat_lt)).trans hbits
      have hbe := be16_put bits
      obtain ⟨a1, a2, a3, a4⟩ : v.length * 8 % 8 = 0 ∧ ¬ (v.length < lo ∨ hi < v.length) ∧
          len.toNat = (v.length + 7) / 4 ∧ v.length + (4 * len.toNat - 4 - v.length) = 4 * len.toNat - 4 := by omega
      simp only [put16, List.cons_append, List.nil_append, parseAtPadded]
      rw [hf, Nat.mul_div_cancel _ (by decide), if_neg (not_not_intro a1), if_neg a2, if_neg (not_not_intro a3),
        if_neg (by rw [List.length_append, zeros_length]; exact not_not_intro a4),
        if_neg (by rw [List.drop_left, List.length_append, zeros_length, Nat.add_sub_cancel_left]; exact not_not_intro rfl),
        hbe, List.take_left]
    rw [(parse_marshal_padded_exact t len bits v ht hbits h1).1, parseAkaAttr]
    rcases ht with rfl | rfl
    · rw [if_neg (by decide), if_pos (by decide)]
      exact key 4 16 (hres rfl).1 (hres rfl).2
    · rw [if_neg (by decide), if_neg (by decide), if_pos (by decide)]
      exact key 0 1016 (Nat.zero_le _) hv
  · show parseAkaAttr Facts.atKdf 1 _ = _
    rw [(parse_marshal_kdf 1 v hv).1, parseAkaAttr, if_neg (by decide), if_neg (by decide), if_neg (by decide),
      if_pos (by decide)]
    match v, hv with
    | [k0, k1], _ => rfl
  · show parseAkaAttr Facts.atCheckcode len _ = _
    rw [(parse_marshal_checkcode len v hlen).1, parseAkaAttr,
      if_neg (by decide), if_neg (by decide), if_neg (by decide), if_neg (by decide), if_pos (by decide)]
    show parseAtCheckcode Facts.atCheckcode len (0 :: 0 :: v) = _
    rw [parseAtCheckcode, if_neg (by simp; omega)]

theorem parseAkaAttrs_complete (l : List AkaAttr) (hs : AkaSorted l) (hb : ∀ x ∈ l, AkaAttrBuilt x)
    (lo : Nat) (hlo : ∀ x ∈ l, lo ≤ x.atype.toNat) (fuel : Nat) (hf : l.length < fuel) :
    parseAkaAttrs fuel lo (marshalAkaAttrs l) = some l := by
  induction l generalizing lo fuel with
  | nil =>
    cases fuel with
    | zero => nomatch hf
    | succ f => rfl
  | cons x rest ih =>
    cases fuel with
    | zero => nomatch hf
    | succ f =>
      obtain ⟨hx, hrest⟩ := List.pairwise_cons.mp hs
      have hbx := hb x (List.mem_cons_self ..)
      obtain ⟨hbl, hw1, _⟩ := akaAttrBuilt_wire hbx
      have hw0 : x.length ≠ 0 := fun h => by rw [h] at hw1; exact absurd hw1 (by decide)
      have ihr := ih hrest (fun y hy => hb y (List.mem_cons_of_mem x hy)) (x.atype.toNat + 1)
        (fun y hy => UInt8.lt_iff_toNat_lt.mp (hx y hy)) f (Nat.lt_of_succ_lt_succ hf)
      rw [marshalAkaAttrs, marshalAkaAttr_cons, List.cons_append, List.cons_append, parseAkaAttrs,
        if_neg (by rw [List.length_append]; exact not_or.mpr ⟨hw0, by omega⟩),
        if_neg (by have := hlo x (List.mem_cons_self ..); omega),
        show 4 * x.length.toNat - 2 = (akaBody x).length by omega, List.take_left, List.drop_left,
        parseAkaAttr_complete hbx, ihr]

theorem parseAka_complete (a : Aka) (hb : AkaBuilt a) (td : Bytes) (h : marshalAka a = .ok td) :
    ∃ d, td = Facts.eapTypeAkaPrime :: d ∧ parseAka d = some (.aka a) := by
  obtain ⟨st, rs, attrs⟩ := a
  obtain ⟨h0, hs, hall⟩ := hb
  dsimp only at h0 hs hall
  subst h0
  rw [marshalAka] at h
  dsimp only at h
  cases h
  refine ⟨st :: 0 :: 0 :: marshalAkaAttrs attrs, rfl, ?_⟩
  simp only [parseAka]
  rw [if_neg (by simp), parseAkaAttrs_complete attrs hs hall 0 (fun _ _ => Nat.zero_le _) _
    (by have := (marshalAkaAttrs_bound attrs hs hall).1; omega)]

theorem parseExpanded_complete (vid vt : UInt32) (d : Bytes) (hv : vid.toNat < 16777216) :
    ∃ r, put32 ((Facts.eapTypeExpanded.toUInt32 <<< 24) ||| (vid &&& 0x00ffffff)) ++ put32 vt ++ d =
      Facts.eapTypeExpanded :: r ∧
      parseExpanded r = some (.expanded vid vt d) := by
  refine ⟨[UInt8.ofNat (vid.toNat / 65536), UInt8.ofNat (vid.toNat / 256 % 256), UInt8.ofNat (vid.toNat % 256)] ++
    put32 vt ++ d, by rw [put32_expanded_word vid hv]; rfl, ?_⟩
  simp only [put32, List.cons_append, List.nil_append, parseExpanded, be32_put]
  have e : ((UInt8.ofNat (vid.toNat / 65536)).toNat * 256 + (UInt8.ofNat (vid.toNat / 256 % 256)).toNat) * 256 +
      (UInt8.ofNat (vid.toNat % 256)).toNat = vid.toNat := by
    rw [toNat_ofNat_u8 _ (by omega), toNat_ofNat_u8 _ (by omega), toNat_ofNat_u8 _ (by omega), digits24]
  rw [e, UInt32.ofNat_toNat]

theorem parseTypeData_complete (x : EapData) (hd : DomEapData x) (td : Bytes) (hne : x ≠ .none)
    (h : marshalEapData x = .ok td) : ∃ ty d, td = ty :: d ∧ parseTypeData ty d = some x := by
  cases x with
  | none => exact absurd rfl hne
  | identity v =>
    cases Res.ok.inj (Res.ite_err_eq_ok h).2
    exact ⟨1, v, rfl, by rw [parseTypeData, if_pos rfl, parseNonEmpty, if_neg (List.length_pos_iff.mp hd)]⟩
  | notification v =>
    cases Res.ok.inj (Res.ite_err_eq_ok h).2
    exact ⟨2, v, rfl, by
      rw [parseTypeData, if_neg (by decide), if_pos rfl, parseNonEmpty, if_neg (List.length_pos_iff.mp hd)]⟩
  | nak v =>
    cases Res.ok.inj (Res.ite_err_eq_ok h).2
    exact ⟨3, v, rfl, by
      rw [parseTypeData, if_neg (by decide), if_neg (by decide), if_pos rfl, parseNonEmpty,
        if_neg (List.length_pos_iff.mp hd)]⟩
  | expanded vid vt v =>
    cases h
    obtain ⟨r, hr, hp⟩ := parseExpanded_complete vid vt v hd
    exact ⟨254, r, hr, by
      rw [parseTypeData, if_neg (by decide), if_neg (by decide), if_neg (by decide), if_neg (by decide), if_pos rfl, hp]⟩
  | aka a =>
    obtain ⟨d, rfl, hp⟩ := parseAka_complete a hd td h
    exact ⟨50, d, rfl, by
      rw [parseTypeData, if_neg (by decide), if_neg (by decide), if_neg (by decide), if_pos rfl, hp]⟩

/-- **completeness of the strict parser**: it reads the library's encoding of every packet of the
domain of property C14 back to that packet -/
theorem parseEap_complete {e : Eap} {bs : Bytes} (hd : DomEap e) (h : marshalEap e = .ok bs) :
    parseEap bs = some e := by
  obtain ⟨td, hm, rfl⟩ := marshalEap_eq e bs h
  have hsize := marshalEapData_size _ _ hm
  obtain ⟨hcode, hdd, hsz⟩ := hd
  have hl : (UInt16.ofNat (4 + td.length)).toNat = 4 + td.length := toNat_ofNat_u16 _ (by omega)
  obtain ⟨code, ident, data⟩ := e
  generalize UInt16.ofNat (4 + td.length) = pl at hl
  have hf := (octets16_toNat _ (Nat.le_of_lt_succ pl.toNat_lt)).trans hl
  simp only [put16, List.cons_append, List.nil_append, parseEap]
  rw [if_neg (not_not_intro hf)]
  by_cases hnone : data = .none
  · cases hnone
    cases hm
    rfl
  · obtain ⟨ty, d, rfl, hp⟩ := parseTypeData_complete data hdd td hnone hm
    dsimp only
    rw [if_neg (show ¬ (code = 3 ∨ code = 4) from fun hc => hnone (hcode hc)), hp]

theorem akaMkAttr_eq_attrOf {t : UInt8} {v : Bytes} (h : AkaValOk t v) :
    akaMkAttr t v = .ok (akaAttrOf t v) := by
  rcases h with ⟨ht, hv⟩ | ⟨rfl, hv⟩ | ⟨rfl, _⟩ | ⟨rfl, hv⟩ | ⟨rfl, h4, _⟩
  · rw [akaMkAttr_fixed16 t v ht, if_pos hv, akaAttrOf, if_pos (show t = 1 ∨ t = 2 ∨ t = 11 from ht)]
  · rw [akaMkAttr_res, if_pos hv, Nat.mul_comm]; rfl
  · rw [akaMkAttr_kdfInput, Nat.mul_comm]; rfl
  · rw [akaMkAttr_kdf, if_pos hv]; rfl
  · rw [akaMkAttr_checkcode, show (4 + v.length) / 4 = (v.length + 7) / 4 by omega]; rfl

theorem akaAttrOf_built {t : UInt8} {v : Bytes} (h : AkaValOk t v) :
    AkaAttrBuilt (akaAttrOf t v) ∧ (akaAttrOf t v).atype = t ∧ (akaAttrOf t v).value = v :=
  have hm := akaMkAttr_eq_attrOf h
  ⟨akaAttrBuilt_of_mk h hm, akaMkAttr_ok_fields hm⟩

theorem akaAttrOf_list (st : UInt8) (attrs : List (UInt8 × Bytes))
    (hs : attrs.Pairwise (fun p q => p.1 < q.1)) (hv : ∀ p ∈ attrs, AkaValOk p.1 p.2) :
    AkaBuilt ⟨st, 0, attrs.map (fun p => akaAttrOf p.1 p.2)⟩ ∧
    (attrs.map (fun p => akaAttrOf p.1 p.2)).map (fun x => (x.atype, x.value)) = attrs := by
  refine ⟨⟨rfl, ?_, ?_⟩, ?_⟩
  · refine List.pairwise_map.mpr (List.Pairwise.imp_of_mem (fun {p q} hp hq hlt => ?_) hs)
    rw [(akaAttrOf_built (hv p hp)).2.1, (akaAttrOf_built (hv q hq)).2.1]
    exact hlt
  · intro x hx
    obtain ⟨p, hp, rfl⟩ := List.mem_map.mp hx
    exact (akaAttrOf_built (hv p hp)).1
  · rw [List.map_map]
    refine (List.map_congr_left fun p hp => ?_).trans (List.map_id _)
    have := akaAttrOf_built (hv p hp)
    simp only [Function.comp, id, this.2.1, this.2.2]

theorem parseEapPayload_some {b : Bytes} {p : Payload} (h : parseEapPayload b = some p) :
    ∃ e, parseEap b = some e ∧ p = .eap e := by
  obtain ⟨e, he, hp⟩ := Option.map_eq_some_iff.mp h
  exact ⟨e, he, hp.symm⟩

/-- the independent step `Spec.parseEapPayload` refines the trusted one `Spec.parseEAP` of `Spec/Parse.lean` -/
theorem eapStep_refines (b : Bytes) (p : Payload) (h : parseEapPayload b = some p) : parseEAP b = some p := by
  obtain ⟨e, hp, rfl⟩ := parseEapPayload_some h
  obtain ⟨hd, hm⟩ := parseEap_sound hp
  unfold parseEAP
  rw [rt_eap_payload e b hd hm]
  dsimp only
  rw [if_pos hm]

/-- the trusted step, on a result that is an EAP packet of the domain of C14, is the independent one -/
theorem eapStep_dom (b : Bytes) (p : Payload) (h : parseEAP b = some p) (hd : ∀ e, p = .eap e → DomEap e) :
    parseEapPayload b = some p := by
  obtain ⟨e, rfl, hm⟩ := encodeEAP_parse b p h
  unfold parseEapPayload
  rw [parseEap_complete (hd e rfl) hm]
  rfl

end Ike
