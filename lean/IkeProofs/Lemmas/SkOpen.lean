import IkeModel.Spec.SkOpen
import IkeProofs.Lemmas.Sk
import IkeProofs.Lemmas.Parse

/-! The independent receiver `Spec.skOpen` (IkeModel/Spec/SkOpen.lean): characterised by the
layout of the datagram (`skOpen_eq_some_iff`); it accepts the RFC message (`skOpen_skMessage`), and
the library's receiver accepts what it accepts (`unprotect_of_skOpen`). -/

namespace Ike
open Spec ParseLemmas

/-- the header `Spec.parse` (the independent parser of C05) returns is the record `readHeader`
builds; `Spec.parse` spells it out itself -/
theorem parse_hdr_eq_readHeader (b : Bytes) (m : Msg) (h : Spec.parse b = some m) : m.hdr = readHeader b :=
  ((parse_eq_some_iff b m).mp h).2.2.1

theorem readHeader_payloadBytes (b : Bytes) : (readHeader b).payloadBytes = b.drop 28 := rfl

theorem readHeader_marshal (h : Header) (hmaj : h.major.toNat < 16) (hmin : h.minor.toNat < 16) (b : Bytes)
    (hm : marshalHeader h = .ok b) : readHeader b = h ∧ beNat ((b.drop 24).take 4) = b.length ∧ 28 ≤ b.length := by
  rw [marshalHeader_spec h hmaj hmin] at hm
  obtain ⟨hb, he, hm⟩ := Res.bind_eq_ok hm
  cases hm
  exact readHeader_encodeHeader h h.next hb h.payloadBytes he

theorem marshal_readHeader (b : Bytes) (h28 : 28 ≤ b.length) (hL : beNat ((b.drop 24).take 4) = b.length) :
    marshalHeader (readHeader b) = .ok b := by
  obtain ⟨hb, he, hcut⟩ := encodeHeader_readHeader b h28 hL
  rw [marshalHeader_spec _ (readHeader_version b).1 (readHeader_version b).2]
  show (encodeHeader (readHeader b) (byteAt b 16) (b.drop 28).length >>= fun hb => Res.ok (hb ++ b.drop 28)) = _
  rw [he, Res.bind_ok, hcut]

theorem parseHeader_readHeader (b : Bytes) (h28 : 28 ≤ b.length) (hL : beNat ((b.drop 24).take 4) = b.length) :
    parseHeader b = .ok (readHeader b) :=
  rt_header _ _ (readHeader_version b).1 (readHeader_version b).2 (marshal_readHeader b h28 hL)

/-- a plaintext whose last octet `n` leaves room for `n` octets of padding is `inner ‖ pad ‖ [n]`
with `|pad| = n` -/
theorem pad_cut (pt : Bytes) (n : Nat) (hn : (byteAt pt (pt.length - 1)).toNat = n) (hle : n + 1 ≤ pt.length) :
    pt.take (pt.length - (n + 1)) ++ (pt.drop (pt.length - (n + 1))).take n ++ [UInt8.ofNat n] = pt ∧
    ((pt.drop (pt.length - (n + 1))).take n).length = n := by
  have hdl : (pt.drop (pt.length - (n + 1))).length = n + 1 := by rw [List.length_drop]; omega
  have hlast : UInt8.ofNat n = byteAt (pt.drop (pt.length - (n + 1))) n := by
    rw [← hn, UInt8.ofNat_toNat, byteAt_drop]; congr 1; omega
  constructor
  · rw [hlast, List.append_assoc, ← take_snoc_byteAt _ n hdl, List.take_append_drop]
  · rw [List.length_take, hdl]; omega

/-- the opener accepts exactly the §3.14 layout -/
theorem skOpen_eq_some_iff (P : Prims) (k : SkParams) (msg : Bytes) (hd : Header) (ft : UInt8) (inner pad : Bytes) :
    skOpen P k msg = some (hd, ft, inner, pad) ↔
      28 + 4 + 16 + 16 + k.icvLen ≤ msg.length ∧
      beNat ((msg.drop 24).take 4) = msg.length ∧ byteAt msg 16 = 46 ∧ byteAt msg 29 = 0 ∧
      (byteAt msg 30).toNat * 256 + (byteAt msg 31).toNat = msg.length - 28 ∧
      msg.drop (msg.length - k.icvLen) = skExpectedIcv P k msg ∧
      (msg.length - 48 - k.icvLen) % 16 = 0 ∧
      hd = readHeader msg ∧ ft = byteAt msg 28 ∧ pad.length ≤ 255 ∧
      inner ++ pad ++ [UInt8.ofNat pad.length] =
        cbcDec (P.dec k.ke) ((msg.drop 32).take 16) ((msg.drop 48).take (msg.length - 48 - k.icvLen)) := by
  unfold skOpen
  by_cases c1 : msg.length < 28 + 4 + 16 + 16 + k.icvLen
  · rw [if_pos c1]
    constructor
    · intro h; cases h
    · intro h; exact absurd h.1 (Nat.not_le_of_lt c1)
  have hsz : 28 + 4 ≤ msg.length ∧ min (msg.length - 48 - k.icvLen) (msg.length - 48) = msg.length - 48 - k.icvLen ∧
      msg.length - 32 - 16 - k.icvLen = msg.length - 48 - k.icvLen ∧ 4 + (msg.length - 32) = msg.length - 28 := by omega
  rw [if_neg c1, drop_cons4 msg 28 hsz.1]
  dsimp only
  rw [List.drop_drop, List.length_drop, hsz.2.2.1, List.length_take, List.length_drop, hsz.2.1, hsz.2.2.2]
  generalize cbcDec (P.dec k.ke) ((msg.drop 32).take 16) ((msg.drop 48).take (msg.length - 48 - k.icvLen)) = pt
  constructor
  · intro h
    peel h with c2
    peel h with c3
    peel h with c4
    peel h with c5
    peel h with c6
    peel h with c7
    peel h with c8
    simp only [Option.some.injEq, Prod.mk.injEq] at h
    obtain ⟨rfl, rfl, rfl, rfl⟩ := h
    obtain ⟨p1, p2⟩ := pad_cut pt _ rfl (by omega)
    rw [p2]
    exact ⟨Nat.le_of_not_lt c1, Decidable.not_not.mp c2, Decidable.not_not.mp c3, Decidable.not_not.mp c4,
      Decidable.not_not.mp c5, Decidable.not_not.mp c6, Decidable.not_not.mp c7, rfl, rfl,
      Nat.le_of_lt_succ (byteAt pt (pt.length - 1)).toNat_lt, p1⟩
  · rintro ⟨_, h2, h3, h4, h5, h6, h7, rfl, rfl, hpad, rfl⟩
    have hpl : (inner ++ pad ++ [UInt8.ofNat pad.length]).length = inner.length + pad.length + 1 := by
      simp only [List.length_append, List.length_singleton]
    have e3 : List.take inner.length (inner ++ pad ++ [UInt8.ofNat pad.length]) = inner := by
      rw [List.append_assoc]; exact take_prefix_eq _ _ _ rfl
    have e4 : List.take pad.length (List.drop inner.length (inner ++ pad ++ [UInt8.ofNat pad.length])) = pad := by
      rw [List.append_assoc, drop_prefix_eq _ _ _ rfl]; exact take_prefix_eq _ _ _ rfl
    rw [if_neg (not_not_intro h2), if_neg (not_not_intro h3), if_neg (not_not_intro h4), if_neg (not_not_intro h5),
      if_neg (not_not_intro h6), if_neg (not_not_intro h7), byteAt_snoc_last, toNat_ofNat_u8 _ hpad,
      if_neg (by rw [hpl]; omega), hpl,
      show inner.length + pad.length + 1 - (pad.length + 1) = inner.length by omega, e3, e4]

/-- on `s ‖ icv` the receiver compares `icv` with the truncated MAC of `s` -/
theorem skExpectedIcv_append (P : Prims) (k : SkParams) (s icv : Bytes) (hl : icv.length = k.icvLen) :
    (s ++ icv).drop ((s ++ icv).length - k.icvLen) = icv ∧
    skExpectedIcv P k (s ++ icv) = (P.mac k.hash k.ka s).take k.icvLen := by
  unfold skExpectedIcv
  rw [List.length_append, hl, Nat.add_sub_cancel, drop_prefix_eq _ _ _ rfl, take_prefix_eq _ _ _ rfl]
  exact ⟨rfl, rfl⟩

/-- the opener on the marshalling of a header whose payload octets are one Encrypted payload
`IV ‖ ct ‖ icv` with the right checksum, where `ct` decrypts to `inner ‖ pad ‖ [|pad|]` -/
theorem skOpen_of_marshal (P : Prims) (k : SkParams) (hd : Header) (hmaj : hd.major.toNat < 16)
    (hmin : hd.minor.toNat < 16) (msg : Bytes) (hm : marshalHeader hd = .ok msg) (hnext : hd.next = 46)
    (ft : UInt8) (iv ct icv inner pad : Bytes)
    (hpb : hd.payloadBytes = [ft, 0] ++ put16 (UInt16.ofNat (4 + (iv ++ ct ++ icv).length)) ++ (iv ++ ct ++ icv))
    (hiv : iv.length = 16) (h16 : 16 ≤ ct.length) (hal : ct.length % 16 = 0) (hicvl : icv.length = k.icvLen)
    (hfit : 4 + 16 + ct.length + k.icvLen ≤ 0xFFFF)
    (hicv : msg.drop (msg.length - k.icvLen) = skExpectedIcv P k msg)
    (hpad : pad.length ≤ 255) (hdec : cbcDec (P.dec k.ke) iv ct = inner ++ pad ++ [UInt8.ofNat pad.length]) :
    skOpen P k msg = some (hd, ft, inner, pad) := by
  obtain ⟨hrh, hL, _⟩ := readHeader_marshal hd hmaj hmin msg hm
  have hel : 4 + (iv ++ ct ++ icv).length = 20 + ct.length + k.icvLen := by
    simp only [List.length_append, hiv, hicvl]; omega
  have hfit' : 20 + ct.length + k.icvLen ≤ 65535 := by omega
  rw [hel, put16_ofNat _ hfit'] at hpb
  have h28 : msg.drop 28 = _ := (congrArg Header.payloadBytes hrh).trans hpb
  have hsz : 28 + 4 + 16 + 16 + k.icvLen ≤ msg.length ∧ msg.length - 28 = 20 + ct.length + k.icvLen ∧
      msg.length - 48 - k.icvLen = ct.length := by
    have := congrArg List.length h28
    simp only [List.length_drop, List.length_cons, List.length_nil, List.length_append, hiv, hicvl] at this
    -- `omega` reads every arithmetic hypothesis in the context; those about `% 16` and 65535 make it slow
    clear hal hfit hfit' hpad hel hL
    omega
  have hb : ∀ j, byteAt msg (28 + j) = byteAt (msg.drop 28) j := fun j => (byteAt_drop msg 28 j).symm
  have d32 : msg.drop 32 = iv ++ (ct ++ icv) := by rw [← List.append_assoc]; exact drop_add h28 rfl (k := 4)
  have d48 : msg.drop 48 = ct ++ icv := drop_add d32 (drop_prefix_eq _ _ _ hiv.symm)
  refine (skOpen_eq_some_iff P k msg hd ft inner pad).mpr ⟨hsz.1, hL, (congrArg Header.next hrh).trans hnext, ?_, ?_,
    hicv, hsz.2.2 ▸ hal, hrh.symm, ?_, hpad, ?_⟩
  · rw [hb 1, h28]; rfl
  · rw [hb 2, hb 3, h28]
    exact (octets16_toNat _ hfit').trans hsz.2.1.symm
  · rw [hb 0, h28]; rfl
  · rw [d32, d48, hsz.2.2, take_prefix_eq _ _ _ hiv.symm, take_prefix_eq _ _ _ rfl, hdec]

/-- the opener accepts the RFC message and returns what the sender put in -/
theorem skOpen_skMessage (P : Prims) (hP : P.Lawful) (k : SkParams) (hicv : k.icvLen ≤ P.macLen k.hash)
    (h : Header) (hmaj : h.major.toNat < 16) (hmin : h.minor.toNat < 16) (ft : UInt8)
    (inner iv pad : Bytes) (hiv : iv.length = 16) (hpad : pad.length ≤ 255)
    (hal : (inner.length + pad.length + 1) % 16 = 0)
    (hfit : 4 + 16 + (inner.length + pad.length + 1) + k.icvLen ≤ 0xFFFF) :
    skOpen P k (skMessage P k h ft inner iv pad) = some (skHeader P k h ft inner iv pad, ft, inner, pad) := by
  have hctl := skCt_length P hP k inner iv pad hiv hal
  have hil := skIcv_length P hP k h ft inner iv pad hicv
  obtain ⟨e1, e2⟩ := skExpectedIcv_append P k (skSigned P k h ft inner iv pad) _ hil
  exact skOpen_of_marshal P k (skHeader P k h ft inner iv pad) hmaj hmin _
    (skMessage_marshal P hP k h ft inner iv pad hicv (by simp only [skTotal, hiv, hctl]; omega)) rfl
    ft iv (skCt P k inner iv pad) (skIcv P k h ft inner iv pad) inner pad rfl hiv (by omega) (by omega) hil (by omega)
    (e1.trans e2.symm) hpad
    (cbcDec_cbcEnc _ _ (hP.enc_len k.ke) (hP.dec_enc k.ke) iv _ hiv
      (by simp only [List.length_append, List.length_singleton]; omega))

/-- the library accepts what the independent opener accepts -/
theorem unprotect_of_skOpen (P : Prims) (hP : P.Lawful) (sb : SAKey) (hw : sb.WF P) (rr : Bool) (k : SkParams)
    (hcl : sb.integInfo.outLen = k.icvLen) (halg : (sb.integObj (!rr)).alg = k.hash)
    (hka : (sb.integObj (!rr)).key = k.ka) (hke : (sb.encrObj (!rr)).key = k.ke)
    (msg : Bytes) (hd : Header) (ft : UInt8) (inner pad : Bytes)
    (h : skOpen P k msg = some (hd, ft, inner, pad)) (hdr : Option Header) (hhdr : hdr = none ∨ hdr = some hd) :
    unprotect P (some sb) rr hdr msg =
      (some (sb.setInteg (!rr) ⟨k.hash, k.ka, msg.take (msg.length - k.icvLen)⟩), 1,
       (do let ps ← decodeChain ft inner; Res.ok (⟨hd, ps⟩ : Msg))) := by
  obtain ⟨hlen, hrest⟩ := (skOpen_eq_some_iff P k msg hd ft inner pad).mp h
  -- the sizes first: `omega` reads every arithmetic hypothesis in the context, and is slow over the later ones
  have hsz : 32 ≤ msg.length ∧ 48 + (msg.length - 48 - k.icvLen) = msg.length - k.icvLen ∧
      min 16 (msg.length - 32) = 16 ∧ min (msg.length - 48 - k.icvLen) (msg.length - 48) = msg.length - 48 - k.icvLen ∧
      msg.length - (msg.length - k.icvLen) = k.icvLen ∧ 4 + (msg.length - 32) = msg.length - 28 := by omega
  obtain ⟨h32, e48, eiv, ect, eicv, eenc⟩ := hsz
  -- the Encrypted payload's body `msg.drop 32` is IV ‖ ciphertext ‖ checksum
  have hcut : msg.drop 32 = (msg.drop 32).take 16 ++ (msg.drop 48).take (msg.length - 48 - k.icvLen) ++
      msg.drop (msg.length - k.icvLen) := by
    have e1 := (List.take_append_drop 16 (msg.drop 32)).symm
    have e2 := (List.take_append_drop (msg.length - 48 - k.icvLen) (msg.drop 48)).symm
    rw [List.drop_drop] at e1 e2
    rw [e48] at e2
    rw [List.append_assoc, ← e2]
    exact e1
  have hivl : ((msg.drop 32).take 16).length = 16 := by rw [List.length_take, List.length_drop, eiv]
  have hctl : ((msg.drop 48).take (msg.length - 48 - k.icvLen)).length = msg.length - 48 - k.icvLen := by
    rw [List.length_take, List.length_drop, ect]
  have hicvl : (msg.drop (msg.length - k.icvLen)).length = sb.integInfo.outLen := by rw [hcl, List.length_drop, eicv]
  have hencl : 4 + (msg.drop 32).length = msg.length - 28 := by rw [List.length_drop, eenc]
  clear e48 eiv ect eicv eenc
  obtain ⟨hL, h16, h29, hl, hicv, hal, hhd, hft, hpad, hpt⟩ := hrest
  have hph := parseHeader_readHeader msg (Nat.le_trans (by decide) h32) hL
  have hbody : msg.drop 28 = [ft, 0] ++ put16 (UInt16.ofNat (4 + (msg.drop 32).length)) ++ msg.drop 32 := by
    rw [hencl, ← hl, put16_pair, hft, ← h29]
    exact drop_cons4 msg 28 h32
  have hdecoded : unprotectDecoded none msg = .ok ⟨hd, [.sk ft (msg.drop 32)]⟩ := by
    show decodeMsg msg = _
    unfold decodeMsg
    rw [hph]
    show decodeChain (byteAt msg 16) (msg.drop 28) >>= _ = _
    have hb30 := (byteAt msg 30).toNat_lt
    have hb31 := (byteAt msg 31).toNat_lt
    rw [show byteAt msg 16 = Facts.typeSK from h16, hbody, decodeChain_sk ft _ (by omega), hhd]
    rfl
  have hdecoded' : unprotectDecoded hdr msg = .ok ⟨hd, [.sk ft (msg.drop 32)]⟩ := by
    rcases hhdr with rfl | rfl
    · exact hdecoded
    · rw [unprotectDecoded_hdr msg hd (by rw [hhd]; exact hph)]; exact hdecoded
  generalize (msg.drop 32).take 16 = iv at hcut hivl hpt
  generalize (msg.drop 48).take (msg.length - 48 - k.icvLen) = ct at hcut hctl hpt
  -- the plaintext has the size of the ciphertext
  have hptl : inner.length + pad.length + 1 = ct.length := by
    have := congrArg List.length hpt
    rw [cbcDec_length _ (hP.dec_len k.ke) _ _ hivl (hctl ▸ hal)] at this
    simp only [List.length_append, List.length_singleton] at this
    exact this
  have hplain : cbcDecrypt P (sb.encrObj (!rr)) (iv ++ ct) = .ok inner :=
    cbcDecrypt_of_plain P hP _ _ inner pad hpad (hptl ▸ hctl ▸ hal) (by rw [List.length_append, hivl, hptl])
      (by unfold cbcPlain; rw [take_prefix_eq _ _ _ hivl.symm, drop_prefix_eq _ _ _ hivl.symm, hke, hpt])
  -- the datagram is signed octets ‖ checksum
  unfold skExpectedIcv at hicv
  generalize htail : msg.drop (msg.length - k.icvLen) = tail at hcut hicvl hicv
  have hmsg : msg = msg.take (msg.length - k.icvLen) ++ tail := by rw [← htail, List.take_append_drop]
  rw [hcut, hmsg] at hdecoded'
  have := unprotect_framed P hP sb hw rr hdr hd ft (iv ++ ct) tail _ hicvl hdecoded'
  rw [← hmsg, hcl, halg, hka, if_pos hicv, hplain] at this
  exact this

end Ike
