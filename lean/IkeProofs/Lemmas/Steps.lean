import IkeProofs.Lemmas.NoFault

/-!
# Iteration counters for every loop of the decoders

The model's decoders are total functions, so each of them terminates; this file
makes the *amount* of work explicit.  For every recursion of the model that
stands for a loop of the Go code there is a counter with the same recursion
structure and the same guards as the decoder; it counts **executions of the loop
body that are started** (an iteration that ends in `return err` is counted, the
final test of the loop condition that leaves the loop is not).

| counter          | model recursion        | Go loop                                                            |
|------------------|------------------------|--------------------------------------------------------------------|
| `chainIters`     | `decodeChain`          | `message.go` `IKEPayloadContainer.Decode`: `for len(b) > 0`          |
| `propIters`      | `unmarshalProposals`   | `payload_securityassociation.go` `Unmarshal`: `for len(b) > 0`       |
| `transIters`     | `unmarshalTransforms`  | same file, inner `for len(transformData) > 0`                      |
| `cpIters`        | `unmarshalCPAttrs`     | `payload_configuration.go`: `for len(configurationAttributeData) > 0` |
| `tsIters`        | `unmarshalTSels`       | `payload_trafficselector*.go`: `for ; numberOfSPI > 0; numberOfSPI--` |
| `deleteIters`    | `deleteSPIs`           | `payload_delete.go`: `for i := 0; i < 4*int(numberOfSPI); i += 4`     |
| `akaIters`       | `unmarshalAkaAttrs`    | `eap_aka_prime.go` `Unmarshal`: `for { ReadByte … }`                  |
| `cbcBlocks`      | `cbcDec`               | `CryptBlocks` called by `encr_aes_cbc.go` `Decrypt`                  |
| `lastSKIters`    | `lastSK`               | `ike.go` `decryptMsg`: `for _, ikePayload := range ikeMsg.Payloads`   |

The two loops that contain other loops are counted with a weight: `propCount w`, `chainCount w` charge every
iteration `1 + w`.  `w = 0` gives `propIters`, `chainIters`; `w = propNested`, `chainNested` (the loops run
inside one iteration, on the input `proposalTd`, `chainBody` hands them) gives `saWork`, `chainWork`, and the
bounds are proved once for each weight.  `cpBodyIters`, `tsBodyIters`, `deleteBodyIters`, `akaBodyIters`,
`eapBodyIters`, `cbcDecryptBlocks` put the guards of a body decoder in front of its loop; `payloadIters`
dispatches on the payload type as `unmarshalPayload` does; `msgWork`, `decryptWork`, `unprotectPhase1`,
`unprotectWork` follow `decodeMsg`, `decryptMsg`, `unprotect`.

Shapes of the bounds.  A loop driven by the remaining length: `k * iters ≤ len + (k - 1)` — a started iteration
needs one octet, a completed one consumes at least `k` (the header of the item).  A loop driven by a count field
(`tsIters`, `deleteIters`): `≤ n` and `k * iters ≤ len + k`.  A counter behind guards: `k * x + c ≤ len ∨ x = 0`
(`guard_zero_or`), the form that composes into the bound of the enclosing loop (`nested_le`).

`…_tie` lemmas: where a decoder returns a list, its success makes the counter equal (or bound from above) the
number of items returned, so the counter cannot be smaller than the output it accounts for.

Loops that are *not* counted: per-octet work inside one iteration (`copy`,
`append`, `xorBytes`, the big-endian reads — all on a sub-slice of the octets the
iteration consumes), the hash over the datagram inside `calcIntegrity` and the
block function inside one CBC block (both are the opaque primitives `P`), and
`akaInsert`, which stands for one Go map assignment.
-/

namespace Ike

-- the counters keep the binder names of the decoders' guards
set_option linter.unusedVariables false

/-- CP attribute loop: same guards as `unmarshalCPAttrs` -/
def cpIters (d : Bytes) : Nat :=
  if h0 : d.length = 0 then 0 else
  if d.length < 4 then 1 else
  match parseCPAttr d with
  | .ok (a, n) => if hn : 0 < n ∧ n ≤ d.length then 1 + cpIters (d.drop n) else 1
  | .err => 1
  | .fault => 1
termination_by d.length
decreasing_by simp only [List.length_drop]; omega

/-- loops inside `unmarshalCP b` -/
def cpBodyIters (b : Bytes) : Nat :=
  if b.length ≤ 4 then 0 else cpIters (b.drop 4)

/-- traffic-selector loop: same guards as `unmarshalTSels` -/
def tsIters : Nat → Bytes → Nat
  | 0, _ => 0
  | n + 1, b =>
    if b.length < 4 then 1 else
    match parseTSel b with
    | .ok (t, k) => if k ≤ b.length then 1 + tsIters n (b.drop k) else 1
    | .err => 1
    | .fault => 1

/-- loops inside `unmarshalTS mk b` -/
def tsBodyIters (b : Bytes) : Nat :=
  if b.length = 0 then 0 else
  if b.length < 4 then 0 else tsIters (byteAt b 0).toNat (b.drop 4)

/-- Delete SPI loop: same patterns as `deleteSPIs` -/
def deleteIters : Nat → Bytes → Nat
  | 0, _ => 0
  | n + 1, b0 :: b1 :: b2 :: b3 :: rest => 1 + deleteIters n rest
  | _ + 1, _ => 1

/-- loops inside `unmarshalDelete b` (same guards) -/
def deleteBodyIters (b : Bytes) : Nat :=
  if b.length = 0 then 0 else
  if b.length ≤ 3 then 0 else
  let spiSize := byteAt b 1
  let num := be16 (byteAt b 2) (byteAt b 3)
  if b.length < 4 + spiSize.toNat * num.toNat then 0 else
  if num.toNat > 0 && spiSize != 4 then 0 else deleteIters num.toNat (b.drop 4)

/-- transform loop: same guards as `unmarshalTransforms` -/
def transIters (td : Bytes) : Nat :=
  if h0 : td.length = 0 then 0 else
  if td.length < 8 then 1 else
  match parseTransform td with
  | .ok (t, n) => if hn : 0 < n ∧ n ≤ td.length then 1 + transIters (td.drop n) else 1
  | .err => 1
  | .fault => 1
termination_by td.length
decreasing_by simp only [List.length_drop]; omega

/-- the transform data `parseProposal b` hands to `unmarshalTransforms`
(`none` when one of its guards returns before that) -/
def proposalTd (b : Bytes) : Option Bytes :=
  let pl := be16 (byteAt b 2) (byteAt b 3)
  if pl < 8 then none else
  if b.length < pl.toNat then none else
  let spiSize := (byteAt b 6).toNat
  if spiSize > 0 ∧ pl.toNat < 8 + spiSize then none
  else some ((b.take pl.toNat).drop (8 + spiSize))

/-- iterations of the transform loop run by one `parseProposal b` (`b` ≥ 8 octets) -/
def propNested (b : Bytes) : Nat :=
  match proposalTd b with
  | some td => transIters td
  | none => 0

/-- proposal loop, same guards as `unmarshalProposals`; every iteration that
reaches `parseProposal` is charged `1 + w b` (`w` = cost of what is nested in it) -/
def propCount (w : Bytes → Nat) (b : Bytes) : Nat :=
  if h0 : b.length = 0 then 0 else
  if b.length < 8 then 1 else
  match parseProposal b with
  | .ok (p, n) => if hn : 0 < n ∧ n ≤ b.length then 1 + w b + propCount w (b.drop n) else 1 + w b
  | .err => 1 + w b
  | .fault => 1 + w b
termination_by b.length
decreasing_by simp only [List.length_drop]; omega

/-- iterations of the proposal loop alone -/
def propIters (b : Bytes) : Nat := propCount (fun _ => 0) b

/-- all loop iterations inside `unmarshalSA b`: proposal loop plus every transform loop -/
def saWork (b : Bytes) : Nat := propCount propNested b

/-- EAP-AKA' attribute loop: same patterns and guards as `unmarshalAkaAttrs` -/
def akaIters (r : Bytes) : Nat :=
  match h : r with
  | [] => 0
  | [_] => 0
  | t :: len :: body =>
    match parseAkaBody t len body with
    | .ok (a, n) => if hn : n ≤ body.length then 1 + akaIters (body.drop n) else 1
    | .err => 1
    | .fault => 1
termination_by r.length
decreasing_by subst h; simp only [List.length_drop, List.length_cons]; omega

/-- loops inside `unmarshalAka raw` -/
def akaBodyIters (raw : Bytes) : Nat :=
  if raw.length < 4 then 0 else
  if byteAt raw 0 != Facts.eapTypeAkaPrime then 0 else akaIters (raw.drop 4)

/-- loops inside `unmarshalEap b` (same guards and dispatch order) -/
def eapBodyIters (b : Bytes) : Nat :=
  if b.length = 0 then 0 else
  if b.length < 4 then 0 else
  let pl := be16 (byteAt b 2) (byteAt b 3)
  if pl < 4 then 0 else
  if b.length ≠ pl.toNat then 0 else
  if pl == 4 then 0 else
  let ty := byteAt b 4
  if ty == Facts.eapTypeIdentity then 0
  else if ty == Facts.eapTypeNotification then 0
  else if ty == Facts.eapTypeNak then 0
  else if ty == Facts.eapTypeAkaPrime then akaBodyIters (b.drop 4)
  else 0

/-- all loop iterations inside `unmarshalPayload t nx body` (dispatch in the same order) -/
def payloadIters (t : UInt8) (body : Bytes) : Nat :=
  if t == Facts.typeSA then saWork body
  else if t == Facts.typeKE then 0
  else if t == Facts.typeIDi then 0
  else if t == Facts.typeIDr then 0
  else if t == Facts.typeCERT then 0
  else if t == Facts.typeCERTreq then 0
  else if t == Facts.typeAUTH then 0
  else if t == Facts.typeNiNr then 0
  else if t == Facts.typeN then 0
  else if t == Facts.typeD then deleteBodyIters body
  else if t == Facts.typeV then 0
  else if t == Facts.typeTSi then tsBodyIters body
  else if t == Facts.typeTSr then tsBodyIters body
  else if t == Facts.typeSK then 0
  else if t == Facts.typeCP then cpBodyIters body
  else if t == Facts.typeEAP then eapBodyIters body
  else 0

/-- the payload body `chainStep t b` hands to `unmarshalPayload`
(`none` when one of its guards returns before that, or the type is skipped) -/
def chainBody (t : UInt8) (b : Bytes) : Option Bytes :=
  if b.length < 4 then none else
  let pl := be16 (byteAt b 2) (byteAt b 3)
  if pl < 4 then none else
  if b.length < pl.toNat then none else
  if knownType t then
    if t == Facts.typeSK && b.length ≠ pl.toNat then none
    else some ((b.take pl.toNat).drop 4)
  else none

/-- nested loop iterations run by one `chainStep t b` -/
def chainNested (t : UInt8) (b : Bytes) : Nat :=
  match chainBody t b with
  | some body => payloadIters t body
  | none => 0

/-- payload-chain loop, same guards as `decodeChain`; every iteration is charged
`1 + w t b` -/
def chainCount (w : UInt8 → Bytes → Nat) (t : UInt8) (b : Bytes) : Nat :=
  if h0 : b.length = 0 then 0 else
  match chainStep t b with
  | .ok (op, next, n) =>
    if hn : 0 < n ∧ n ≤ b.length then 1 + w t b + chainCount w next (b.drop n) else 1 + w t b
  | .err => 1 + w t b
  | .fault => 1 + w t b
termination_by b.length
decreasing_by simp only [List.length_drop]; omega

/-- iterations of the payload-chain loop alone -/
def chainIters (t : UInt8) (b : Bytes) : Nat := chainCount (fun _ _ => 0) t b

/-- all loop iterations of `decodeChain t b`: the chain loop and every loop nested in a payload body -/
def chainWork (t : UInt8) (b : Bytes) : Nat := chainCount chainNested t b

/-- all loop iterations of `decodeMsg b` (`parseHeader` has no loop) -/
def msgWork (b : Bytes) : Nat :=
  match parseHeader b with
  | .ok h => chainWork h.next h.payloadBytes
  | .err => 0
  | .fault => 0

/-- CBC blocks: same recursion as `cbcDec` -/
def cbcBlocks (ct : Bytes) : Nat :=
  if _h : ct.length < 16 then 0 else 1 + cbcBlocks (ct.drop 16)
termination_by ct.length
decreasing_by simp only [List.length_drop]; omega

/-- block iterations of `cbcDecrypt P c ct` (same guards) -/
def cbcDecryptBlocks (ct : Bytes) : Nat :=
  if ct.length < 16 then 0 else
  let em := ct.drop 16
  if em.length = 0 || em.length % 16 ≠ 0 then 0 else cbcBlocks em

/-- payload scan of `decryptMsg`: same patterns as `lastSK` -/
def lastSKIters : List Payload → Nat
  | [] => 0
  | .sk _ _ :: rest => 1 + lastSKIters rest
  | _ :: _ => 1

/-- all loop iterations of `decryptMsg P sa role msg m` (same guards): payload scan,
CBC blocks, and decoding of the decrypted chain -/
def decryptWork (P : Prims) (sa : SAKey) (role : Bool) (msg : Bytes) (m : Msg) : Nat :=
  lastSKIters m.payloads +
  match lastSK m.payloads none with
  | .err => 0
  | .fault => 0
  | .ok none => 0
  | .ok (some (next, encData)) =>
    let cl := sa.integInfo.outLen
    if encData.length < cl then 0 else
    if msg.length < cl then 0 else
    let checksum := encData.drop (encData.length - cl)
    let signed := msg.take (msg.length - cl)
    match calcIntegrity P sa (!role) signed with
    | (sa1, .err) => 0
    | (sa1, .fault) => 0
    | (sa1, .ok expect) =>
      if !(bytesEq checksum expect) then 0 else
      let ct := encData.take (encData.length - cl)
      cbcDecryptBlocks ct +
      match decryptPayload P sa1 role ct with
      | .err => 0
      | .fault => 0
      | .ok plain => chainWork next plain

/-- the message `unprotect` decodes first and the loop iterations spent on it -/
def unprotectPhase1 (hdr : Option Header) (msg : Bytes) : Res Msg × Nat :=
  match hdr with
  | none => (decodeMsg msg, msgWork msg)
  | some h =>
    match goFrom msg Facts.ikeHeaderLen with
    | .ok body => ((do let ps ← decodeChain h.next body; .ok ⟨h, ps⟩), chainWork h.next body)
    | .err => (.err, 0)
    | .fault => (.fault, 0)

/-- all loop iterations of `unprotect P sa role hdr msg` (same case analysis) -/
def unprotectWork (P : Prims) (sa : Option SAKey) (role : Bool) (hdr : Option Header) (msg : Bytes) : Nat :=
  let (decoded, w) := unprotectPhase1 hdr msg
  match decoded with
  | .err => w
  | .fault => w
  | .ok m =>
    match m.payloads with
    | [] => w
    | p :: _ =>
      if p.typeCode == Facts.typeSK then
        match sa with
        | none => w
        | some k => w + decryptWork P k role msg m
      else w

set_option linter.unusedVariables true

/-- a counter behind a guard that returns early: the early return leaves the count at 0 -/
theorem guard_zero_or {c : Prop} [Decidable c] {m k len y : Nat} (hy : ¬c → (m * y + k ≤ len ∨ y = 0)) :
    m * (if c then 0 else y) + k ≤ len ∨ (if c then 0 else y) = 0 :=
  ite_cases (motive := fun x => m * x + k ≤ len ∨ x = 0) (fun _ => .inr rfl) hy

theorem cpIters_le (d : Bytes) : 4 * cpIters d ≤ d.length + 3 := by
  fun_induction cpIters d with
  | case1 | case2 => omega
  | case3 d h0 h4 a n hp hn ih =>
    obtain ⟨h1, h2⟩ := (parseCPAttr_safe d (by omega)).of_ok hp
    simp only [List.length_drop] at ih
    omega
  | case4 | case5 | case6 => omega

theorem cpIters_tie (d : Bytes) (l : List CPAttr) (h : unmarshalCPAttrs d = .ok l) :
    cpIters d = l.length := by
  fun_induction unmarshalCPAttrs d generalizing l with
  | case1 d h0 => cases h; rw [cpIters, dif_pos h0]; rfl
  | case2 => cases h
  | case3 d h0 h4 a n hp hn rest hrest ih =>
    cases h
    rw [cpIters, dif_neg h0, if_neg h4, hp]
    simp only [hn, and_self, dite_true, ih rest hrest, List.length_cons]
    omega
  | case4 | case5 | case6 | case7 | case8 => cases h

theorem cpBodyIters_le (b : Bytes) : 4 * cpBodyIters b ≤ b.length := by
  unfold cpBodyIters
  split
  · omega
  · have := cpIters_le (b.drop 4)
    simp only [List.length_drop] at this
    omega

theorem cpBodyIters_tie (b : Bytes) (ct : UInt8) (attrs : List CPAttr) (h : unmarshalCP b = .ok (.cp ct attrs)) :
    cpBodyIters b = attrs.length := by
  obtain ⟨_, _, e, h4, hu⟩ := (unmarshalCP_safe b).of_ok h
  cases e
  unfold cpBodyIters
  rw [if_neg (by omega)]
  exact cpIters_tie _ _ hu

theorem tsIters_le_n (n : Nat) (b : Bytes) : tsIters n b ≤ n := by
  fun_induction tsIters n b <;> omega

/-- `+ 16`: with a positive count the body is entered once even when no octet is left, and
returns an error -/
theorem tsIters_le (n : Nat) (b : Bytes) : 16 * tsIters n b ≤ b.length + 16 := by
  fun_induction tsIters n b with
  | case1 | case2 | case4 | case5 | case6 => omega
  | case3 n b h4 t k hp hk ih =>
    obtain ⟨h1, h2⟩ := (parseTSel_safe b (by omega)).of_ok hp
    rw [List.length_drop] at ih
    omega

theorem tsIters_tie (n : Nat) (b : Bytes) (l : List TSel) (h : unmarshalTSels n b = .ok l) :
    tsIters n b = l.length := by
  fun_induction unmarshalTSels n b generalizing l with
  | case1 => cases h; rfl
  | case3 n b h4 t k hp hk rest hrest ih =>
    cases h
    rw [tsIters, if_neg h4, hp]
    simp only [hk, if_true, ih rest hrest, List.length_cons]
    omega
  | case2 | case4 | case5 | case6 | case7 | case8 => cases h

theorem tsBodyIters_le (b : Bytes) : 16 * tsBodyIters b ≤ b.length + 12 ∧ tsBodyIters b ≤ 255 := by
  unfold tsBodyIters
  split
  · omega
  · split
    · omega
    · have h1 := tsIters_le (byteAt b 0).toNat (b.drop 4)
      have h2 := tsIters_le_n (byteAt b 0).toNat (b.drop 4)
      have h3 := (byteAt b 0).toNat_lt
      simp only [List.length_drop] at h1
      omega

theorem tsBodyIters_tie (mk : List TSel → Payload) (b : Bytes) (p : Payload) (h : unmarshalTS mk b = .ok p) :
    ∃ l, p = mk l ∧ tsBodyIters b = l.length := by
  obtain ⟨l, e, hl⟩ := (unmarshalTS_safe mk b).of_ok h
  refine ⟨l, e, ?_⟩
  unfold tsBodyIters
  rcases hl with ⟨h0, rfl⟩ | ⟨h4, hu⟩
  · rw [if_pos h0]; rfl
  · rw [if_neg (by omega), if_neg (by omega)]
    exact tsIters_tie _ _ _ hu

theorem deleteIters_le_n (n : Nat) (b : Bytes) : deleteIters n b ≤ n := by
  fun_induction deleteIters n b with
  | case1 | case2 | case3 => omega

theorem deleteIters_le (n : Nat) (b : Bytes) : 4 * deleteIters n b ≤ b.length + 4 := by
  fun_induction deleteIters n b with
  | case1 => omega
  | case2 n b0 b1 b2 b3 rest ih => simp only [List.length_cons]; omega
  | case3 => omega

theorem deleteIters_tie (n : Nat) (b : Bytes) (l : List UInt32) (h : deleteSPIs n b = .ok l) :
    deleteIters n b = l.length := by
  fun_induction deleteSPIs n b generalizing l with
  | case1 => simp at h; subst h; simp [deleteIters]
  | case2 n b0 b1 b2 b3 rest l' hl ih =>
    simp at h; subst h
    simp [deleteIters, ih l' hl]; omega
  | case3 | case4 | case5 => cases h

theorem deleteBodyIters_le (b : Bytes) : 4 * deleteBodyIters b + 4 ≤ b.length ∨ deleteBodyIters b = 0 := by
  unfold deleteBodyIters
  refine guard_zero_or fun _ => guard_zero_or fun _ => guard_zero_or fun hlen => guard_zero_or fun hs => ?_
  have hn := deleteIters_le_n (be16 (byteAt b 2) (byteAt b 3)).toNat (b.drop 4)
  by_cases h0 : (be16 (byteAt b 2) (byteAt b 3)).toNat = 0
  · exact .inr (by omega)
  · have h4 : byteAt b 1 = 4 := by simpa [Nat.pos_of_ne_zero h0] using hs
    have e4 : (byteAt b 1).toNat = 4 := congrArg UInt8.toNat h4
    rw [e4] at hlen
    exact .inl (by omega)

theorem deleteBodyIters_tie (b : Bytes) (proto spiSize : UInt8) (num : UInt16) (spis : List UInt32)
    (h : unmarshalDelete b = .ok (.delete proto spiSize num spis)) : deleteBodyIters b = spis.length := by
  obtain ⟨_, _, _, _, e, hl⟩ := (unmarshalDelete_safe b).of_ok h
  cases e
  unfold deleteBodyIters
  rcases hl with ⟨h0, -, -, -, rfl⟩ | ⟨h3, rfl, rfl, hlen, hs, hu⟩
  · rw [if_pos h0]; rfl
  · rw [if_neg (by omega), if_neg (by omega)]
    dsimp only
    rw [if_neg (by omega), if_neg (by simpa using hs)]
    exact deleteIters_tie _ _ _ hu

theorem transIters_le (td : Bytes) : 8 * transIters td ≤ td.length + 7 := by
  fun_induction transIters td with
  | case1 | case2 => omega
  | case3 td h0 h8 t n hp hn ih =>
    obtain ⟨h1, h2⟩ := (parseTransform_safe td (by omega)).of_ok hp
    simp only [List.length_drop] at ih
    omega
  | case4 | case5 | case6 => omega

theorem Proposal.file_transforms_length (p : Proposal) (t : Transform) :
    (p.file t).transforms.length ≤ p.transforms.length + 1 := by
  have step {c : Prop} [Decidable c] {x y : Proposal} (hx : x.transforms.length ≤ p.transforms.length + 1)
      (hy : y.transforms.length ≤ p.transforms.length + 1) :
      (if c then x else y).transforms.length ≤ p.transforms.length + 1 :=
    ite_cases (motive := fun q : Proposal => q.transforms.length ≤ p.transforms.length + 1) (fun _ => hx) fun _ => hy
  unfold Proposal.file
  refine step ?_ <| step ?_ <| step ?_ <| step ?_ <| step ?_ (Nat.le_succ _)
  all_goals
    simp only [Proposal.transforms, List.length_append, List.length_cons, List.length_nil]
    omega

/-- `≤`: transforms of a type outside 1..5 are decoded and dropped -/
theorem transIters_tie (td : Bytes) (p q : Proposal) (h : unmarshalTransforms td p = .ok q) :
    q.transforms.length ≤ p.transforms.length + transIters td := by
  fun_induction unmarshalTransforms td p with
  | case1 td p h0 => simp at h; subst h; omega
  | case2 => cases h
  | case3 td p h0 h8 t n hp hn ih =>
    have := ih h
    have hf := Proposal.file_transforms_length p t
    rw [transIters]
    simp only [h0, h8, hp, hn, dite_true, dite_false, if_false, and_self]
    omega
  | case4 | case5 | case6 => cases h

theorem proposalTd_some {b td : Bytes} (h : proposalTd b = some td) :
    td = (b.take (be16 (byteAt b 2) (byteAt b 3)).toNat).drop (8 + (byteAt b 6).toNat) ∧
    8 + (byteAt b 6).toNat ≤ (be16 (byteAt b 2) (byteAt b 3)).toNat ∧
    (be16 (byteAt b 2) (byteAt b 3)).toNat ≤ b.length := by
  unfold proposalTd at h
  obtain ⟨h8, h⟩ := ite_none_eq_some h
  obtain ⟨hl, h⟩ := ite_none_eq_some h
  obtain ⟨hs, h⟩ := ite_none_eq_some h
  have h8 := u16_le_of_not_lt 8 h8
  exact ⟨(Option.some.inj h).symm, by omega, by omega⟩

/-- the loops nested in one iteration of an outer loop: `o` is the input of the nested decoder (`none`: a guard
returned before it), `k` the octets one nested iteration consumes, `pl` the declared length of the outer item -/
theorem nested_le {o : Option Bytes} {w : Bytes → Nat} {k pl len : Nat}
    (ho : ∀ x, o = some x → x.length + k ≤ pl ∧ pl ≤ len) (hw : ∀ x, k * w x + 1 ≤ x.length + k) :
    (match (generalizing := false) o with
      | some x => w x
      | none => 0) = 0 ∨
    (k * (match (generalizing := false) o with
      | some x => w x
      | none => 0) + 1 ≤ pl ∧ pl ≤ len) := by
  cases o with
  | none => exact .inl rfl
  | some x =>
    have := ho x rfl
    have := hw x
    exact .inr (by dsimp only; omega)

theorem propNested_le (b : Bytes) :
    propNested b = 0 ∨
    (8 * propNested b + 1 ≤ (be16 (byteAt b 2) (byteAt b 3)).toNat ∧
     (be16 (byteAt b 2) (byteAt b 3)).toNat ≤ b.length) := by
  unfold propNested
  refine nested_le (o := proposalTd b) (k := 8) (fun td h => ?_) fun td => by have := transIters_le td; omega
  obtain ⟨rfl, h1, h2⟩ := proposalTd_some h
  simp only [List.length_drop, List.length_take]
  omega

theorem propNested_tie (b : Bytes) (h : 8 ≤ b.length) (p : Proposal) (n : Nat)
    (hp : parseProposal b = .ok (p, n)) : p.transforms.length ≤ propNested b := by
  obtain ⟨rfl, hs, hl, spi, hu⟩ := (parseProposal_safe b h).of_ok hp
  -- the proposal handed to the transform loop has no transforms yet: that is the `0`
  have ht : p.transforms.length ≤ 0 + transIters _ := transIters_tie _ _ _ hu
  rw [Nat.zero_add] at ht
  have h8 : ¬be16 (byteAt b 2) (byteAt b 3) < 8 :=
    UInt16.not_lt.mpr (UInt16.le_iff_toNat_le.mpr (by omega : 8 ≤ _))
  unfold propNested proposalTd
  simp only
  rw [if_neg h8, if_neg (by omega), if_neg (by omega)]
  exact ht

theorem propIters_le (b : Bytes) : 8 * propIters b ≤ b.length + 7 := by
  unfold propIters
  fun_induction propCount (fun _ => 0) b with
  | case1 | case2 => omega
  | case3 b h0 h8 p n hp hn ih =>
    obtain ⟨-, h1, -⟩ := (parseProposal_safe b (by omega)).of_ok hp
    simp only [List.length_drop] at ih
    omega
  | case4 | case5 | case6 => omega

theorem saWork_le (b : Bytes) : 4 * saWork b ≤ b.length + 3 := by
  unfold saWork
  fun_induction propCount propNested b with
  | case1 | case2 => omega
  | case3 b h0 h8 p n hp hn ih =>
    obtain ⟨h1, h2, h3, -⟩ := (parseProposal_safe b (by omega)).of_ok hp
    have hw := propNested_le b
    simp only [List.length_drop] at ih
    omega
  | case4 b | case5 b | case6 b => have hw := propNested_le b; omega

theorem propIters_tie (b : Bytes) (ps : List Proposal) (h : unmarshalProposals b = .ok ps) :
    propIters b = ps.length := by
  unfold propIters
  fun_induction unmarshalProposals b generalizing ps with
  | case1 b h0 => cases h; rw [propCount, dif_pos h0]; rfl
  | case2 => cases h
  | case3 b h0 h8 p n hp hn rest hrest ih =>
    cases h
    rw [propCount, dif_neg h0, if_neg h8, hp]
    simp only [hn, and_self, dite_true, ih rest hrest, List.length_cons]
    omega
  | case4 | case5 | case6 | case7 | case8 => cases h

theorem saWork_tie (b : Bytes) (ps : List Proposal) (h : unmarshalProposals b = .ok ps) :
    ps.length + (ps.map (fun p => p.transforms.length)).sum ≤ saWork b := by
  unfold saWork
  fun_induction unmarshalProposals b generalizing ps with
  | case1 b h0 => simp at h; subst h; simp
  | case2 => cases h
  | case3 b h0 h8 p n hp hn rest hrest ih =>
    unfold propCount
    simp at h; subst h
    have ihr := ih rest hrest
    have ht := propNested_tie b (by omega) p n hp
    simp only [h0, h8, hp, hn, dite_true, dite_false, if_false, and_self, List.length_cons, List.map_cons,
      List.sum_cons]
    omega
  | case4 | case5 | case6 | case7 | case8 => cases h

theorem akaInsert_length_le (l : List AkaAttr) (a : AkaAttr) : (akaInsert l a).length ≤ l.length + 1 := by
  induction l with
  | nil => simp [akaInsert]
  | cons x rest ih =>
    unfold akaInsert
    split
    · simp
    · split
      · simp
      · simp only [List.length_cons]; omega

/-- the loop stops when fewer than 2 octets remain; a completed iteration consumes the type and
length octets and at least 2 more -/
theorem akaIters_le (r : Bytes) : 4 * akaIters r ≤ r.length + 2 := by
  fun_induction akaIters r with
  | case1 => simp
  | case2 => simp
  | case3 t len body a n hp hn ih =>
    obtain ⟨-, -, h1, h2⟩ := (parseAkaBody_safe t len body).of_ok hp
    simp only [List.length_drop, List.length_cons] at ih ⊢
    omega
  | case4 t len body a n hp hn => simp only [List.length_cons]; omega
  | case5 t len body hp => simp only [List.length_cons]; omega
  | case6 t len body hp => simp only [List.length_cons]; omega

/-- `≤`: a repeated attribute type overwrites the earlier entry of the map -/
theorem akaIters_tie (r : Bytes) (acc l : List AkaAttr) (h : unmarshalAkaAttrs r acc = .ok l) :
    l.length ≤ acc.length + akaIters r := by
  fun_induction unmarshalAkaAttrs r acc with
  | case1 acc => simp at h; subst h; omega
  | case2 acc x => simp at h; subst h; omega
  | case3 acc t len body a n hp hn ih =>
    have := ih h
    have hi := akaInsert_length_le acc a
    rw [akaIters]
    simp only [hp, hn, dite_true]
    omega
  | case4 | case5 | case6 => cases h

theorem akaBodyIters_le (raw : Bytes) : 4 * akaBodyIters raw + 2 ≤ raw.length ∨ akaBodyIters raw = 0 := by
  unfold akaBodyIters
  refine guard_zero_or fun _ => guard_zero_or fun _ => ?_
  have := akaIters_le (raw.drop 4)
  rw [List.length_drop] at this
  exact .inl (by omega)

theorem eapBodyIters_le (b : Bytes) : 4 * eapBodyIters b + 6 ≤ b.length ∨ eapBodyIters b = 0 := by
  unfold eapBodyIters
  refine guard_zero_or fun _ => guard_zero_or fun h4 => guard_zero_or fun _ => guard_zero_or fun _ =>
    guard_zero_or fun _ => ?_
  -- Identity, Notification, Nak: no loop
  refine guard_zero_or fun _ => guard_zero_or fun _ => guard_zero_or fun _ => ?_
  split
  · have := akaBodyIters_le (b.drop 4)
    simp only [List.length_drop] at this
    omega
  · exact .inr rfl

theorem cbcBlocks_eq (ct : Bytes) : cbcBlocks ct = ct.length / 16 := by
  fun_induction cbcBlocks ct with
  | case1 => omega
  | case2 ct h ih => simp only [List.length_drop] at ih; omega

theorem cbcBlocks_tie (D : Bytes → Bytes) (hD : ∀ b, b.length = 16 → (D b).length = 16)
    (prev ct : Bytes) (hp : prev.length = 16) :
    (cbcDec D prev ct).length = 16 * cbcBlocks ct := by
  rw [cbcDec_length_blocks D hD prev ct hp, cbcBlocks_eq]

/-- no assumption on the block function -/
theorem cbcDec_length_le (D : Bytes → Bytes) (prev ct : Bytes) (hp : prev.length ≤ 16) :
    (cbcDec D prev ct).length ≤ ct.length := by
  fun_induction cbcDec D prev ct with
  | case1 prev ct h => simp
  | case2 prev ct h c ih =>
    have hc16 : c.length ≤ 16 := by simp [c]; omega
    have := ih hc16
    rw [List.length_append, xorBytes_length]
    simp only [List.length_drop] at this
    omega

theorem cbcDecryptBlocks_le (ct : Bytes) : 16 * cbcDecryptBlocks ct + 16 ≤ ct.length ∨ cbcDecryptBlocks ct = 0 := by
  unfold cbcDecryptBlocks
  refine guard_zero_or fun _ => guard_zero_or fun hem => ?_
  rw [cbcBlocks_eq, List.length_drop]
  rw [List.length_drop] at hem
  exact .inl (by simp only [Bool.or_eq_true, decide_eq_true_eq, not_or] at hem; omega)

theorem cbcDecrypt_length_le (P : Prims) (c : CipherObj) (ct pt : Bytes) (h : cbcDecrypt P c ct = .ok pt) :
    pt.length + 16 ≤ ct.length := by
  unfold cbcDecrypt at h
  by_cases h16 : ct.length < 16
  · rw [if_pos h16] at h; cases h
  rw [if_neg h16, goTo_ok (by omega), Res.bind_ok, goFrom_ok (by omega), Res.bind_ok] at h
  split at h
  · cases h
  obtain ⟨last, -, h⟩ := Res.bind_eq_ok h
  dsimp only at h
  split at h
  · cases h
  have hl := cbcDec_length_le (P.dec c.key) (ct.take 16) (ct.drop 16) (by rw [List.length_take]; omega)
  rw [goTo_ok (by omega)] at h
  cases h
  simp only [List.length_take, List.length_drop] at hl ⊢
  omega

/-- dispatch of `payloadIters` agrees with the dispatch of `unmarshalPayload` -/
theorem payloadIters_dispatch (nx : UInt8) (body : Bytes) :
    (unmarshalPayload Facts.typeSA nx body = unmarshalSA body ∧ payloadIters Facts.typeSA body = saWork body) ∧
    (unmarshalPayload Facts.typeD nx body = unmarshalDelete body ∧
      payloadIters Facts.typeD body = deleteBodyIters body) ∧
    (unmarshalPayload Facts.typeTSi nx body = unmarshalTS .tsi body ∧
      payloadIters Facts.typeTSi body = tsBodyIters body) ∧
    (unmarshalPayload Facts.typeTSr nx body = unmarshalTS .tsr body ∧
      payloadIters Facts.typeTSr body = tsBodyIters body) ∧
    (unmarshalPayload Facts.typeCP nx body = unmarshalCP body ∧ payloadIters Facts.typeCP body = cpBodyIters body) ∧
    (unmarshalPayload Facts.typeEAP nx body = (do let e ← unmarshalEap body; .ok (.eap e)) ∧
      payloadIters Facts.typeEAP body = eapBodyIters body) :=
  ⟨⟨rfl, rfl⟩, ⟨rfl, rfl⟩, ⟨rfl, rfl⟩, ⟨rfl, rfl⟩, ⟨rfl, rfl⟩, ⟨rfl, rfl⟩⟩

/-- the Security Association payload, with its two nesting levels, is the worst case -/
theorem payloadIters_le (t : UInt8) (body : Bytes) : 4 * payloadIters t body ≤ body.length + 3 := by
  have step {c : UInt8} {x y : Nat} (hx : 4 * x ≤ body.length + 3) (hy : 4 * y ≤ body.length + 3) :
      4 * (if t == c then x else y) ≤ body.length + 3 :=
    ite_beq_cases (motive := fun _ k => 4 * k ≤ body.length + 3) hx hy
  have sa := saWork_le body
  have none : 4 * 0 ≤ body.length + 3 := Nat.zero_le _
  have delete : 4 * deleteBodyIters body ≤ body.length + 3 := by have := deleteBodyIters_le body; omega
  have ts : 4 * tsBodyIters body ≤ body.length + 3 := by have := tsBodyIters_le body; omega
  have cp : 4 * cpBodyIters body ≤ body.length + 3 := by have := cpBodyIters_le body; omega
  have eap : 4 * eapBodyIters body ≤ body.length + 3 := by have := eapBodyIters_le body; omega
  unfold payloadIters
  -- SA, KE, IDi, IDr, CERT, CERTREQ, AUTH, NiNr, N, then D, V, TSi, TSr, SK, CP, EAP
  exact step sa <| step none <| step none <| step none <| step none <| step none <| step none <| step none <|
    step none <| step delete <| step none <| step ts <| step ts <| step none <| step cp <| step eap none

theorem chainBody_some {t : UInt8} {b body : Bytes} (h : chainBody t b = some body) :
    body.length + 4 ≤ (be16 (byteAt b 2) (byteAt b 3)).toNat ∧
    (be16 (byteAt b 2) (byteAt b 3)).toNat ≤ b.length := by
  unfold chainBody at h
  obtain ⟨_, h⟩ := ite_none_eq_some h
  obtain ⟨h4, h⟩ := ite_none_eq_some h
  obtain ⟨hl, h⟩ := ite_none_eq_some h
  have h4 := u16_le_of_not_lt 4 h4
  split at h
  · obtain ⟨_, h⟩ := ite_none_eq_some h
    cases h
    simp only [List.length_drop, List.length_take]
    omega
  · cases h

theorem chainNested_le (t : UInt8) (b : Bytes) :
    chainNested t b = 0 ∨
    (4 * chainNested t b + 1 ≤ (be16 (byteAt b 2) (byteAt b 3)).toNat ∧
     (be16 (byteAt b 2) (byteAt b 3)).toNat ≤ b.length) := by
  unfold chainNested
  exact nested_le (k := 4) (fun _ h => chainBody_some h) fun body => by have := payloadIters_le t body; omega

theorem chainIters_le (t : UInt8) (b : Bytes) : 4 * chainIters t b ≤ b.length + 3 := by
  unfold chainIters
  fun_induction chainCount (fun _ _ => 0) t b with
  | case1 => omega
  | case2 t b h0 op nx n hp hn ih =>
    obtain ⟨-, -, h1, -⟩ := (chainStep_safe t b).of_ok hp
    simp only [List.length_drop] at ih
    omega
  | case3 | case4 | case5 => omega

theorem chainWork_le (t : UInt8) (b : Bytes) : 2 * chainWork t b ≤ b.length + 1 := by
  unfold chainWork
  fun_induction chainCount chainNested t b with
  | case1 => omega
  | case2 t b h0 op nx n hp hn ih =>
    obtain ⟨-, h1, h2, h3, -⟩ := (chainStep_safe t b).of_ok hp
    have hw := chainNested_le t b
    simp only [List.length_drop] at ih
    omega
  | case3 t b | case4 t b | case5 t b => have hw := chainNested_le t b; omega

theorem chainCount_mono (w1 w2 : UInt8 → Bytes → Nat) (hw : ∀ t b, w1 t b ≤ w2 t b) (t : UInt8) (b : Bytes) :
    chainCount w1 t b ≤ chainCount w2 t b := by
  fun_induction chainCount w1 t b with
  | case1 t b h0 => omega
  | case2 t b h0 op nx n hp hn ih =>
    conv => rhs; rw [chainCount]
    simp only [h0, hp, hn, dite_true, dite_false, and_self]
    have := hw t b; omega
  | case3 t b h0 _ _ _ hp hn | case4 t b h0 hp | case5 t b h0 hp =>
    conv => rhs; rw [chainCount]
    simp only [*, dite_false]
    have := hw t b; omega

theorem chainIters_le_chainWork (t : UInt8) (b : Bytes) : chainIters t b ≤ chainWork t b :=
  chainCount_mono _ _ (fun _ _ => Nat.zero_le _) t b

/-- `≤`: payloads of an unknown, non-critical type are skipped by an iteration; on success all
iterations were completed ones, so the bound has no rounding -/
theorem chainIters_tie (t : UInt8) (b : Bytes) (ps : List Payload) (h : decodeChain t b = .ok ps) :
    ps.length ≤ chainIters t b ∧ 4 * chainIters t b ≤ b.length := by
  unfold chainIters
  fun_induction decodeChain t b generalizing ps with
  | case1 t b h0 => simp at h; subst h; unfold chainCount; simp [h0]
  | case2 t b h0 op nx n hp hn rest hrest ih =>
    simp at h; subst h
    have ihr := ih rest hrest
    obtain ⟨-, -, h1, h2, -⟩ := (chainStep_safe t b).of_ok hp
    rw [chainCount]
    simp only [h0, hp, hn, dite_true, dite_false, and_self]
    simp only [List.length_drop] at ihr
    cases op with
    | none => simp only; omega
    | some p => simp only [List.length_cons]; omega
  | case3 | case4 | case5 | case6 | case7 => cases h

theorem msgWork_le (b : Bytes) : 2 * msgWork b ≤ b.length - 27 := by
  -- `chainWork_le` on the `len - 28` octets after the header, its `+ 1` makes the 27; without 28 octets
  -- there is no header and `msgWork` is 0, so the truncated subtraction loses nothing
  unfold msgWork
  cases hh : parseHeader b with
  | ok h =>
    simp only
    obtain ⟨e1, e2⟩ := parseHeader_inv _ _ hh
    have := chainWork_le h.next h.payloadBytes
    rw [e1] at this
    simp only [List.length_drop] at this
    rw [e1]
    omega
  | err => simp
  | fault => simp

theorem lastSKIters_le (ps : List Payload) : lastSKIters ps ≤ ps.length := by
  fun_induction lastSKIters ps with
  | case1 => simp
  | case2 n d rest ih => simp only [List.length_cons]; omega
  | case3 => simp only [List.length_cons]; omega

theorem decryptPayload_length_le (P : Prims) (sa : SAKey) (role : Bool) (ct pt : Bytes)
    (h : decryptPayload P sa role ct = .ok pt) : pt.length + 16 ≤ ct.length := by
  unfold decryptPayload at h
  split at h <;> exact cbcDecrypt_length_le P _ _ _ h

/-- `L - 4` bounds the data of every Encrypted payload of `m`: the scan visits each payload once,
CBC runs once per 16 octets of ciphertext, and the decrypted chain (shorter than the ciphertext)
costs at most one iteration per two octets -/
theorem decryptWork_le (P : Prims) (sa : SAKey) (role : Bool) (msg : Bytes) (m : Msg) (L : Nat)
    (hlen : ∀ k d, Payload.sk k d ∈ m.payloads → d.length + 4 ≤ L) :
    16 * decryptWork P sa role msg m ≤ 16 * m.payloads.length + 9 * L := by
  unfold decryptWork
  have hs := lastSKIters_le m.payloads
  -- an early return: only the payload scan has run
  have base : 16 * (lastSKIters m.payloads + 0) ≤ 16 * m.payloads.length + 9 * L := by omega
  cases hl : lastSK m.payloads none with
  | err | fault => exact base
  | ok o =>
    cases o with
    | none => exact base
    | some x =>
      obtain ⟨next, encData⟩ := x
      have hL := hlen _ _ ((lastSK_mem _ _ _ _ hl).resolve_right nofun)
      simp only
      split
      · exact base
      split
      · exact base
      cases hc : calcIntegrity P sa (!role) (List.take (msg.length - sa.integInfo.outLen) msg) with
      | mk sa1 r =>
        cases r with
        | err | fault => exact base
        | ok expect =>
          simp only
          split
          · exact base
          -- the `9`: CBC runs once per 16 octets of ciphertext (`16 * blocks ≤ L`), the chain decoded from
          -- the plaintext costs at most one iteration per two octets (`16 * w ≤ 8 * L`)
          have fin (w : Nat) (hw : 2 * w ≤ encData.length) :
              16 * (lastSKIters m.payloads +
                (cbcDecryptBlocks (List.take (encData.length - sa.integInfo.outLen) encData) + w)) ≤
              16 * m.payloads.length + 9 * L := by
            have hb := cbcDecryptBlocks_le (List.take (encData.length - sa.integInfo.outLen) encData)
            rw [List.length_take] at hb
            omega
          cases hd : decryptPayload P sa1 role (List.take (encData.length - sa.integInfo.outLen) encData) with
          | err | fault => exact fin 0 (Nat.zero_le _)
          | ok plain =>
            have hp := decryptPayload_length_le P _ _ _ _ hd
            rw [List.length_take] at hp
            have hw := chainWork_le next plain
            exact fin (chainWork next plain) (by omega)

theorem decryptWork_tie (P : Prims) (sa : SAKey) (role : Bool) (msg : Bytes) (m m' : Msg)
    (h : (decryptMsg P sa role msg m).2.2 = .ok m') : m'.payloads.length ≤ decryptWork P sa role msg m := by
  rw [decryptMsg_result] at h
  obtain ⟨o, hl, h⟩ := Res.bind_eq_ok h
  cases o with
  | none => cases h
  | some x =>
    obtain ⟨next, encData⟩ := x
    dsimp only at h
    obtain ⟨h1, h⟩ := Res.ite_err_eq_ok h
    by_cases h2 : msg.length < sa.integInfo.outLen
    · rw [if_pos h2] at h; cases h
    rw [if_neg h2] at h
    obtain ⟨expect, hc, h⟩ := Res.bind_eq_ok h
    obtain ⟨h3, h⟩ := Res.ite_err_eq_ok h
    obtain ⟨plain, hd, h⟩ := Res.bind_eq_ok h
    obtain ⟨ps, hch, h⟩ := Res.bind_eq_ok h
    cases h
    -- success: the inner chain was decoded, and `chainWork next plain`, which counts it, is the last
    -- summand of `decryptWork` on this path
    have := (chainIters_tie next plain ps hch).1
    have := chainIters_le_chainWork next plain
    unfold decryptWork
    rw [hl]
    simp only
    rw [if_neg h1, if_neg h2]
    cases hci : calcIntegrity P sa (!role) (List.take (msg.length - sa.integInfo.outLen) msg) with
    | mk sa1 r =>
      rw [hci] at hc hd
      cases hc
      simp only
      rw [if_neg h3, hd]
      simp only
      omega

theorem unprotectPhase1_fst (hdr : Option Header) (msg : Bytes) :
    (unprotectPhase1 hdr msg).1 =
      (match hdr with
       | none => decodeMsg msg
       | some h => do
         let body ← goFrom msg Facts.ikeHeaderLen
         let ps ← decodeChain h.next body
         .ok ⟨h, ps⟩) := by
  unfold unprotectPhase1
  cases hdr with
  | none => rfl
  | some h => simp only; cases goFrom msg Facts.ikeHeaderLen <;> rfl

theorem unprotectPhase1_le (hdr : Option Header) (msg : Bytes) :
    2 * (unprotectPhase1 hdr msg).2 ≤ msg.length - 27 ∧
    ∀ m, (unprotectPhase1 hdr msg).1 = .ok m →
      4 * m.payloads.length ≤ msg.length - 28 ∧
      ∀ k d, Payload.sk k d ∈ m.payloads → d.length + 4 ≤ msg.length - 28 := by
  have chain {t : UInt8} {body : Bytes} {ps : List Payload} (hc : decodeChain t body = .ok ps) :
      4 * ps.length ≤ body.length ∧ ∀ k d, Payload.sk k d ∈ ps → d.length + 4 ≤ body.length :=
    ⟨by have := chainIters_tie _ _ _ hc; omega, decodeChain_sk_len _ _ _ hc⟩
  unfold unprotectPhase1
  cases hdr with
  | none =>
    refine ⟨msgWork_le msg, fun m hd => ?_⟩
    obtain ⟨hh, hc⟩ := decodeMsg_inv hd
    have := chain hc
    rw [(parseHeader_inv _ _ hh).1, List.length_drop] at this
    exact this
  | some h =>
    dsimp only
    rw [show Facts.ikeHeaderLen = 28 from rfl]
    by_cases h28 : 28 ≤ msg.length
    · rw [goFrom_ok h28]
      dsimp only
      have hw := chainWork_le h.next (msg.drop 28)
      rw [List.length_drop] at hw
      refine ⟨by omega, fun m hd => ?_⟩
      obtain ⟨ps, hc, hd⟩ := Res.bind_eq_ok hd
      cases hd
      have := chain hc
      rw [List.length_drop] at this
      exact this
    · rw [show goFrom msg 28 = .fault by simp [goFrom, h28]]
      exact ⟨Nat.zero_le _, nofun⟩

theorem unprotectWork_le (P : Prims) (sa : Option SAKey) (role : Bool) (hdr : Option Header) (msg : Bytes) :
    16 * unprotectWork P sa role hdr msg ≤ 21 * msg.length := by
  unfold unprotectWork
  obtain ⟨hw, hm⟩ := unprotectPhase1_le hdr msg
  cases hd : unprotectPhase1 hdr msg with
  | mk decoded w =>
    rw [hd] at hw hm
    simp only at hw hm ⊢
    -- nothing but the first phase has run
    have base : 16 * w ≤ 21 * msg.length := by omega
    cases decoded with
    | err | fault => exact base
    | ok m =>
      simp only
      obtain ⟨h1, h2⟩ := hm m rfl
      cases hps : m.payloads with
      | nil => exact base
      | cons p rest =>
        simp only
        split
        · cases sa with
          | none => exact base
          | some k =>
            have := decryptWork_le P k role msg m (msg.length - 28) h2
            have hne : 1 ≤ m.payloads.length := by rw [hps]; exact Nat.succ_pos _
            simp only
            -- the `21`: `16 * w ≤ 8 * len` (`hw`), `16 * payloads ≤ 4 * len` (`h1`), `9 * L ≤ 9 * len`
            omega
        · exact base

end Ike
