import IkeProofs.Lemmas.Bytes
import IkeProofs.Lemmas.Sk

/-! For C07, C08, C16: the model's `prfPlusLoop` against the RFC stream `Spec.prfPlus` (for every state of
the hash object), the Go re-slicing sequences as consecutive slices, and what the key derivations leave
in the SA object.  Defined here, for the statements of those properties: `ikeKeysG`, `SAKey.ofKeys`,
`SAKey.keyTotal`, `ChildKeys.ofSpec`, `ChildSAKey.integLen`, `ChildSAKey.appendKeys`, `childRun`, `AkaKeys.ofSpec`,
the registry rows as descriptors (`EncrInfo.ofEntry` …) and `Prims.toy`, a lawful instance for the
satisfiability examples of C07, C08, C16 (the SK properties have their own, `Prims.skToy` in Sk.lean). -/

namespace Ike

namespace Spec

theorem blocksFrom_length (prf : PRF) (L : Nat) (hL : ∀ k d, (prf k d).length = L) (K S : Bytes) :
    ∀ (n i : Nat) (prev : Bytes), (blocksFrom prf K S n i prev).length = n * L := by
  intro n
  induction n with
  | zero => intro i prev; simp [blocksFrom]
  | succ n ih =>
    intro i prev
    simp only [blocksFrom, List.length_append, ih, hL, Nat.succ_mul]
    omega

/-- `T` is `Spec.T`, the block `T i` of RFC 7296 §2.13 -/
theorem blocksFrom_eq_T (prf : PRF) (K S : Bytes) :
    ∀ (n i : Nat), blocksFrom prf K S n (i + 1) (T prf K S i)
      = (List.range n).flatMap (fun j => T prf K S (i + 1 + j)) := by
  intro n
  induction n with
  | zero => intro i; simp [blocksFrom]
  | succ n ih =>
    intro i
    have hT : prf K (T prf K S i ++ S ++ [UInt8.ofNat (i + 1)]) = T prf K S (i + 1) := rfl
    simp only [blocksFrom, hT, ih (i + 1), List.range_succ_eq_map, List.flatMap_cons, List.flatMap_map,
      Nat.add_zero]
    congr 1
    refine congrArg (List.flatMap · _) (funext fun j => ?_)
    simp only [Nat.succ_eq_add_one]
    congr 1
    omega

theorem prfPlus_eq_T (prf : PRF) (K S : Bytes) (n : Nat) :
    prfPlus prf K S n = (List.range n).flatMap (fun j => T prf K S (j + 1)) := by
  have h := blocksFrom_eq_T prf K S n 0
  simp only [T, Nat.zero_add] at h
  rw [prfPlus, h]
  refine congrArg (List.flatMap · _) (funext fun j => ?_)
  congr 1
  omega

theorem blocksFor_zero (L : Nat) : blocksFor 0 L = 0 := by
  unfold blocksFor
  by_cases h : L = 0
  · subst h; simp
  · rw [Nat.div_eq_of_lt (by omega)]

theorem blocksFor_step (r L : Nat) (hr : 0 < r) (hL : 0 < L) : blocksFor r L = blocksFor (r - L) L + 1 := by
  unfold blocksFor
  -- both sides are `(r - 1) / L + 1`
  rw [show r + L - 1 = (r - 1) + L by omega, Nat.add_div_right _ hL]
  by_cases h : L ≤ r
  · rw [show r - L + L - 1 = r - 1 by omega]
  · rw [Nat.div_eq_of_lt (by omega : r - 1 < L), Nat.div_eq_of_lt (by omega : r - L + L - 1 < L)]

theorem blocksFor_covers (n L : Nat) (hL : 0 < L) : n ≤ blocksFor n L * L := by
  unfold blocksFor
  have h1 := Nat.div_add_mod (n + L - 1) L
  have h2 := Nat.mod_lt (n + L - 1) hL
  rw [Nat.mul_comm] at h1
  omega

theorem blocksFor_tight (n L : Nat) (hn : 0 < n) (hL : 0 < L) : (blocksFor n L - 1) * L < n := by
  unfold blocksFor
  have h1 := Nat.div_add_mod (n + L - 1) L
  have h2 := Nat.mod_lt (n + L - 1) hL
  rw [Nat.mul_comm] at h1
  have h3 : 0 < (n + L - 1) / L := Nat.div_pos (by omega) hL
  rw [Nat.sub_mul]
  omega

theorem blocksFor_le_255 (n L : Nat) (hL : 0 < L) (hn : n ≤ 255 * L) : blocksFor n L ≤ 255 := by
  unfold blocksFor
  have : (n + L - 1) / L < 256 := by
    rw [Nat.div_lt_iff_lt_mul hL]; omega
  omega

end Spec

/-- The loop of `lib.PrfPlus`, from any intermediate state: as long as the fuel
covers the octets still missing, the stream grows by exactly the RFC blocks
`T i | T (i+1) | …` computed with the object's key, whatever the object's write
buffer held; key and algorithm of the object are unchanged. -/
theorem prfPlusLoop_spec (P : Prims) (hP : P.Lawful) (s : Bytes) (n a : Nat) (K : Bytes)
    (hL : 0 < P.macLen a) :
    ∀ (fuel : Nat) (h : HashObj) (i : Nat) (stream block : Bytes),
      h.alg = a → h.key = K → n ≤ stream.length + fuel * P.macLen a →
      (prfPlusLoop P s n fuel h i stream block).2
          = stream ++ Spec.blocksFrom (P.mac a) K s (Spec.blocksFor (n - stream.length) (P.macLen a)) i block := by
  intro fuel
  induction fuel with
  | zero =>
    intro h i stream block ha hk hfuel
    have h0 : n - stream.length = 0 := by omega
    simp [prfPlusLoop, h0, Spec.blocksFor_zero, Spec.blocksFrom]
  | succ fuel ih =>
    intro h i stream block ha hk hfuel
    unfold prfPlusLoop
    by_cases hlt : stream.length < n
    · rw [if_pos hlt]
      simp only [HashObj.reset, HashObj.write, HashObj.sum, HashObj.size, List.nil_append, ha, hk]
      have hm : (P.mac a K (block ++ s ++ [UInt8.ofNat i])).length = P.macLen a := hP.mac_len _ _ _
      have hblock : List.drop ((stream ++ P.mac a K (block ++ s ++ [UInt8.ofNat i])).length - P.macLen a)
          (stream ++ P.mac a K (block ++ s ++ [UInt8.ofNat i])) = P.mac a K (block ++ s ++ [UInt8.ofNat i]) := by
        have : (stream ++ P.mac a K (block ++ s ++ [UInt8.ofNat i])).length - P.macLen a = stream.length := by
          rw [List.length_append, hm]; omega
        rw [this]; simp
      rw [hblock]
      have hfuel' : n ≤ (stream ++ P.mac a K (block ++ s ++ [UInt8.ofNat i])).length + fuel * P.macLen a := by
        rw [List.length_append, hm]; rw [Nat.succ_mul] at hfuel; omega
      rw [ih ⟨a, K, block ++ s ++ [UInt8.ofNat i]⟩ (i + 1) (stream ++ P.mac a K (block ++ s ++ [UInt8.ofNat i]))
        (P.mac a K (block ++ s ++ [UInt8.ofNat i])) rfl rfl hfuel', Spec.blocksFor_step (n - stream.length) _ (by omega) hL]
      have : n - (stream ++ P.mac a K (block ++ s ++ [UInt8.ofNat i])).length = n - stream.length - P.macLen a := by
        rw [List.length_append, hm]; omega
      rw [this]
      simp only [Spec.blocksFrom, List.append_assoc]
    · rw [if_neg hlt]
      have h0 : n - stream.length = 0 := by omega
      simp [h0, Spec.blocksFor_zero, Spec.blocksFrom]

theorem prfPlus_spec (P : Prims) (hP : P.Lawful) (h : HashObj) (s : Bytes) (n : Nat)
    (hL : 0 < P.macLen h.alg) :
    (prfPlus P h s n).2 = .ok (Spec.prfPlusN (P.mac h.alg) (P.macLen h.alg) h.key s n)
      ∧ (prfPlus P h s n).1.alg = h.alg ∧ (prfPlus P h s n).1.key = h.key := by
  have hfuel : n ≤ ([] : Bytes).length + (n + 1) * P.macLen h.alg := by
    have : n + 1 ≤ (n + 1) * P.macLen h.alg := Nat.le_mul_of_pos_right _ hL
    simp only [List.length_nil]; omega
  have h1 := prfPlusLoop_spec P hP s n h.alg h.key hL (n + 1) h 1 [] [] rfl rfl hfuel
  simp only [List.length_nil, Nat.sub_zero, List.nil_append] at h1
  refine ⟨?_, (prfPlus_sim P h h (.refl h) s n).2⟩
  unfold prfPlus
  show goTo (prfPlusLoop P s n (n + 1) h 1 [] []).2 n = _
  rw [h1, goTo_ok]
  · rfl
  · rw [Spec.blocksFrom_length _ _ (fun k d => hP.mac_len h.alg k d)]
    exact Spec.blocksFor_covers n _ hL

theorem Spec.prfPlusN_length (prf : Spec.PRF) (L : Nat) (hlen : ∀ k d, (prf k d).length = L) (hL : 0 < L)
    (K S : Bytes) (n : Nat) : (Spec.prfPlusN prf L K S n).length = n := by
  unfold Spec.prfPlusN Spec.prfPlus
  rw [List.length_take, Spec.blocksFrom_length prf L hlen]
  have := Spec.blocksFor_covers n L hL
  omega

theorem sliceIkeKeys_ok (ks : Bytes) (lD lA lE : Nat)
    (hlen : lD + lA + lA + lE + lE + lD + lD ≤ ks.length) :
    sliceIkeKeys ks lD lA lE = .ok
      { d  := ks.take lD,
        ai := (ks.drop lD).take lA,
        ar := (ks.drop (lD + lA)).take lA,
        ei := (ks.drop (lD + lA + lA)).take lE,
        er := (ks.drop (lD + lA + lA + lE)).take lE,
        pi := (ks.drop (lD + lA + lA + lE + lE)).take lD,
        pr := (ks.drop (lD + lA + lA + lE + lE + lD)).take lD } := by
  -- every prefix of the sum of the seven lengths fits
  have h6 := Nat.le_of_add_right_le hlen
  have h5 := Nat.le_of_add_right_le h6
  have h4 := Nat.le_of_add_right_le h5
  have h3 := Nat.le_of_add_right_le h4
  have h2 := Nat.le_of_add_right_le h3
  have h1 := Nat.le_of_add_right_le h2
  unfold sliceIkeKeys
  rw [goTo_goFrom ks lD h1, goTo_goFrom_drop ks _ lA h2, goTo_goFrom_drop ks _ lA h3,
    goTo_goFrom_drop ks _ lE h4, goTo_goFrom_drop ks _ lE h5, goTo_goFrom_drop ks _ lD h6,
    goTo_ok (by rw [List.length_drop]; omega)]
  rfl

theorem childSplit_ok (ks : Bytes) (lE lA : Nat) (hlen : (lE + lA) * 2 ≤ ks.length) :
    childSplit lE lA ks = .ok
      { encr_i2r := ks.take lE,
        integ_i2r := (ks.drop lE).take lA,
        encr_r2i := (ks.drop (lE + lA)).take lE,
        integ_r2i := (ks.drop (lE + lA + lE)).take lA } := by
  unfold childSplit
  rw [goTo_goFrom ks lE (by omega), goTo_goFrom_drop ks _ lA (by omega), goTo_goFrom_drop ks _ lE (by omega),
    goTo_ok (by rw [List.length_drop]; omega)]
  rfl

theorem appendChildKeys_ok (c : ChildSAKey) (ks : Bytes) (lE lA : Nat) (hlen : (lE + lA) * 2 ≤ ks.length) :
    appendChildKeys c ks lE lA = .ok
      { c with i2rEncr := c.i2rEncr ++ ks.take lE,
               i2rInteg := c.i2rInteg ++ (ks.drop lE).take lA,
               r2iEncr := c.r2iEncr ++ (ks.drop (lE + lA)).take lE,
               r2iInteg := c.r2iInteg ++ (ks.drop (lE + lA + lE)).take lA } := by
  unfold appendChildKeys
  rw [goTo_goFrom ks lE (by omega), goTo_goFrom_drop ks _ lA (by omega), goTo_goFrom_drop ks _ lE (by omega),
    goTo_ok (by rw [List.length_drop]; omega)]
  rfl

/-- the model's SPI encoder is the 8-octet big-endian string of the specification: both have
eight octets and the same value -/
theorem put64_eq_natToBytes (v : UInt64) : put64 v = natToBytes 8 v.toNat :=
  beNat_inj _ _ (by rw [natToBytes_length]; rfl)
    (by rw [beNat_put64, beNat_natToBytes, Nat.mod_eq_of_lt v.toNat_lt])

theorem concatNonceSpi_eq (nonce : Bytes) (spiI spiR : UInt64) :
    concatNonceSpi nonce spiI spiR = nonce ++ Spec.spiBytes spiI ++ Spec.spiBytes spiR := by
  simp only [concatNonceSpi, Spec.spiBytes, put64_eq_natToBytes]

/-- RFC 7296 §2.14 for a prf whose output length `outLen` need not equal the
length `prfLen` of the keys taken for it (`Spec.ikeKeys` is the case `outLen = prfLen`,
which holds for the three HMAC PRFs). -/
def ikeKeysG (prf : Spec.PRF) (outLen prfLen integLen encrLen : Nat) (nonces gir : Bytes) (spiI spiR : UInt64) :
    Spec.IkeKeys :=
  let total := prfLen + integLen + integLen + encrLen + encrLen + prfLen + prfLen
  let s := Spec.prfPlusN prf outLen (Spec.skeyseed prf nonces gir)
    (nonces ++ Spec.spiBytes spiI ++ Spec.spiBytes spiR) total
  { d  := s.take prfLen,
    ai := (s.drop prfLen).take integLen,
    ar := (s.drop (prfLen + integLen)).take integLen,
    ei := (s.drop (prfLen + integLen + integLen)).take encrLen,
    er := (s.drop (prfLen + integLen + integLen + encrLen)).take encrLen,
    pi := (s.drop (prfLen + integLen + integLen + encrLen + encrLen)).take prfLen,
    pr := (s.drop (prfLen + integLen + integLen + encrLen + encrLen + prfLen)).take prfLen }

theorem ikeKeysG_eq_spec (prf : Spec.PRF) (prfLen integLen encrLen : Nat) (nonces gir : Bytes) (spiI spiR : UInt64) :
    ikeKeysG prf prfLen prfLen integLen encrLen nonces gir spiI spiR
      = Spec.ikeKeys prf prfLen integLen encrLen nonces gir spiI spiR := rfl

/-- the SA object `GenerateKeyForIKESA` builds around a key set -/
def SAKey.ofKeys (e : EncrInfo) (i : IntegInfo) (p : PrfInfo) (k : Spec.IkeKeys) : SAKey :=
  SAKey.fresh e i p k.d k.ai k.ar k.ei k.er k.pi k.pr

/-- total length of the IKE SA key stream for the SA's descriptors -/
def SAKey.keyTotal (sa : SAKey) : Nat :=
  sa.prfInfo.keyLen + sa.integInfo.keyLen + sa.integInfo.keyLen + sa.encrInfo.keyLen + sa.encrInfo.keyLen
    + sa.prfInfo.keyLen + sa.prfInfo.keyLen

theorem newCrypto_ok {n : Nat} {key : Bytes} (h : key.length = n) : newCrypto n key = .ok ⟨key⟩ :=
  if_neg fun hne => hne h

theorem IntegInfo.init_ok {i : IntegInfo} {key : Bytes} (h : key.length = i.keyLen) :
    i.init key = some ⟨i.hash, key, []⟩ := if_pos h

/-- `GenerateKeyForIKESA` on ANY previous contents of the SA object: with
non-empty nonces and secret and a non-zero total key length it succeeds and
leaves exactly the object built from the RFC key set. -/
theorem genKeyForIKESA_ok (P : Prims) (hP : P.Lawful) (sa : SAKey) (nonce secret : Bytes) (spiI spiR : UInt64)
    (hL : 0 < P.macLen sa.prfInfo.hash) (hn : nonce.length ≠ 0) (hs : secret.length ≠ 0)
    (ht : 0 < sa.keyTotal) :
    genKeyForIKESA P sa nonce secret spiI spiR =
      (SAKey.ofKeys sa.encrInfo sa.integInfo sa.prfInfo
         (ikeKeysG (P.mac sa.prfInfo.hash) (P.macLen sa.prfInfo.hash) sa.prfInfo.keyLen sa.integInfo.keyLen
            sa.encrInfo.keyLen nonce secret spiI spiR), .ok ()) := by
  have hspec := (prfPlus_spec P hP ⟨sa.prfInfo.hash, P.mac sa.prfInfo.hash nonce secret, []⟩
    (nonce ++ Spec.spiBytes spiI ++ Spec.spiBytes spiR) sa.keyTotal hL).1
  have hlen := Spec.prfPlusN_length (P.mac sa.prfInfo.hash) (P.macLen sa.prfInfo.hash)
    (fun k d => hP.mac_len sa.prfInfo.hash k d) hL (P.mac sa.prfInfo.hash nonce secret)
    (nonce ++ Spec.spiBytes spiI ++ Spec.spiBytes spiR) sa.keyTotal
  unfold genKeyForIKESA
  rw [if_neg hn, if_neg hs]
  simp only [PrfInfo.init, HashObj.write, HashObj.sum, List.nil_append, concatNonceSpi_eq]
  unfold SAKey.keyTotal at hspec hlen ht
  -- the call returned the RFC stream (`hspec`); of that stream only its length is needed from here on (`hlen`)
  generalize prfPlus P ⟨sa.prfInfo.hash, P.mac sa.prfInfo.hash nonce secret, []⟩
    (nonce ++ Spec.spiBytes spiI ++ Spec.spiBytes spiR) _ = r at hspec
  obtain ⟨h', res⟩ := r
  subst hspec
  simp only [ikeKeysG, Spec.skeyseed]
  generalize Spec.prfPlusN (P.mac sa.prfInfo.hash) (P.macLen sa.prfInfo.hash)
    (P.mac sa.prfInfo.hash nonce secret) (nonce ++ Spec.spiBytes spiI ++ Spec.spiBytes spiR) _ = st at hlen
  have hne : st.isEmpty = false := by
    cases st with
    | nil => exact absurd hlen (by simp only [List.length_nil]; omega)
    | cons _ _ => rfl
  rw [hne, sliceIkeKeys_ok st _ _ _ (by omega)]
  simp only [Bool.false_eq_true, if_false]
  -- the key-length guards of `INTEGType.Init` and `NewCrypto`: each slice has its descriptor's length
  rw [IntegInfo.init_ok (length_take_drop st _ _ (by omega)), IntegInfo.init_ok (length_take_drop st _ _ (by omega)),
    newCrypto_ok (length_take_drop st _ _ (by omega)), newCrypto_ok (length_take_drop st _ _ (by omega))]
  rfl

/-- the refusals of `GenerateKeyForIKESA`: empty nonces, empty secret, or no key
octets to derive; the SA object is left as it was. -/
theorem genKeyForIKESA_err (P : Prims) (hP : P.Lawful) (sa : SAKey) (nonce secret : Bytes) (spiI spiR : UInt64)
    (hL : 0 < P.macLen sa.prfInfo.hash)
    (h : nonce.length = 0 ∨ secret.length = 0 ∨ sa.keyTotal = 0) :
    genKeyForIKESA P sa nonce secret spiI spiR = (sa, .err) := by
  unfold genKeyForIKESA
  by_cases hn : nonce.length = 0
  · rw [if_pos hn]
  rw [if_neg hn]
  by_cases hs : secret.length = 0
  · rw [if_pos hs]
  rw [if_neg hs]
  have ht : sa.keyTotal = 0 := by
    rcases h with h | h | h
    · exact absurd h hn
    · exact absurd h hs
    · exact h
  simp only [PrfInfo.init, HashObj.write, HashObj.sum, List.nil_append]
  have hspec := (prfPlus_spec P hP ⟨sa.prfInfo.hash, P.mac sa.prfInfo.hash nonce secret, []⟩
    (concatNonceSpi nonce spiI spiR) sa.keyTotal hL).1
  rw [ht] at hspec
  simp only [SAKey.keyTotal] at ht
  rw [ht]
  generalize prfPlus P ⟨sa.prfInfo.hash, P.mac sa.prfInfo.hash nonce secret, []⟩
    (concatNonceSpi nonce spiI spiR) 0 = r at hspec
  obtain ⟨h', res⟩ := r
  simp only [Spec.prfPlusN, List.take_zero] at hspec
  subst hspec
  simp

/-- the model's record for the specification's four keys -/
def ChildKeys.ofSpec (k : Spec.ChildKeys) : ChildKeys := ⟨k.ei, k.ai, k.er, k.ar⟩

theorem prfPlus_ok_length (P : Prims) (h : HashObj) (s : Bytes) (n : Nat) (ks : Bytes)
    (hok : (prfPlus P h s n).2 = .ok ks) : ks.length = n := by
  unfold prfPlus goTo at hok
  simp only at hok
  split at hok
  · injection hok with hok
    subst hok
    rw [List.length_take]; omega
  · cases hok

/-- `GenerateKeyForChildSA` through its one call of `PrfPlus`: of the SA object only `Prf_d` changes, and the
outcome is a function of the stream that call returns -/
theorem childKeys_eq_prfPlus (P : Prims) (sa : SAKey) (encrLen integLen : Nat) (nonce : Bytes) :
    childKeys P sa encrLen integLen nonce =
      ({ sa with prf_d := (prfPlus P sa.prf_d nonce ((encrLen + integLen) * 2)).1 },
       (prfPlus P sa.prf_d nonce ((encrLen + integLen) * 2)).2 >>= fun ks =>
         if (encrLen + integLen) * 2 = 0 then .err else childSplit encrLen integLen ks) := by
  unfold childKeys
  simp only
  generalize prfPlus P sa.prf_d nonce ((encrLen + integLen) * 2) = r
  obtain ⟨h', res⟩ := r
  cases res with
  | ok ks => simp only [Res.bind_ok]; split <;> rfl
  | err => rfl
  | fault => rfl

theorem childKeys_spec (P : Prims) (hP : P.Lawful) (sa : SAKey) (encrLen integLen : Nat) (nonce : Bytes)
    (hL : 0 < P.macLen sa.prf_d.alg) :
    (childKeys P sa encrLen integLen nonce).2 =
      if (encrLen + integLen) * 2 = 0 then .err
      else .ok (ChildKeys.ofSpec
        (Spec.keymat (P.mac sa.prf_d.alg) (P.macLen sa.prf_d.alg) sa.prf_d.key nonce encrLen integLen)) := by
  have hlen := Spec.prfPlusN_length (P.mac sa.prf_d.alg) (P.macLen sa.prf_d.alg)
    (fun k d => hP.mac_len sa.prf_d.alg k d) hL sa.prf_d.key nonce ((encrLen + integLen) * 2)
  rw [childKeys_eq_prfPlus, (prfPlus_spec P hP sa.prf_d nonce ((encrLen + integLen) * 2) hL).1, Res.bind_ok]
  by_cases h0 : (encrLen + integLen) * 2 = 0
  · rw [if_pos h0, if_pos h0]
  · rw [if_neg h0, if_neg h0, childSplit_ok _ _ _ (by omega)]
    simp only [ChildKeys.ofSpec, Spec.keymat, Nat.mul_comm 2]

theorem childKeys_prf_d (P : Prims) (sa : SAKey) (encrLen integLen : Nat) (nonce : Bytes) :
    (childKeys P sa encrLen integLen nonce).1.prf_d.Sim sa.prf_d := by
  rw [childKeys_eq_prfPlus]
  exact (prfPlus_sim P _ _ (.refl _) _ _).2

/-- the outcome of a derivation depends on the SA object only through hash and key of `Prf_d` -/
theorem childKeys_congr (P : Prims) (sa sa' : SAKey) (encrLen integLen : Nat) (nonce : Bytes)
    (h : sa'.prf_d.Sim sa.prf_d) :
    (childKeys P sa' encrLen integLen nonce).2 = (childKeys P sa encrLen integLen nonce).2 := by
  rw [childKeys_eq_prfPlus, childKeys_eq_prfPlus, (prfPlus_sim P _ _ h _ _).1]

/-- integrity key length read by `GenerateKeyForChildSA`: 0 when `IntegKInfo` is nil -/
def ChildSAKey.integLen (c : ChildSAKey) : Nat :=
  match c.integKeyLen with
  | some n => n
  | none => 0

/-- the `ChildSAKey` object after the four `append`s -/
def ChildSAKey.appendKeys (c : ChildSAKey) (k : ChildKeys) : ChildSAKey :=
  { c with i2rEncr := c.i2rEncr ++ k.encr_i2r, i2rInteg := c.i2rInteg ++ k.integ_i2r,
           r2iEncr := c.r2iEncr ++ k.encr_r2i, r2iInteg := c.r2iInteg ++ k.integ_r2i }

theorem genKeyForChildSA_eq_childKeys (P : Prims) (sa : SAKey) (c : ChildSAKey) (nonce : Bytes) :
    genKeyForChildSA P sa c nonce =
      ((childKeys P sa c.encrKeyLen c.integLen nonce).1,
       (childKeys P sa c.encrKeyLen c.integLen nonce).2 >>= fun k => .ok (c.appendKeys k)) := by
  have hlen := prfPlus_ok_length P sa.prf_d nonce ((c.encrKeyLen + c.integLen) * 2)
  -- the body of `genKeyForChildSA` with `c.integLen` for its inline `match` on the optional integrity length:
  -- equal by `rfl` once that option is a constructor
  have hI : genKeyForChildSA P sa c nonce =
      (match prfPlus P sa.prf_d nonce ((c.encrKeyLen + c.integLen) * 2) with
       | (h, .err) => ({ sa with prf_d := h }, .err)
       | (h, .fault) => ({ sa with prf_d := h }, .fault)
       | (h, .ok keyStream) =>
         if keyStream.isEmpty then ({ sa with prf_d := h }, .err)
         else ({ sa with prf_d := h }, appendChildKeys c keyStream c.encrKeyLen c.integLen)) := by
    obtain ⟨eL, iL, f1, f2, f3, f4⟩ := c
    cases iL <;> rfl
  rw [hI]
  unfold childKeys
  simp only
  generalize prfPlus P sa.prf_d nonce ((c.encrKeyLen + c.integLen) * 2) = r at hlen
  obtain ⟨h', res⟩ := r
  cases res with
  | err => rfl
  | fault => rfl
  | ok ks =>
    have hl := hlen ks rfl
    simp only
    by_cases h0 : (c.encrKeyLen + c.integLen) * 2 = 0
    · have : ks = [] := List.eq_nil_of_length_eq_zero (by omega)
      subst this
      rw [if_pos h0]; simp
    · have hne : ks.isEmpty = false := by
        cases ks with
        | nil => simp at hl; omega
        | cons _ _ => rfl
      rw [if_neg h0, hne]
      simp only [Bool.false_eq_true, if_false]
      rw [appendChildKeys_ok c ks _ _ (by omega), childSplit_ok ks _ _ (by omega)]
      rfl

/-! For the histories of C08 (`saRun`, `childRun`); that every operation keeps hash and key of `Prf_d` is
`(saStep_sim_self P sa op).prf_d` of Sk.lean. -/

theorem saRun_cons (P : Prims) (sa : SAKey) (op : SaOp) (rest : List SaOp) :
    saRun P sa (op :: rest) = (saStep P sa op).2 :: saRun P (saStep P sa op).1 rest := by
  simp only [saRun]

theorem saStep_child_congr (P : Prims) (sa sa' : SAKey) (e a : Nat) (n : Bytes) (h : sa'.prf_d.Sim sa.prf_d) :
    (saStep P sa' (.child e a n)).2 = (saStep P sa (.child e a n)).2 := by
  rw [saStep_child, saStep_child, childKeys_congr P sa sa' e a n h]

/-- a history of `GenerateKeyForChildSA` calls (the `Keys.genKeyForChildSA` model: one
`ChildSAKey` object and nonce string per call) on ONE IKE SA object -/
def childRun (P : Prims) : SAKey → List (ChildSAKey × Bytes) → List (Res ChildSAKey)
  | _, [] => []
  | sa, d :: rest => (genKeyForChildSA P sa d.1 d.2).2 :: childRun P (genKeyForChildSA P sa d.1 d.2).1 rest

theorem akaPrfLoop_spec (P : Prims) (key sBase : Bytes) :
    ∀ (n i : Nat) (mk prev : Bytes),
      akaPrfLoop P key sBase n i mk prev = mk ++ Spec.blocksFrom (P.mac 2) key sBase n (i + 1) prev := by
  intro n
  induction n with
  | zero => intro i mk prev; simp [akaPrfLoop, Spec.blocksFrom]
  | succ n ih =>
    intro i mk prev
    simp only [akaPrfLoop, Spec.blocksFrom, ih, List.append_assoc]

/-- the model's record for the specification's five keys -/
def AkaKeys.ofSpec (k : Spec.AkaPrimeKeys) : AkaKeys := ⟨k.kEncr, k.kAut, k.kRe, k.msk, k.emsk⟩

/-- `P.mac 2` is HMAC-SHA-256 (hash number 2 of the registry), `h32` its digest length; the loop makes
`akaPrfRounds` = 7 blocks = 224 octets, of which MK is the first 208 (RFC 5448 §3.3) -/
theorem akaPrf_spec (P : Prims) (hP : P.Lawful) (h32 : P.macLen 2 = 32) (ik ck identity : Bytes)
    (hik : ik.length ≠ 0) (hck : ck.length ≠ 0) :
    akaPrf P ik ck identity = .ok (AkaKeys.ofSpec (Spec.akaPrimeKeys (P.mac 2) ik ck identity)) := by
  unfold akaPrf
  have hc : (ik.length = 0 || ck.length = 0) = false := by simp [hik, hck]
  rw [hc]
  simp only [Bool.false_eq_true, if_false, akaPrfLoop_spec, List.nil_append]
  have hlen : (Spec.blocksFrom (P.mac 2) (ik ++ ck) (akaLabel ++ identity) akaPrfRounds (0 + 1) []).length = 224 := by
    rw [Spec.blocksFrom_length _ 32 (fun k d => by rw [hP.mac_len, h32])]; rfl
  have hmk : Spec.prfPrime (P.mac 2) (ik ++ ck) (Spec.akaPrimeLabel ++ identity) 208
      = (Spec.blocksFrom (P.mac 2) (ik ++ ck) (akaLabel ++ identity) akaPrfRounds (0 + 1) []).take 208 := rfl
  simp only [AkaKeys.ofSpec, Spec.akaPrimeKeys, hmk]
  generalize Spec.blocksFrom (P.mac 2) (ik ++ ck) (akaLabel ++ identity) akaPrfRounds (0 + 1) [] = mk at hlen
  rw [if_neg (by omega)]
  rw [goSlice_ok (by omega) (by omega), goSlice_ok (by omega) (by omega), goSlice_ok (by omega) (by omega),
    goSlice_ok (by omega) (by omega), goSlice_ok (by omega) (by omega)]
  simp only [Res.bind_ok, Res.pure_eq, List.drop_take, List.take_take, List.drop_zero]
  rfl

/-- a row of the regenerated registry tables `Facts.encrTable` / `integTable` / `prfTable` as the descriptor
the registry model builds from it (`advertisedEncr` … in Security/Registry.lean) -/
def EncrInfo.ofEntry (t : UInt16 × Nat) : EncrInfo := ⟨t.1, t.2⟩
def IntegInfo.ofEntry (t : UInt16 × Nat × Nat × Nat) : IntegInfo := ⟨t.1, t.2.1, t.2.2.1, t.2.2.2⟩
def PrfInfo.ofEntry (t : UInt16 × Nat × Nat × Nat) : PrfInfo := ⟨t.1, t.2.1, t.2.2.1, t.2.2.2⟩

theorem prfTable_keyLen_eq_outLen :
    ∀ q ∈ Facts.prfTable, (PrfInfo.ofEntry q).keyLen = (PrfInfo.ofEntry q).outLen ∧ 0 < (PrfInfo.ofEntry q).outLen := by
  decide

/-- A toy instance of the primitives that satisfies the laws (NOT the real
algorithms): the "MAC" repeats the xor of all key and message octets, the block
"cipher" is the identity.  Used only to show that theorem hypotheses are satisfiable. -/
def Prims.toy : Prims where
  mac h k m := List.replicate (hashLen h) ((k ++ m).foldl (· ^^^ ·) (UInt8.ofNat h))
  macLen := hashLen
  enc _ b := b
  dec _ b := b

theorem Prims.toy_lawful : Prims.toy.Lawful where
  mac_len _ _ _ := by simp [Prims.toy]
  enc_len _ _ h := h
  dec_len _ _ h := h
  dec_enc _ _ _ := rfl

end Ike
