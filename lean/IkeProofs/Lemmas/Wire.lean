import IkeProofs.Lemmas.Bytes
import IkeModel.Spec.Wire

/-! The decoders of the model on what an RFC 7296 sender may emit (`Spec.encode`, IkeModel/Spec/Wire.lean).

This file also DEFINES the encodable domain of transforms and proposals, `Transform.Dom` and `Proposal.Dom`
(`Payload.Dom`, `Msg.Dom` are in Theorems/C03.lean, `DomEap` in Lemmas/Eap.lean).

Names: `X_frame…` the decoder `X` on octets of the RFC figure's shape, every sender-chosen octet a variable;
`X_encode` decoder `X` ∘ `Spec.encode…` = identity under every admissible liberty; `encodeX_canonical`
`Spec.encodeX` at the canonical liberties = the model's `marshalX`; `marshalX_spec` the same fact read from the
model's side (`marshalX = Spec.encodeX 0 …`); `encodeX_ok` what `encodeX` wrote when it returned `.ok`.
Traffic selectors have no liberty, so their lemmas (`marshalTSel_ok`, `rt_TSels`) speak of the model's encoder;
Notify, Delete and CERT have none either and are walked in Lemmas/RoundTrip.lean.

How a `_frame` lemma is proved (the same five steps each time): `generalize` the octet string to `b`; unfold the
`put16`s in its defining equation `hb` so that `b` is `o₀ :: o₁ :: … :: tail`; state everything the decoder will
read as `gK : goX b K = .ok _` (by `rfl`, or `be16_put` for a 16-bit field; a segment by `goSlice_mid`, whose first
argument `[_, _, …]` is the fixed-size header in front of the segment); `unfold` the decoder; one `rw` along it. -/

namespace Ike

/-- transforms of the encodable domain: no attribute, a TV attribute, or a TLV attribute with a non-empty value; attribute type < 2^15 -/
def Transform.Dom (t : Transform) : Prop :=
  (t.present = false ∧ t.fmt = 0 ∧ t.atype = 0 ∧ t.aval = 0 ∧ t.vval = []) ∨
  (t.present = true ∧ t.fmt = 1 ∧ t.atype.toNat < 32768 ∧ t.vval = []) ∨
  (t.present = true ∧ t.fmt = 0 ∧ t.atype.toNat < 32768 ∧ t.aval = 0 ∧ t.vval ≠ [])

/-- proposals of the encodable domain -/
def Proposal.Dom (p : Proposal) : Prop :=
  (∀ t ∈ p.encr, t.ttype = Facts.ttEncr ∧ t.Dom) ∧ (∀ t ∈ p.prf, t.ttype = Facts.ttPrf ∧ t.Dom) ∧
  (∀ t ∈ p.integ, t.ttype = Facts.ttInteg ∧ t.Dom) ∧ (∀ t ∈ p.dh, t.ttype = Facts.ttDh ∧ t.Dom) ∧
  (∀ t ∈ p.esn, t.ttype = Facts.ttEsn ∧ t.Dom)

open Spec

/-! ### §3.3.5 transform attribute, §3.3.2 transform -/

theorem encodeAttr_canonical (t : Transform) (hd : t.Dom) : encodeAttr t = marshalAttr t := by
  unfold encodeAttr marshalAttr
  rcases hd with ⟨h1, h2, h3, h4, h5⟩ | ⟨h1, h2, h3, h5⟩ | ⟨h1, h2, h3, h4, h5⟩
  · simp [h1]
  · have hw : UInt16.ofNat (32768 + t.atype.toNat) = (0x8000 : UInt16) ||| t.atype := by
      apply UInt16.toNat_inj.mp
      rw [u16_or_8000 _ h3, toNat_ofNat_u16 _ (by omega)]
    -- the model's format/type word `((fmt & 1) << 15) | type` with `fmt = 1`
    have hft : (((1 : UInt8).toUInt16 &&& 1) <<< 15) ||| t.atype = (0x8000 : UInt16) ||| t.atype := rfl
    simp only [h1, h2, Bool.not_true, Bool.false_eq_true, if_false]
    rw [if_neg (by omega), if_pos trivial, if_neg (by decide), hw, hft]
  · have hft : (((0 : UInt8).toUInt16 &&& 1) <<< 15) ||| t.atype = t.atype := by
      apply UInt16.toNat_inj.mp
      simp
    have hne : ¬ t.vval.length = 0 := fun hc => h5 (List.eq_nil_of_length_eq_zero hc)
    simp only [h1, h2, Bool.not_true, Bool.false_eq_true, if_false]
    rw [if_neg (by omega), if_neg (by decide : ¬ (0 : UInt8) = 1), if_pos (by decide : ((0 : UInt8) == 0) = true),
      hft, if_neg hne]
    simp

theorem encodeTransform_canonical (t : Transform) (last : Bool) (hd : t.Dom) :
    encodeTransform {} last t = marshalTransform last t := by
  unfold encodeTransform marshalTransform
  rw [encodeAttr_canonical t hd]

/-- the decoder on a transform substructure without attribute (length field 8) -/
theorem parseTransform_frame (m r1 tt r2 : UInt8) (v tid : UInt16) (rest : Bytes) (hv : v.toNat = 8) :
    parseTransform ([m, r1] ++ put16 v ++ [tt, r2] ++ put16 tid ++ rest) = .ok (⟨tt, tid, false, 0, 0, 0, []⟩, 8) := by
  have h8 : ¬ v < 8 := by rw [UInt16.lt_iff_toNat_lt, hv]; exact Nat.lt_irrefl 8
  have h8' : ¬ v > 8 := by rw [gt_iff_lt, UInt16.lt_iff_toNat_lt, hv]; exact Nat.lt_irrefl 8
  generalize hb : [m, r1] ++ put16 v ++ [tt, r2] ++ put16 tid ++ rest = b
  simp only [put16, List.cons_append, List.nil_append] at hb
  have hlen : b.length = rest.length + 8 := by rw [← hb]; rfl
  have g2 : goU16 b 2 = .ok v := by rw [← hb]; exact congrArg Res.ok (be16_put v)
  have g4 : goIndex b 4 = .ok tt := by rw [← hb]; rfl
  have g6 : goU16 b 6 = .ok tid := by rw [← hb]; exact congrArg Res.ok (be16_put tid)
  unfold parseTransform
  rw [g2, Res.bind_ok, if_neg h8, if_neg (by omega), g4, Res.bind_ok, g6, Res.bind_ok, if_neg h8', hv]

/-- the decoder on a transform substructure with one attribute `w x val` (type word, value or
length word, octets after it): bit 15 of `w` selects the reading — clear: `x` has to be the
extent of `val`, which is the value; set: `x` is the value -/
theorem parseTransform_frame_attr (m r1 tt r2 : UInt8) (v tid w x : UInt16) (val rest : Bytes)
    (hv : v.toNat = 12 + val.length) :
    (w.toNat < 32768 → x.toNat = val.length →
      parseTransform ([m, r1] ++ put16 v ++ [tt, r2] ++ put16 tid ++ (put16 w ++ put16 x ++ val) ++ rest) =
        .ok (⟨tt, tid, true, 0, w, 0, val⟩, 12 + val.length)) ∧
    (32768 ≤ w.toNat →
      parseTransform ([m, r1] ++ put16 v ++ [tt, r2] ++ put16 tid ++ (put16 w ++ put16 x ++ val) ++ rest) =
        .ok (⟨tt, tid, true, 1, w &&& 0x7fff, x, []⟩, 12 + val.length)) := by
  -- `e8`, `e12` only let `omega` see through the `UInt16` literals
  have e8 : (8 : UInt16).toNat = 8 := rfl
  have e12 : (12 : UInt16).toNat = 12 := rfl
  have h8 : ¬ v < 8 := by rw [UInt16.lt_iff_toNat_lt, hv, e8]; omega
  have h8' : v > 8 := by rw [gt_iff_lt, UInt16.lt_iff_toNat_lt, hv, e8]; omega
  have h12 : ¬ v < 12 := by rw [UInt16.lt_iff_toNat_lt, hv, e12]; omega
  generalize hb : [m, r1] ++ put16 v ++ [tt, r2] ++ put16 tid ++ (put16 w ++ put16 x ++ val) ++ rest = b
  simp only [put16, List.cons_append, List.nil_append] at hb
  have hlen : b.length = (val ++ rest).length + 12 := by rw [← hb]; rfl
  rw [List.length_append] at hlen
  have gval : goSlice b 12 (12 + val.length) = .ok val := by
    rw [← hb]; exact goSlice_mid [_, _, _, _, _, _, _, _, _, _, _, _] val rest _ _ rfl rfl
  have g2 : goU16 b 2 = .ok v := by rw [← hb]; exact congrArg Res.ok (be16_put v)
  have g4 : goIndex b 4 = .ok tt := by rw [← hb]; rfl
  have g6 : goU16 b 6 = .ok tid := by rw [← hb]; exact congrArg Res.ok (be16_put tid)
  have g8 : goIndex b 8 = .ok (UInt8.ofNat (w.toNat / 256)) := by rw [← hb]; rfl
  have g8' : goU16 b 8 = .ok w := by rw [← hb]; exact congrArg Res.ok (be16_put w)
  have g10 : goU16 b 10 = .ok x := by rw [← hb]; exact congrArg Res.ok (be16_put x)
  unfold parseTransform
  rw [g2, Res.bind_ok, if_neg h8, if_neg (by omega), g4, Res.bind_ok, g6, Res.bind_ok, if_pos h8', if_neg h12,
    g8, Res.bind_ok, g8', Res.bind_ok, u16_bit15, g10, hv]
  refine ⟨fun hlt hx => ?_, fun hge => ?_⟩
  · have hsum : (12 + x != v) = false := by
      rw [bne_eq_false_iff_eq, ← UInt16.toNat_inj, UInt16.toNat_add, hx, hv, e12]
      exact Nat.mod_eq_of_lt (hv ▸ v.toNat_lt)
    rw [Nat.div_eq_of_lt hlt, gval, u16_and_7fff_of_lt w hlt]
    simp only [Res.bind_ok, hsum]
    rfl
  · have h1 : w.toNat / 32768 = 1 := by have := w.toNat_lt; omega
    rw [h1]
    rfl

theorem encodeTransform_ok (ℓ : TLib) (last : Bool) (t : Transform) (h : Bytes) (hm : encodeTransform ℓ last t = .ok h) :
    ∃ a, encodeAttr t = .ok a ∧ 8 + a.length ≤ 65535 ∧
      h = [if last then 0 else 3, ℓ.res1] ++ put16 (UInt16.ofNat (8 + a.length)) ++ [t.ttype, ℓ.res2] ++ put16 t.tid ++ a := by
  unfold encodeTransform at hm
  obtain ⟨a, ha, hm⟩ := Res.bind_eq_ok hm
  by_cases hlen : 8 + a.length > 65535
  · rw [if_pos hlen] at hm; cases hm
  rw [if_neg hlen] at hm
  cases hm
  exact ⟨a, ha, by omega, rfl⟩

/-- a transform written with any two reserved octets parses back to itself; the second conjunct (at least
the fixed header) is what the list loop `unmarshalTransforms` needs to advance -/
theorem parseTransform_encode (ℓ : TLib) (t : Transform) (last : Bool) (h rest : Bytes) (hd : t.Dom)
    (hm : encodeTransform ℓ last t = .ok h) :
    parseTransform (h ++ rest) = .ok (t, h.length) ∧ 8 ≤ h.length := by
  obtain ⟨a, ha, hlen, rfl⟩ := encodeTransform_ok ℓ last t h hm
  clear hm
  have hl : (UInt16.ofNat (8 + a.length)).toNat = 8 + a.length := toNat_ofNat_u16 _ hlen
  have hlen' : ([if last = true then 0 else 3, ℓ.res1] ++ put16 (UInt16.ofNat (8 + a.length)) ++ [t.ttype, ℓ.res2] ++
      put16 t.tid ++ a).length = 8 + a.length := by
    simp only [List.length_append, List.length_cons, List.length_nil, put16_length]
  rw [hlen']
  refine ⟨?_, Nat.le_add_right 8 _⟩
  clear hlen'
  obtain ⟨tt, tid, present, fmt, atype, aval, vval⟩ := t
  unfold encodeAttr at ha
  dsimp only at ha ⊢
  rcases hd with ⟨h1, h2, h3, h4, h5⟩ | ⟨h1, h2, h3, h5⟩ | ⟨h1, h2, h3, h4, h5⟩
  · simp only at h1 h2 h3 h4 h5
    subst h1 h2 h3 h4 h5
    rw [if_pos (by decide)] at ha
    cases ha
    exact parseTransform_frame _ _ _ _ _ _ rest hl
  · simp only at h1 h2 h3 h5
    subst h1 h2 h5
    rw [if_neg (by decide), if_neg (Nat.not_le.mpr h3), if_pos rfl] at ha
    cases ha
    simp only [List.length_append, put16_length, Nat.reduceAdd] at hl ⊢
    have hw : (UInt16.ofNat (32768 + atype.toNat)).toNat = 32768 + atype.toNat := toNat_ofNat_u16 _ (by omega)
    have ht : UInt16.ofNat (32768 + atype.toNat) &&& 0x7fff = atype :=
      UInt16.toNat_inj.mp (by rw [toNat_and_7fff, hw]; omega)
    have hp := (parseTransform_frame_attr (if last = true then 0 else 3) ℓ.res1 tt ℓ.res2 _ tid
      (UInt16.ofNat (32768 + atype.toNat)) aval [] rest hl).2 (by rw [hw]; omega)
    rw [List.append_nil, ht] at hp
    exact hp
  · simp only at h1 h2 h3 h4 h5
    subst h1 h2 h4
    rw [if_neg (by decide), if_neg (Nat.not_le.mpr h3), if_neg (by decide)] at ha
    by_cases hvl : vval.length > 65535
    · rw [if_pos hvl] at ha; cases ha
    rw [if_neg hvl] at ha
    cases ha
    simp only [List.length_append, put16_length, Nat.reduceAdd] at hl ⊢
    rw [← Nat.add_assoc] at hl ⊢
    have hx : (UInt16.ofNat vval.length).toNat = vval.length := toNat_ofNat_u16 _ (by omega)
    rw [UInt16.ofNat_toNat]
    exact (parseTransform_frame_attr (if last = true then 0 else 3) ℓ.res1 tt ℓ.res2 _ tid
      atype (UInt16.ofNat vval.length) vval rest hl).1 h3 hx

theorem encodeTransforms_canonical (ts : List Transform) (hd : ∀ t ∈ ts, t.Dom) :
    encodeTransforms (ts.map (fun t => (({} : TLib), t))) = marshalTransforms ts := by
  induction ts with
  | nil => rfl
  | cons t rest ih =>
    simp only [List.map_cons, encodeTransforms, marshalTransforms]
    rw [ih (fun x hx => hd x (by simp [hx])), encodeTransform_canonical t _ (hd t (by simp))]
    simp

/-- decoding the spec encoding of any emitted transform list files exactly those transforms, in
the emitted order, whatever the reserved octets -/
theorem unmarshalTransforms_encode (em : List (TLib × Transform)) (bs : Bytes) (p : Proposal)
    (hd : ∀ e ∈ em, e.2.Dom) (hm : encodeTransforms em = .ok bs) :
    unmarshalTransforms bs p = .ok ((em.map (·.2)).foldl Proposal.file p) := by
  induction em generalizing bs p with
  | nil =>
    cases hm
    unfold unmarshalTransforms
    rfl
  | cons e rest ih =>
    obtain ⟨ℓ, t⟩ := e
    obtain ⟨h, hh, hm⟩ := Res.bind_eq_ok hm
    obtain ⟨tl, hr, hm⟩ := Res.bind_eq_ok hm
    cases hm
    obtain ⟨hp, h8⟩ := parseTransform_encode ℓ t rest.isEmpty h tl (hd (ℓ, t) (by simp)) hh
    unfold unmarshalTransforms
    rw [dif_neg (by rw [List.length_append]; omega), if_neg (by rw [List.length_append]; omega), hp]
    dsimp only
    rw [dif_pos ⟨by omega, by rw [List.length_append]; omega⟩, List.drop_left]
    exact ih tl (p.file t) (fun x hx => hd x (by simp [hx])) hr

/-! `Proposal.file` on a transform of each type: one equation per list field of `Proposal`, and below one
induction case per constructor of `Interleaves` -/

theorem Proposal.file_encr (q : Proposal) {t : Transform} (h : t.ttype = Facts.ttEncr) :
    q.file t = { q with encr := q.encr ++ [t] } := by unfold Proposal.file; rw [h]; rfl
theorem Proposal.file_prf (q : Proposal) {t : Transform} (h : t.ttype = Facts.ttPrf) :
    q.file t = { q with prf := q.prf ++ [t] } := by unfold Proposal.file; rw [h]; rfl
theorem Proposal.file_integ (q : Proposal) {t : Transform} (h : t.ttype = Facts.ttInteg) :
    q.file t = { q with integ := q.integ ++ [t] } := by unfold Proposal.file; rw [h]; rfl
theorem Proposal.file_dh (q : Proposal) {t : Transform} (h : t.ttype = Facts.ttDh) :
    q.file t = { q with dh := q.dh ++ [t] } := by unfold Proposal.file; rw [h]; rfl
theorem Proposal.file_esn (q : Proposal) {t : Transform} (h : t.ttype = Facts.ttEsn) :
    q.file t = { q with esn := q.esn ++ [t] } := by unfold Proposal.file; rw [h]; rfl

/-- **the key fact about transform order**: filing an interleaving of five lists whose
members carry the type of their list appends each list to its own container, in its own order -/
theorem foldl_file_interleaves {l e p i d s : List Transform} (h : Interleaves l e p i d s)
    (he : ∀ t ∈ e, t.ttype = Facts.ttEncr) (hp : ∀ t ∈ p, t.ttype = Facts.ttPrf)
    (hi : ∀ t ∈ i, t.ttype = Facts.ttInteg) (hdh : ∀ t ∈ d, t.ttype = Facts.ttDh)
    (hs : ∀ t ∈ s, t.ttype = Facts.ttEsn) (q : Proposal) :
    l.foldl Proposal.file q =
      { q with encr := q.encr ++ e, prf := q.prf ++ p, integ := q.integ ++ i, dh := q.dh ++ d, esn := q.esn ++ s } := by
  induction h generalizing q with
  | nil => cases q; simp
  | encr t _ ih =>
    rw [List.foldl_cons, Proposal.file_encr q (he t (by simp)), ih (fun x hx => he x (by simp [hx])) hp hi hdh hs]
    simp
  | prf t _ ih =>
    rw [List.foldl_cons, Proposal.file_prf q (hp t (by simp)), ih he (fun x hx => hp x (by simp [hx])) hi hdh hs]
    simp
  | integ t _ ih =>
    rw [List.foldl_cons, Proposal.file_integ q (hi t (by simp)), ih he hp (fun x hx => hi x (by simp [hx])) hdh hs]
    simp
  | dh t _ ih =>
    rw [List.foldl_cons, Proposal.file_dh q (hdh t (by simp)), ih he hp hi (fun x hx => hdh x (by simp [hx])) hs]
    simp
  | esn t _ ih =>
    rw [List.foldl_cons, Proposal.file_esn q (hs t (by simp)), ih he hp hi hdh (fun x hx => hs x (by simp [hx]))]
    simp

theorem mem_of_interleaves {l e p i d s : List Transform} (h : Interleaves l e p i d s) (t : Transform) :
    t ∈ l ↔ t ∈ e ∨ t ∈ p ∨ t ∈ i ∨ t ∈ d ∨ t ∈ s := by
  induction h with
  | nil => simp
  | encr x _ ih => simp only [List.mem_cons, ih, or_assoc]
  | prf x _ ih => simp only [List.mem_cons, ih, or_assoc, or_left_comm]
  | integ x _ ih => simp only [List.mem_cons, ih, or_assoc, or_left_comm]
  | dh x _ ih => simp only [List.mem_cons, ih, or_assoc, or_left_comm]
  | esn x _ ih => simp only [List.mem_cons, ih, or_left_comm]

theorem interleaves_canonical (e p i d s : List Transform) : Interleaves (e ++ p ++ i ++ d ++ s) e p i d s := by
  induction e with
  | cons t rest ih => simpa using Interleaves.encr t ih
  | nil =>
    induction p with
    | cons t rest ih => simpa using Interleaves.prf t ih
    | nil =>
      induction i with
      | cons t rest ih => simpa using Interleaves.integ t ih
      | nil =>
        induction d with
        | cons t rest ih => simpa using Interleaves.dh t ih
        | nil =>
          induction s with
          | cons t rest ih => simpa using Interleaves.esn t ih
          | nil => exact Interleaves.nil

theorem foldl_file_admissible (p : Proposal) (l : List Transform) (hd : p.Dom)
    (h : Interleaves l p.encr p.prf p.integ p.dh p.esn) :
    l.foldl Proposal.file ⟨p.num, p.proto, p.spi, [], [], [], [], []⟩ = p := by
  obtain ⟨h1, h2, h3, h4, h5⟩ := hd
  rw [foldl_file_interleaves h (fun t ht => (h1 t ht).1) (fun t ht => (h2 t ht).1) (fun t ht => (h3 t ht).1)
    (fun t ht => (h4 t ht).1) (fun t ht => (h5 t ht).1)]
  cases p; simp

/-! ### §3.3.1 proposal -/

theorem parseProposal_frame (m r0 num proto sv nt : UInt8) (v : UInt16) (spi td rest : Bytes) (q : Proposal)
    (hs : sv.toNat = spi.length) (hv : v.toNat = 8 + spi.length + td.length)
    (hq : unmarshalTransforms td ⟨num, proto, spi, [], [], [], [], []⟩ = .ok q) :
    parseProposal ([m, r0] ++ put16 v ++ [num, proto, sv, nt] ++ spi ++ td ++ rest) =
      .ok (q, 8 + spi.length + td.length) := by
  have h8 : ¬ v < 8 := by
    have e8 : (8 : UInt16).toNat = 8 := rfl
    rw [UInt16.lt_iff_toNat_lt, hv, e8]; omega
  generalize hb : [m, r0] ++ put16 v ++ [num, proto, sv, nt] ++ spi ++ td ++ rest = b
  simp only [put16, List.cons_append, List.nil_append, List.append_assoc] at hb
  have hlen : b.length = (spi ++ (td ++ rest)).length + 8 := by rw [← hb]; rfl
  rw [List.length_append, List.length_append] at hlen
  have gspi : goSlice b 8 (8 + spi.length) = .ok spi := by
    rw [← hb]; exact goSlice_mid [_, _, _, _, _, _, _, _] spi (td ++ rest) _ _ rfl rfl
  have gtd : goSlice b (8 + spi.length) (8 + spi.length + td.length) = .ok td := by
    rw [← hb]
    exact goSlice_mid ([_, _, _, _, _, _, _, _] ++ spi) td rest _ _
      (by rw [List.length_append]) (by rw [List.length_append])
  have g2 : goU16 b 2 = .ok v := by rw [← hb]; exact congrArg Res.ok (be16_put v)
  have g4 : goIndex b 4 = .ok num := by rw [← hb]; rfl
  have g5 : goIndex b 5 = .ok proto := by rw [← hb]; rfl
  have g6 : goIndex b 6 = .ok sv := by rw [← hb]; rfl
  unfold parseProposal
  rw [g2, Res.bind_ok, if_neg h8, if_neg (by omega), g4, Res.bind_ok, g5, Res.bind_ok, g6, Res.bind_ok, hs, hv]
  dsimp only
  rw [gtd]
  by_cases hz : spi.length > 0
  · rw [if_pos hz, if_neg (by omega), gspi, Res.bind_ok, Res.bind_ok, hq]
    rfl
  · have hnil : spi = [] := List.eq_nil_of_length_eq_zero (by omega)
    subst hnil
    rw [if_neg hz, Res.bind_ok, Res.bind_ok, hq]
    rfl

theorem encodeProposal_ok (ℓ : PLib) (last : Bool) (p : Proposal) (h : Bytes) (hm : encodeProposal ℓ last p = .ok h) :
    ∃ td, encodeTransforms ℓ.emitted = .ok td ∧ p.spi.length ≤ 255 ∧ ℓ.emitted.length ≤ 255 ∧
      8 + p.spi.length + td.length ≤ 65535 ∧
      h = [if last then 0 else 2, ℓ.reserved] ++ put16 (UInt16.ofNat (8 + p.spi.length + td.length)) ++
        [p.num, p.proto, UInt8.ofNat p.spi.length, UInt8.ofNat ℓ.emitted.length] ++ p.spi ++ td := by
  unfold encodeProposal at hm
  by_cases hspi : p.spi.length > 255
  · rw [if_pos hspi] at hm; cases hm
  by_cases h0 : ℓ.emitted.length = 0
  · rw [if_neg hspi, if_pos h0] at hm; cases hm
  by_cases h255 : ℓ.emitted.length > 255
  · rw [if_neg hspi, if_neg h0, if_pos h255] at hm; cases hm
  rw [if_neg hspi, if_neg h0, if_neg h255] at hm
  obtain ⟨td, hts, hm⟩ := Res.bind_eq_ok hm
  by_cases hlen : 8 + p.spi.length + td.length > 65535
  · rw [if_pos hlen] at hm; cases hm
  rw [if_neg hlen] at hm
  cases hm
  exact ⟨td, hts, by omega, by omega, by omega, rfl⟩

theorem emitted_dom (ℓ : PLib) (p : Proposal) (hd : p.Dom) (ha : ℓ.Admissible p) : ∀ e ∈ ℓ.emitted, e.2.Dom := by
  intro e he
  have hm : e.2 ∈ ℓ.emitted.map (·.2) := List.mem_map_of_mem he
  obtain ⟨d1, d2, d3, d4, d5⟩ := hd
  rcases (mem_of_interleaves ha e.2).mp hm with h | h | h | h | h
  · exact (d1 _ h).2
  · exact (d2 _ h).2
  · exact (d3 _ h).2
  · exact (d4 _ h).2
  · exact (d5 _ h).2

theorem canonical_admissible (p : Proposal) : (PLib.canonical p).Admissible p := by
  unfold PLib.Admissible PLib.canonical
  simp only [List.map_map]
  have : ((fun (x : TLib × Transform) => x.2) ∘ fun t => (({} : TLib), t)) = id := by funext t; rfl
  rw [this, List.map_id]
  exact interleaves_canonical _ _ _ _ _

/-- a proposal written with any reserved octet, its transforms in any admissible order with any
reserved octets, parses back to itself (second conjunct: for the loop `unmarshalProposals`) -/
theorem parseProposal_encode (ℓ : PLib) (p : Proposal) (last : Bool) (h rest : Bytes) (hd : p.Dom)
    (hadm : ℓ.Admissible p) (hm : encodeProposal ℓ last p = .ok h) :
    parseProposal (h ++ rest) = .ok (p, h.length) ∧ 8 ≤ h.length := by
  obtain ⟨td, hts, hspi, hnt, hlen, rfl⟩ := encodeProposal_ok ℓ last p h hm
  have hut := unmarshalTransforms_encode ℓ.emitted td ⟨p.num, p.proto, p.spi, [], [], [], [], []⟩
    (emitted_dom ℓ p hd hadm) hts
  rw [foldl_file_admissible p _ hd hadm] at hut
  have hl : ([if last = true then 0 else 2, ℓ.reserved] ++ put16 (UInt16.ofNat (8 + p.spi.length + td.length)) ++
      [p.num, p.proto, UInt8.ofNat p.spi.length, UInt8.ofNat ℓ.emitted.length] ++ p.spi ++ td).length
      = 8 + p.spi.length + td.length := by
    simp only [List.length_append, List.length_cons, List.length_nil, put16_length]
  rw [hl]
  exact ⟨parseProposal_frame _ _ _ _ _ _ _ _ _ rest p (toNat_ofNat_u8 _ (by omega)) (toNat_ofNat_u16 _ (by omega)) hut,
    by omega⟩

theorem encodeProposal_canonical (p : Proposal) (last : Bool) (hd : p.Dom) :
    encodeProposal (PLib.canonical p) last p = marshalProposal last p := by
  have hts : ∀ t ∈ p.transforms, t.Dom := fun t ht =>
    emitted_dom (PLib.canonical p) p hd (canonical_admissible p) (({} : TLib), t) (List.mem_map_of_mem ht)
  have hem : (PLib.canonical p).emitted = p.transforms.map (fun t => (({} : TLib), t)) := rfl
  have hlen : (PLib.canonical p).emitted.length = p.transforms.length := by rw [hem]; simp
  have hres : (PLib.canonical p).reserved = 0 := rfl
  unfold encodeProposal marshalProposal
  rw [hlen, hres, hem, encodeTransforms_canonical p.transforms hts]

/-- proposal lists: the `i`-th proposal under the `i`-th choice (canonical when there is none) -/
theorem unmarshalProposals_encode (ls : List PLib) (ps : List Proposal) (bs : Bytes) (hd : ∀ p ∈ ps, p.Dom)
    (hadm : PropsAdmissible ls ps) (hm : encodeProposals ls ps = .ok bs) : unmarshalProposals bs = .ok ps := by
  induction ps generalizing ls bs with
  | nil =>
    cases hm
    unfold unmarshalProposals
    rfl
  | cons p rest ih =>
    obtain ⟨h, hh, hm⟩ := Res.bind_eq_ok hm
    obtain ⟨tl, hr, hm⟩ := Res.bind_eq_ok hm
    cases hm
    have hadm1 : (ls.headD (PLib.canonical p)).Admissible p ∧ PropsAdmissible ls.tail rest := by
      cases ls with
      | nil =>
        refine ⟨canonical_admissible p, ?_⟩
        cases rest <;> simp [PropsAdmissible]
      | cons ℓ ls' => exact hadm
    obtain ⟨hp, h8⟩ := parseProposal_encode _ p rest.isEmpty h tl (hd p (by simp)) hadm1.1 hh
    unfold unmarshalProposals
    rw [dif_neg (by rw [List.length_append]; omega), if_neg (by rw [List.length_append]; omega), hp]
    dsimp only
    rw [dif_pos ⟨by omega, by rw [List.length_append]; omega⟩, List.drop_left,
      ih ls.tail tl (fun x hx => hd x (by simp [hx])) hadm1.2 hr]

theorem encodeProposals_canonical (ps : List Proposal) (hd : ∀ p ∈ ps, p.Dom) :
    encodeProposals [] ps = marshalProposals ps := by
  induction ps with
  | nil => rfl
  | cons p rest ih =>
    simp only [encodeProposals, marshalProposals, List.headD_nil, List.tail_nil]
    rw [ih (fun x hx => hd x (by simp [hx])), encodeProposal_canonical p _ (hd p (by simp))]

/-! ### §3.4 KE, §3.5 ID, §3.8 AUTH: reserved octets; §3.6/3.7 CERT, §3.10 Notify, §3.11 Delete: none -/

theorem unmarshalKE_encode (r0 r1 : UInt8) (g : UInt16) (d : Bytes) (hd : 1 ≤ d.length) :
    unmarshalKE (encodeKE r0 r1 g d) = .ok (.ke g d) := by
  unfold encodeKE
  generalize hb : put16 g ++ [r0, r1] ++ d = b
  simp only [put16, List.cons_append, List.nil_append] at hb
  have hl : b.length = d.length + 4 := by rw [← hb]; rfl
  have g0 : goU16 b 0 = .ok g := by rw [← hb]; exact congrArg Res.ok (be16_put g)
  have g4 : goFrom b 4 = .ok d := by rw [← hb]; rfl
  unfold unmarshalKE
  rw [if_neg (by omega), g0, Res.bind_ok, g4, Res.bind_ok]

theorem unmarshalT4_encode (mk : UInt8 → Bytes → Payload) (r0 r1 r2 t : UInt8) (d : Bytes) (hd : 1 ≤ d.length) :
    unmarshalT4 mk (encodeTypeRes3 r0 r1 r2 t d) = .ok (mk t d) := by
  have hl : (encodeTypeRes3 r0 r1 r2 t d).length = d.length + 4 := rfl
  have g0 : goIndex (encodeTypeRes3 r0 r1 r2 t d) 0 = .ok t := rfl
  have g4 : goFrom (encodeTypeRes3 r0 r1 r2 t d) 4 = .ok d := rfl
  unfold unmarshalT4
  rw [if_neg (by omega), g0, Res.bind_ok, g4, Res.bind_ok]

theorem marshalKE_spec (g : UInt16) (d : Bytes) : marshalKE g d = .ok (encodeKE 0 0 g d) := rfl
theorem marshalT4_spec (t : UInt8) (d : Bytes) : marshalT4 t d = .ok (encodeTypeRes3 0 0 0 t d) := rfl
theorem marshalT1_spec (t : UInt8) (d : Bytes) : marshalT1 t d = .ok (encodeCert t d) := rfl
theorem marshalNotify_spec (p : UInt8) (t : UInt16) (s d : Bytes) : marshalNotify p t s d = encodeNotify p t s d := rfl

theorem marshalDeleteSPIs4 (spis : List UInt32) : marshalDeleteSPIs 4 spis = .ok (spis.map put32).flatten := by
  induction spis with
  | nil => rfl
  | cons v rest ih =>
    simp only [marshalDeleteSPIs]
    rw [if_neg (by omega), ih]
    simp [zeros]

theorem marshalDelete_count (proto spiSize : UInt8) (num : UInt16) (spis : List UInt32) (bs : Bytes)
    (h : marshalDelete proto spiSize num spis = .ok bs) : spis.length = num.toNat := by
  unfold marshalDelete at h
  by_cases hn : spis.length ≠ num.toNat
  · rw [if_pos hn] at h; cases h
  · exact Decidable.of_not_not hn

/-- what `marshalDelete` writes when there is no SPI (the SPI size octet is then arbitrary) or the
SPIs have 4 octets -/
theorem marshalDelete_ok (proto spiSize : UInt8) (num : UInt16) (spis : List UInt32) (bs : Bytes)
    (hdom : num.toNat = 0 ∨ spiSize = 4) (h : marshalDelete proto spiSize num spis = .ok bs) :
    bs = [proto, spiSize] ++ put16 num ++ (spis.map put32).flatten := by
  have hn := marshalDelete_count proto spiSize num spis bs h
  unfold marshalDelete at h
  rw [if_neg (fun hc => hc hn)] at h
  dsimp only at h
  by_cases hz : num.toNat > 0
  · have h4 : spiSize = 4 := hdom.resolve_left (by omega)
    have e4 : (4 : UInt8).toNat = 4 := rfl
    rw [if_pos hz, h4, e4, marshalDeleteSPIs4] at h
    cases h
    rw [h4]
  · have : spis = [] := List.eq_nil_of_length_eq_zero (by omega)
    rw [if_neg hz] at h
    cases h
    rw [this]
    rfl

theorem marshalDelete_spec (proto spiSize : UInt8) (num : UInt16) (spis : List UInt32)
    (hdom : spis = [] ∨ spiSize = 4) :
    marshalDelete proto spiSize num spis = encodeDelete proto spiSize num spis := by
  unfold marshalDelete encodeDelete
  by_cases hn : spis.length = num.toNat
  · rw [if_neg (show ¬ spis.length ≠ num.toNat by omega), if_neg (show ¬ num.toNat ≠ spis.length by omega)]
    rcases hdom with hnil | h4
    · subst hnil
      have : ¬ num.toNat > 0 := by simp at hn; omega
      simp [this]
    · subst h4
      have e4 : (4 : UInt8).toNat = 4 := rfl
      rw [e4, marshalDeleteSPIs4]
      by_cases hz : num.toNat > 0
      · simp [hz]
      · have : spis = [] := List.eq_nil_of_length_eq_zero (by omega)
        subst this
        simp [hz]
  · rw [if_pos hn, if_pos (show num.toNat ≠ spis.length by omega)]

/-! ### §3.13 traffic selectors (no liberty inside a selector; three reserved octets in the payload) -/

theorem marshalTSel_ok (t : TSel) (h : Bytes) (hm : marshalTSel t = .ok h) :
    ∃ (n : Nat) (sl : UInt16), ((t.tstype = 7 ∧ n = 4 ∧ sl = 16) ∨ (t.tstype = 8 ∧ n = 16 ∧ sl = 40)) ∧
      t.saddr.length = n ∧ t.eaddr.length = n ∧
      h = [t.tstype, t.proto] ++ put16 sl ++ put16 t.sport ++ put16 t.eport ++ t.saddr ++ t.eaddr := by
  unfold marshalTSel at hm
  by_cases h7 : (t.tstype == Facts.tsIPv4) = true
  · rw [if_pos h7] at hm
    by_cases hs : t.saddr.length ≠ 4
    · rw [if_pos hs] at hm; cases hm
    by_cases he : t.eaddr.length ≠ 4
    · rw [if_neg hs, if_pos he] at hm; cases hm
    rw [if_neg hs, if_neg he] at hm
    cases hm
    exact ⟨4, 16, Or.inl ⟨eq_of_beq h7, rfl, rfl⟩, Decidable.of_not_not hs, Decidable.of_not_not he, rfl⟩
  · rw [if_neg h7] at hm
    by_cases h8 : (t.tstype == Facts.tsIPv6) = true
    · rw [if_pos h8] at hm
      by_cases hs : t.saddr.length ≠ 16
      · rw [if_pos hs] at hm; cases hm
      by_cases he : t.eaddr.length ≠ 16
      · rw [if_neg hs, if_pos he] at hm; cases hm
      rw [if_neg hs, if_neg he] at hm
      cases hm
      exact ⟨16, 40, Or.inr ⟨eq_of_beq h8, rfl, rfl⟩, Decidable.of_not_not hs, Decidable.of_not_not he, rfl⟩
    · rw [if_neg h8] at hm; cases hm

theorem parseTSel_frame (ty proto : UInt8) (sl sp ep : UInt16) (sa ea rest : Bytes) (n : Nat)
    (h : (ty = 7 ∧ n = 4 ∧ sl = 16) ∨ (ty = 8 ∧ n = 16 ∧ sl = 40)) (hs : sa.length = n) (he : ea.length = n) :
    parseTSel ([ty, proto] ++ put16 sl ++ put16 sp ++ put16 ep ++ sa ++ ea ++ rest) =
      .ok (⟨ty, proto, sp, ep, sa, ea⟩, 8 + n + n) := by
  generalize hb : [ty, proto] ++ put16 sl ++ put16 sp ++ put16 ep ++ sa ++ ea ++ rest = b
  simp only [put16, List.cons_append, List.nil_append, List.append_assoc] at hb
  have hl : b.length = (sa ++ (ea ++ rest)).length + 8 := by rw [← hb]; rfl
  simp only [List.length_append, hs, he] at hl
  have g0 : goIndex b 0 = .ok ty := by rw [← hb]; rfl
  have g1 : goIndex b 1 = .ok proto := by rw [← hb]; rfl
  have g2 : goU16 b 2 = .ok sl := by rw [← hb]; exact congrArg Res.ok (be16_put sl)
  have g4 : goU16 b 4 = .ok sp := by rw [← hb]; exact congrArg Res.ok (be16_put sp)
  have g6 : goU16 b 6 = .ok ep := by rw [← hb]; exact congrArg Res.ok (be16_put ep)
  have gsa : goSlice b 8 (8 + n) = .ok sa := by
    rw [← hb]; exact goSlice_mid [_, _, _, _, _, _, _, _] sa (ea ++ rest) _ _ rfl (by rw [hs]; rfl)
  have gea : goSlice b (8 + n) (8 + n + n) = .ok ea := by
    rw [← hb]; exact goSlice_mid ([_, _, _, _, _, _, _, _] ++ sa) ea rest _ _
      (by rw [List.length_append, hs]) (by rw [List.length_append, hs, he])
  unfold parseTSel
  rw [g0, Res.bind_ok, g2, g1, g4, g6]
  rcases h with ⟨rfl, rfl, rfl⟩ | ⟨rfl, rfl, rfl⟩
  · have e16 : (16 : UInt16).toNat = 16 := rfl
    rw [if_pos (by decide), Res.bind_ok, if_neg (by decide), e16, if_neg (by omega), Res.bind_ok, Res.bind_ok,
      Res.bind_ok, gsa, Res.bind_ok, gea, Res.bind_ok]
  · have e40 : (40 : UInt16).toNat = 40 := rfl
    rw [if_neg (by decide), if_pos (by decide), Res.bind_ok, if_neg (by decide), e40, if_neg (by omega), Res.bind_ok,
      Res.bind_ok, Res.bind_ok, gsa, Res.bind_ok, gea, Res.bind_ok]

theorem rt_TSels (l : List TSel) (bs : Bytes) (h : marshalTSels l = .ok bs) (rest : Bytes) :
    unmarshalTSels l.length (bs ++ rest) = .ok l := by
  induction l generalizing bs with
  | nil => rfl
  | cons t tl ih =>
    obtain ⟨hd, hm, h⟩ := Res.bind_eq_ok h
    obtain ⟨tb, hr, h⟩ := Res.bind_eq_ok h
    cases h
    obtain ⟨n, sl, hty, hs, he, rfl⟩ := marshalTSel_ok t hd hm
    have hp := parseTSel_frame t.tstype t.proto sl t.sport t.eport t.saddr t.eaddr (tb ++ rest) n hty hs he
    have hl : ([t.tstype, t.proto] ++ put16 sl ++ put16 t.sport ++ put16 t.eport ++ t.saddr ++ t.eaddr).length
        = 8 + n + n := by
      simp only [List.length_append, List.length_cons, List.length_nil, put16_length, hs, he]
    simp only [List.length_cons, unmarshalTSels]
    rw [List.append_assoc _ tb rest, if_neg (by rw [List.length_append, hl]; omega), hp]
    dsimp only
    rw [if_pos (by rw [List.length_append, hl]; omega), ← hl, List.drop_left, ih tb hr]

theorem encodeSelector_canonical (t : TSel) : encodeSelector t = marshalTSel t := by
  unfold encodeSelector marshalTSel
  have e7 : Facts.tsIPv4 = 7 := rfl
  have e8 : Facts.tsIPv6 = 8 := rfl
  rw [e7, e8]
  by_cases h7 : t.tstype = 7
  · by_cases hs : t.saddr.length = 4 <;> by_cases he : t.eaddr.length = 4 <;> simp [h7, hs, he]
  · by_cases h8 : t.tstype = 8
    · have h78 : ¬ (8 : UInt8) = 7 := by decide
      by_cases hs : t.saddr.length = 16 <;> by_cases he : t.eaddr.length = 16 <;> simp [h8, h78, hs, he]
    · simp [h7, h8]

theorem encodeSelectors_canonical (l : List TSel) : encodeSelectors l = marshalTSels l := by
  induction l with
  | nil => rfl
  | cons t rest ih => simp only [encodeSelectors, marshalTSels, ih, encodeSelector_canonical]

theorem encodeTS_canonical (l : List TSel) : encodeTS 0 0 0 l = marshalTS l := by
  unfold encodeTS marshalTS
  rw [encodeSelectors_canonical]

theorem unmarshalTS_encode (mk : List TSel → Payload) (r0 r1 r2 : UInt8) (l : List TSel) (bs : Bytes)
    (h : encodeTS r0 r1 r2 l = .ok bs) : unmarshalTS mk bs = .ok (mk l) := by
  unfold encodeTS at h
  rw [encodeSelectors_canonical] at h
  by_cases h0 : l.length = 0
  · rw [if_pos h0] at h; cases h
  by_cases h255 : l.length > 255
  · rw [if_neg h0, if_pos h255] at h; cases h
  rw [if_neg h0, if_neg h255] at h
  obtain ⟨body, hm, h⟩ := Res.bind_eq_ok h
  cases h
  have hn : (UInt8.ofNat l.length).toNat = l.length := toNat_ofNat_u8 _ (by omega)
  have hr := rt_TSels l body hm []
  rw [List.append_nil] at hr
  have hl : ([UInt8.ofNat l.length, r0, r1, r2] ++ body).length = body.length + 4 := rfl
  have g0 : goIndex ([UInt8.ofNat l.length, r0, r1, r2] ++ body) 0 = .ok (UInt8.ofNat l.length) := rfl
  have g4 : goFrom ([UInt8.ofNat l.length, r0, r1, r2] ++ body) 4 = .ok body := rfl
  unfold unmarshalTS
  rw [if_neg (by omega), if_neg (by omega), g0, Res.bind_ok, g4, Res.bind_ok, hn, hr]
  rfl

/-! ### §3.15 Configuration: the R bit of an attribute is ignored -/

theorem cp_type_word (r : Bool) (a : UInt16) (h : a.toNat < 32768) :
    UInt16.ofNat ((if r then 32768 else 0) + a.toNat) &&& 0x7fff = a := by
  apply UInt16.toNat_inj.mp
  rw [toNat_and_7fff, UInt16.toNat_ofNat']
  cases r <;> simp only [Bool.false_eq_true, if_true, if_false] <;> omega

theorem parseCPAttr_frame (w v : UInt16) (val rest : Bytes) (hv : v.toNat = val.length) :
    parseCPAttr (put16 w ++ put16 v ++ val ++ rest) = .ok (⟨w &&& 0x7fff, val⟩, 4 + val.length) := by
  generalize hb : put16 w ++ put16 v ++ val ++ rest = b
  simp only [put16, List.cons_append, List.nil_append] at hb
  have hl : b.length = (val ++ rest).length + 4 := by rw [← hb]; rfl
  rw [List.length_append] at hl
  have g2 : goU16 b 2 = .ok v := by rw [← hb]; exact congrArg Res.ok (be16_put v)
  have g0 : goU16 b 0 = .ok w := by rw [← hb]; exact congrArg Res.ok (be16_put w)
  have gval : goSlice b 4 (4 + val.length) = .ok val := by
    rw [← hb]; exact goSlice_mid [_, _, _, _] val rest _ _ rfl rfl
  unfold parseCPAttr
  rw [g2, Res.bind_ok, hv, if_neg (by omega), g0, Res.bind_ok, gval, Res.bind_ok]

theorem encodeCPAttrs_cons_ok (rs : List Bool) (a : CPAttr) (rest : List CPAttr) (bs : Bytes)
    (h : encodeCPAttrs rs (a :: rest) = .ok bs) :
    ∃ tl, encodeCPAttrs rs.tail rest = .ok tl ∧ a.atype.toNat < 32768 ∧ a.value.length ≤ 65535 ∧
      bs = put16 (UInt16.ofNat ((if rs.headD false then 32768 else 0) + a.atype.toNat)) ++
        put16 (UInt16.ofNat a.value.length) ++ a.value ++ tl := by
  simp only [encodeCPAttrs] at h
  by_cases hta : a.atype.toNat ≥ 32768
  · rw [if_pos hta] at h; cases h
  by_cases hv : a.value.length > 65535
  · rw [if_neg hta, if_pos hv] at h; cases h
  rw [if_neg hta, if_neg hv] at h
  obtain ⟨tl, hr, h⟩ := Res.bind_eq_ok h
  cases h
  exact ⟨tl, hr, by omega, by omega, rfl⟩

theorem unmarshalCPAttrs_encode (rs : List Bool) (attrs : List CPAttr) (bs : Bytes)
    (h : encodeCPAttrs rs attrs = .ok bs) : unmarshalCPAttrs bs = .ok attrs := by
  induction attrs generalizing rs bs with
  | nil => cases h; unfold unmarshalCPAttrs; rfl
  | cons a rest ih =>
    obtain ⟨tl, hr, hta, hv, rfl⟩ := encodeCPAttrs_cons_ok rs a rest bs h
    have hp := parseCPAttr_frame (UInt16.ofNat ((if rs.headD false = true then 32768 else 0) + a.atype.toNat))
      (UInt16.ofNat a.value.length) a.value tl (toNat_ofNat_u16 _ (by omega))
    rw [cp_type_word _ _ (by omega)] at hp
    have hl : (put16 (UInt16.ofNat ((if rs.headD false = true then 32768 else 0) + a.atype.toNat)) ++
        put16 (UInt16.ofNat a.value.length) ++ a.value ++ tl).length = 4 + a.value.length + tl.length := by
      simp only [List.length_append, put16_length]
    unfold unmarshalCPAttrs
    rw [dif_neg (by omega), if_neg (by omega), hp]
    dsimp only
    rw [dif_pos (by omega), drop_prefix_eq _ tl _ (by simp only [List.length_append, put16_length]),
      ih rs.tail tl hr]

theorem unmarshalCP_encode (r0 r1 r2 : UInt8) (rs : List Bool) (ct : UInt8) (attrs : List CPAttr) (bs : Bytes)
    (hne : attrs ≠ []) (h : encodeCP r0 r1 r2 rs ct attrs = .ok bs) : unmarshalCP bs = .ok (.cp ct attrs) := by
  obtain ⟨body, hm, h⟩ := Res.bind_eq_ok h
  cases h
  have hb : 1 ≤ body.length := by
    cases attrs with
    | nil => exact absurd rfl hne
    | cons a rest =>
      obtain ⟨tl, _, _, _, rfl⟩ := encodeCPAttrs_cons_ok rs a rest body hm
      simp only [List.length_append, put16_length]
      omega
  have hl : ([ct, r0, r1, r2] ++ body).length = body.length + 4 := rfl
  have g0 : goIndex ([ct, r0, r1, r2] ++ body) 0 = .ok ct := rfl
  have g4 : goFrom ([ct, r0, r1, r2] ++ body) 4 = .ok body := rfl
  unfold unmarshalCP
  rw [if_neg (by omega), g0, Res.bind_ok, g4, Res.bind_ok, unmarshalCPAttrs_encode rs attrs body hm]
  rfl

theorem encodeCPAttrs_canonical (attrs : List CPAttr) (ht : ∀ a ∈ attrs, a.atype.toNat < 32768) :
    encodeCPAttrs [] attrs = marshalCPAttrs attrs := by
  induction attrs with
  | nil => rfl
  | cons a rest ih =>
    have hta := ht a (by simp)
    simp only [encodeCPAttrs, marshalCPAttrs, List.tail_nil, List.headD_nil]
    rw [ih (fun x hx => ht x (by simp [hx])), if_neg (by omega), u16_and_7fff_of_lt _ hta]
    simp

theorem encodeCP_canonical (ct : UInt8) (attrs : List CPAttr) (ht : ∀ a ∈ attrs, a.atype.toNat < 32768) :
    encodeCP 0 0 0 [] ct attrs = marshalCP ct attrs := by
  unfold encodeCP marshalCP
  rw [encodeCPAttrs_canonical attrs ht]

/-! ### §3.2 generic payload header -/

theorem payloadType_eq (p : Payload) : payloadType p = p.typeCode := by cases p <;> rfl

theorem payloadType_ne_zero (p : Payload) : payloadType p ≠ 0 := by cases p <;> (simp only [payloadType]; decide)

theorem firstPayloadType_eq (ps : List Payload) : firstPayloadType ps = firstType ps := by
  cases ps with
  | nil => rfl
  | cons p _ => exact payloadType_eq p

/-- one step of the container walk on a framed payload `next | flags | length | body`, whatever
follows it: a payload of an implemented type is handed to its `Unmarshal` (the flag octet has
no influence; an Encrypted payload must be the last one), a payload of any other type is
skipped unless its critical bit is set -/
theorem chainStep_frame (t nx fl : UInt8) (body tl : Bytes) (hlen : 4 + body.length ≤ 0xFFFF) :
    chainStep t ([nx, fl] ++ put16 (UInt16.ofNat (4 + body.length)) ++ body ++ tl) =
      if knownType t then
        if t == Facts.typeSK && tl.length ≠ 0 then .err
        else do let p ← unmarshalPayload t nx body; .ok (some p, nx, 4 + body.length)
      else if (fl &&& 0x80) != 0 then .err else .ok (none, nx, 4 + body.length) := by
  have hv : (UInt16.ofNat (4 + body.length)).toNat = 4 + body.length := toNat_ofNat_u16 _ hlen
  generalize UInt16.ofNat (4 + body.length) = v at hv
  have h4 : ¬ v < 4 := by
    have e4 : (4 : UInt16).toNat = 4 := rfl
    rw [UInt16.lt_iff_toNat_lt, hv, e4]; omega
  generalize hb : [nx, fl] ++ put16 v ++ body ++ tl = b
  simp only [put16, List.cons_append, List.nil_append] at hb
  have hl : b.length = (body ++ tl).length + 4 := by rw [← hb]; rfl
  rw [List.length_append] at hl
  have gbody : goSlice b 4 (4 + body.length) = .ok body := by
    rw [← hb]; exact goSlice_mid [_, _, _, _] body tl _ _ rfl rfl
  have g2 : goU16 b 2 = .ok v := by rw [← hb]; exact congrArg Res.ok (be16_put v)
  have g1 : goIndex b 1 = .ok fl := by rw [← hb]; rfl
  have g0 : goIndex b 0 = .ok nx := by rw [← hb]; rfl
  -- the SK guard compares lengths under a `decide`: an equation between the two propositions lets `simp` rewrite there
  have hlast : (b.length ≠ 4 + body.length) = (tl.length ≠ 0) := by rw [hl]; exact propext (by omega)
  unfold chainStep
  rw [if_neg (by omega), g2, Res.bind_ok, if_neg h4, hv, if_neg (by omega), g1, Res.bind_ok, g0, Res.bind_ok,
    gbody, Res.bind_ok, u8_bit7_eq_zero]
  simp only [hlast]
  cases (fl &&& 0x80) != 0 <;> rfl

theorem decodeChain_frame (t nx fl : UInt8) (body tl : Bytes) (hlen : 4 + body.length ≤ 0xFFFF) :
    decodeChain t ([nx, fl] ++ put16 (UInt16.ofNat (4 + body.length)) ++ body ++ tl) =
      if knownType t then
        if t == Facts.typeSK && tl.length ≠ 0 then .err
        else do let p ← unmarshalPayload t nx body; let rest ← decodeChain nx tl; .ok (p :: rest)
      else if (fl &&& 0x80) != 0 then .err else decodeChain nx tl := by
  have hstep := chainStep_frame t nx fl body tl hlen
  have hl : ([nx, fl] ++ put16 (UInt16.ofNat (4 + body.length)) ++ body ++ tl).length = 4 + body.length + tl.length := by
    simp only [List.length_append, List.length_cons, List.length_nil, put16_length]
  have hd : List.drop (4 + body.length) ([nx, fl] ++ put16 (UInt16.ofNat (4 + body.length)) ++ body ++ tl) = tl :=
    drop_prefix_eq _ tl _ (by simp only [List.length_append, List.length_cons, List.length_nil, put16_length])
  generalize [nx, fl] ++ put16 (UInt16.ofNat (4 + body.length)) ++ body ++ tl = b at *
  rw [decodeChain, dif_neg (by omega), hstep]
  by_cases hk : knownType t = true
  · rw [if_pos hk, if_pos hk]
    by_cases hsk : (t == Facts.typeSK && decide (tl.length ≠ 0)) = true
    · rw [if_pos hsk, if_pos hsk]
    · rw [if_neg hsk, if_neg hsk]
      cases unmarshalPayload t nx body with
      | ok p =>
        simp only [Res.bind_ok]
        rw [dif_pos (by omega), hd]
        cases decodeChain nx tl <;> rfl
      | err => rfl
      | fault => rfl
  · rw [if_neg hk, if_neg hk]
    cases (fl &&& 0x80) != 0 with
    | true => rfl
    | false =>
      simp only [Bool.false_eq_true, if_false]
      rw [dif_pos (by omega), hd]
      cases decodeChain nx tl <;> rfl

/-! ### §3.1 header -/

/-- the Length field only has to be ≥ 28: the decoder does not compare it with the datagram -/
theorem parseHeader_frame (ispi rspi : UInt64) (np ver ex fl : UInt8) (mid tot : UInt32) (pb : Bytes)
    (ht : 28 ≤ tot.toNat) :
    parseHeader (put64 ispi ++ put64 rspi ++ [np, ver, ex, fl] ++ put32 mid ++ put32 tot ++ pb) =
      .ok { ispi := ispi, rspi := rspi, major := ver >>> 4, minor := ver &&& 0x0F, exch := ex, flags := fl,
            mid := mid, next := np, payloadBytes := pb } := by
  have e : Facts.ikeHeaderLen = 28 := rfl
  have hge : ¬ tot < UInt32.ofNat 28 := by
    have e28 : (UInt32.ofNat 28).toNat = 28 := rfl
    rw [UInt32.lt_iff_toNat_lt, e28]; omega
  generalize hb : put64 ispi ++ put64 rspi ++ [np, ver, ex, fl] ++ put32 mid ++ put32 tot ++ pb = b
  have g0 : goU64 b 0 = .ok ispi := by
    rw [← hb, goU64_ok (by simp only [List.length_append, put64_length]; omega)]
    simp only [List.drop_zero, List.append_assoc]
    exact congrArg Res.ok (be64_put64 ispi _)
  have g8 : goU64 b 8 = .ok rspi := by
    rw [← hb, goU64_ok (by simp only [List.length_append, put64_length]; omega)]
    simp only [List.append_assoc]
    rw [drop_prefix_eq (put64 ispi) _ 8 rfl]
    exact congrArg Res.ok (be64_put64 rspi _)
  simp only [put64, put32, List.cons_append, List.nil_append] at hb
  have hl : b.length = pb.length + 28 := by rw [← hb]; rfl
  have g16 : goIndex b 16 = .ok np := by rw [← hb]; rfl
  have g17 : goIndex b 17 = .ok ver := by rw [← hb]; rfl
  have g18 : goIndex b 18 = .ok ex := by rw [← hb]; rfl
  have g19 : goIndex b 19 = .ok fl := by rw [← hb]; rfl
  have g20 : goU32 b 20 = .ok mid := by rw [← hb]; exact congrArg Res.ok (be32_put mid)
  have g24 : goU32 b 24 = .ok tot := by rw [← hb]; exact congrArg Res.ok (be32_put tot)
  have g28 : goFrom b 28 = .ok pb := by rw [← hb]; rfl
  unfold parseHeader
  rw [e, if_neg (by omega), g24, Res.bind_ok, if_neg hge, g0, Res.bind_ok, g8, Res.bind_ok, g16, Res.bind_ok, g17,
    Res.bind_ok, g18, Res.bind_ok, g19, Res.bind_ok, g20, Res.bind_ok, g28, Res.bind_ok]

theorem encodeHeader_ok (h : Header) (first : UInt8) (n : Nat) (hb : Bytes) (hm : encodeHeader h first n = .ok hb) :
    28 + n < 4294967296 ∧
    hb = put64 h.ispi ++ put64 h.rspi ++ [first, UInt8.ofNat (16 * h.major.toNat + h.minor.toNat), h.exch, h.flags] ++
      put32 h.mid ++ put32 (UInt32.ofNat (28 + n)) := by
  unfold encodeHeader at hm
  by_cases h1 : h.major.toNat ≥ 16
  · rw [if_pos h1] at hm; cases hm
  by_cases h2 : h.minor.toNat ≥ 16
  · rw [if_neg h1, if_pos h2] at hm; cases hm
  by_cases hbig : 28 + n ≥ 4294967296
  · rw [if_neg h1, if_neg h2, if_pos hbig] at hm; cases hm
  rw [if_neg h1, if_neg h2, if_neg hbig] at hm
  cases hm
  exact ⟨by omega, rfl⟩

/-- `IKEHeader.Marshal` = the RFC header followed by the payload octets (versions < 16) -/
theorem marshalHeader_spec (h : Header) (hmaj : h.major.toNat < 16) (hmin : h.minor.toNat < 16) :
    marshalHeader h = (do let hb ← encodeHeader h h.next h.payloadBytes.length; .ok (hb ++ h.payloadBytes)) := by
  unfold marshalHeader encodeHeader
  have e : Facts.ikeHeaderLen = 28 := rfl
  rw [e, if_neg (show ¬ h.major.toNat ≥ 16 by omega), if_neg (show ¬ h.minor.toNat ≥ 16 by omega)]
  dsimp only
  by_cases hbig : 28 + h.payloadBytes.length > 4294967295
  · rw [if_pos hbig, if_pos (show 28 + h.payloadBytes.length ≥ 4294967296 by omega)]
    rfl
  · rw [if_neg hbig, if_neg (show ¬ 28 + h.payloadBytes.length ≥ 4294967296 by omega), version_octet _ _ hmaj hmin]
    simp

end Ike
