import IkeProofs.Lemmas.Basic

/-! What each decoding function of the model does on arbitrary input (C04): it never returns `fault`
(no Go panic, no read beyond `len`), and what it returns obeys the bounds its callers rely on.

`Res.Safe x p` says both at once.  Each one-step parser and each body decoder is characterised once
(`…_safe`, or an equation `…_eq` with the reads resolved where later files need the value); the walk follows
the definition line by line: `safe_ite` for a guard, `safe_bind_ok (goU16_ok (by omega))` and the like for a
read that the guards cover.  Loops: functional induction; the `else .fault` arms behind the progress guards
are unreachable by the bounds of the steps.

Defined here because their first facts are here: `Res.Safe`, `unmarshalEapData` (the method dispatch inside
`unmarshalEap`), `SAKey.WF` (hypothesis of the unprotect theorems).  Also the length facts of CBC in both
directions and the inversions `parseHeader_inv`, `decodeMsg_inv`, `decryptMsg_result` that Sk, Stable and
Steps build on. -/

namespace Ike

namespace Res

/-- `x` is not a fault and every value it returns satisfies `p`. -/
def Safe {α : Type} (x : Res α) (p : α → Prop) : Prop := x ≠ fault ∧ ∀ a, x = ok a → p a

variable {α β : Type} {p q : α → Prop}

theorem Safe.ne_fault {x : Res α} (h : x.Safe p) : x ≠ fault := h.1

theorem Safe.of_ok {x : Res α} {a : α} (h : x.Safe p) (e : x = ok a) : p a := h.2 a e

theorem Safe.mono {x : Res α} (h : x.Safe q) (hpq : ∀ a, q a → p a) : x.Safe p :=
  ⟨h.1, fun a e => hpq a (h.2 a e)⟩

theorem safe_ok {a : α} (h : p a) : (ok a).Safe p := ⟨nofun, fun _ e => ok.inj e ▸ h⟩

theorem safe_err : (err : Res α).Safe p := ⟨nofun, nofun⟩

theorem safe_of_eq_ok {x : Res α} {a : α} (hx : x = ok a) (h : p a) : x.Safe p := hx ▸ safe_ok h

theorem safe_self {x : Res α} (h : x ≠ fault) : x.Safe fun a => x = ok a := ⟨h, fun _ e => e⟩

theorem safe_true {x : Res α} (h : x ≠ fault) : x.Safe fun _ => True := ⟨h, fun _ _ => trivial⟩

theorem Safe.bind {x : Res α} {f : α → Res β} {r : β → Prop} (hx : x.Safe q)
    (hf : ∀ a, q a → (f a).Safe r) : (x >>= f).Safe r := by
  cases x with
  | ok a => exact hf a (hx.2 a rfl)
  | err => exact safe_err
  | fault => exact absurd rfl hx.1

theorem safe_bind_ok {x : Res α} {a : α} {f : α → Res β} {r : β → Prop} (hx : x = ok a)
    (hf : (f a).Safe r) : (x >>= f).Safe r := hx ▸ hf

theorem safe_ite {c : Prop} [Decidable c] {x y : Res α} (hx : c → x.Safe p) (hy : ¬c → y.Safe p) :
    (if c then x else y).Safe p :=
  ite_cases (motive := fun r => Safe r p) hx hy

end Res

open Res

theorem unmarshalKE_safe (b : Bytes) : (unmarshalKE b).Safe fun p => ∃ g d, p = .ke g d ∧ 1 ≤ d.length := by
  unfold unmarshalKE
  refine safe_ite (fun _ => safe_err) fun h => ?_
  refine safe_bind_ok (goU16_ok (by omega)) ?_
  refine safe_bind_ok (goFrom_ok (by omega)) ?_
  exact safe_ok ⟨_, _, rfl, by rw [List.length_drop]; omega⟩

/-- the common shape of `unmarshalT4` (`k = 4`: IDi, IDr, AUTH) and `unmarshalT1` (`k = 1`: CERT, CERTREQ):
one type octet, `k - 1` octets not looked at, data -/
theorem typedData_safe (k : Nat) (mk : UInt8 → Bytes → Payload) (b : Bytes) :
    (if b.length ≤ k then Res.err else do
      let t ← goIndex b 0
      let d ← goFrom b k
      Res.ok (mk t d)).Safe fun p => ∃ t d, p = mk t d ∧ 1 ≤ d.length := by
  refine safe_ite (fun _ => safe_err) fun h => ?_
  refine safe_bind_ok (goIndex_ok (by omega)) ?_
  refine safe_bind_ok (goFrom_ok (by omega)) ?_
  exact safe_ok ⟨_, _, rfl, by rw [List.length_drop]; omega⟩

theorem unmarshalT4_safe (mk : UInt8 → Bytes → Payload) (b : Bytes) :
    (unmarshalT4 mk b).Safe fun p => ∃ t d, p = mk t d ∧ 1 ≤ d.length :=
  typedData_safe 4 mk b

theorem unmarshalT1_safe (mk : UInt8 → Bytes → Payload) (b : Bytes) :
    (unmarshalT1 mk b).Safe fun p => ∃ t d, p = mk t d ∧ 1 ≤ d.length :=
  typedData_safe 1 mk b

theorem unmarshalNotify_safe (b : Bytes) :
    (unmarshalNotify b).Safe fun p => ∃ proto nt spi d, p = .notify proto nt spi d := by
  unfold unmarshalNotify
  refine safe_ite (fun _ => safe_ok ⟨_, _, _, _, rfl⟩) fun h0 => ?_
  refine safe_ite (fun _ => safe_err) fun h4 => ?_
  refine safe_bind_ok (goIndex_ok (by omega)) ?_
  refine safe_ite (fun _ => safe_err) fun hl => ?_
  refine safe_bind_ok (goIndex_ok (by omega)) ?_
  refine safe_bind_ok (goU16_ok (by omega)) ?_
  refine safe_bind_ok (goSlice_ok (by omega) (by omega)) ?_
  refine safe_bind_ok (goFrom_ok (by omega)) ?_
  exact safe_ok ⟨_, _, _, _, rfl⟩

theorem deleteSPIs_ne_fault (n : Nat) (b : Bytes) (h : 4 * n ≤ b.length) : deleteSPIs n b ≠ .fault := by
  fun_induction deleteSPIs n b with
  | case1 | case2 | case3 => nofun
  | case4 n b0 b1 b2 b3 rest hr ih => exact absurd hr (ih (by simp only [List.length_cons] at h; omega))
  | case5 n b hb =>
    -- fewer than four octets left for one more SPI
    match b, hb with
    | _ :: _ :: _ :: _ :: _, hb => exact absurd rfl (hb _ _ _ _ _)
    | [], _ | [_], _ | [_, _], _ | [_, _, _], _ => simp only [List.length_cons, List.length_nil] at h; omega

theorem unmarshalDelete_safe (b : Bytes) :
    (unmarshalDelete b).Safe fun p =>
      ∃ proto s n spis, p = .delete proto s n spis ∧
        (b.length = 0 ∧ proto = 0 ∧ s = 0 ∧ n = 0 ∧ spis = [] ∨
         3 < b.length ∧ s = byteAt b 1 ∧ n = be16 (byteAt b 2) (byteAt b 3) ∧
         4 + s.toNat * n.toNat ≤ b.length ∧ (n.toNat > 0 → s = 4) ∧ deleteSPIs n.toNat (b.drop 4) = .ok spis) := by
  unfold unmarshalDelete
  refine safe_ite (fun h0 => safe_ok ⟨_, _, _, _, rfl, .inl ⟨h0, rfl, rfl, rfl, rfl⟩⟩) fun h0 => ?_
  refine safe_ite (fun _ => safe_err) fun h3 => ?_
  refine safe_bind_ok (goIndex_ok (by omega)) ?_
  refine safe_bind_ok (a := be16 (byteAt b 2) (byteAt b 3)) (goU16_ok (by omega)) ?_
  refine safe_ite (fun _ => safe_err) fun hlen => ?_
  refine safe_ite (fun _ => safe_err) fun hs => ?_
  have hs : (be16 (byteAt b 2) (byteAt b 3)).toNat > 0 → byteAt b 1 = 4 := by
    simpa only [Bool.and_eq_true, decide_eq_true_eq, bne_iff_ne, ne_eq, not_and, Decidable.not_not] using hs
  refine safe_bind_ok (goIndex_ok (by omega)) ?_
  refine safe_bind_ok (goFrom_ok (by omega)) ?_
  refine (safe_self (deleteSPIs_ne_fault _ _ ?_)).bind fun _ hu =>
    safe_ok ⟨_, _, _, _, rfl, .inr ⟨by omega, rfl, rfl, by omega, hs, hu⟩⟩
  -- a positive count comes with 4-octet SPIs, which `hlen` has measured
  simp only [List.length_drop]
  by_cases hz : (be16 (byteAt b 2) (byteAt b 3)).toNat > 0
  · have h4 : (byteAt b 1).toNat = 4 := congrArg UInt8.toNat (hs hz)
    rw [h4] at hlen
    omega
  · omega

theorem parseCPAttr_safe (d : Bytes) (h : 4 ≤ d.length) :
    (parseCPAttr d).Safe fun (_, n) => 4 ≤ n ∧ n ≤ d.length := by
  unfold parseCPAttr
  refine safe_bind_ok (goU16_ok (by omega)) ?_
  refine safe_ite (fun _ => safe_err) fun hl => ?_
  refine safe_bind_ok (goU16_ok (by omega)) ?_
  refine safe_bind_ok (goSlice_ok (by omega) (by omega)) ?_
  exact safe_ok (by omega)

/-- in the shape of the loop guard of `unmarshalCPAttrs`; likewise the other `_len` lemmas -/
theorem parseCPAttr_len (d : Bytes) (h : 4 ≤ d.length) (a : CPAttr) (n : Nat)
    (hp : parseCPAttr d = .ok (a, n)) : 0 < n ∧ n ≤ d.length := by
  obtain ⟨h1, h2⟩ := (parseCPAttr_safe d h).of_ok hp
  omega

theorem unmarshalCPAttrs_ne_fault (d : Bytes) : unmarshalCPAttrs d ≠ .fault := by
  -- the cases are the leaves of the definition, top to bottom.  Three of them return `.fault`: the recursive
  -- call did (case5, excluded by `ih`), the `else` of the progress guard `hn` (case6), the step did (case8);
  -- the others return `.ok` or `.err`.  The loops below have the same leaves, in the same order.
  fun_induction unmarshalCPAttrs d with
  | case1 | case2 | case3 | case4 | case7 => nofun
  | case5 d h0 h4 a n hp hn hrest ih => exact absurd hrest ih
  | case6 d h0 h4 a n hp hn => exact absurd (parseCPAttr_len d (by omega) a n hp) hn
  | case8 d h0 h4 hp => exact absurd hp (parseCPAttr_safe d (by omega)).ne_fault

theorem unmarshalCP_safe (b : Bytes) :
    (unmarshalCP b).Safe fun p =>
      ∃ ct attrs, p = .cp ct attrs ∧ 4 < b.length ∧ unmarshalCPAttrs (b.drop 4) = .ok attrs := by
  unfold unmarshalCP
  refine safe_ite (fun _ => safe_err) fun h => ?_
  refine safe_bind_ok (goIndex_ok (by omega)) ?_
  refine safe_bind_ok (goFrom_ok (by omega)) ?_
  exact (safe_self (unmarshalCPAttrs_ne_fault _)).bind fun _ hu => safe_ok ⟨_, _, rfl, by omega, hu⟩

theorem parseTSel_safe (b : Bytes) (h : 4 ≤ b.length) :
    (parseTSel b).Safe fun (_, k) => 16 ≤ k ∧ k ≤ b.length := by
  unfold parseTSel
  refine safe_bind_ok (goIndex_ok (by omega)) ?_
  refine safe_ite (fun _ => ?_) fun _ => safe_ite (fun _ => ?_) fun _ => safe_err
  -- IPv4 and IPv6 selectors: the same reads behind the length 16 or 40
  all_goals
    refine safe_bind_ok (a := be16 (byteAt b 2) (byteAt b 3)) (goU16_ok (by omega)) ?_
    refine safe_ite (fun _ => safe_err) fun hne => ?_
    refine safe_ite (fun _ => safe_err) fun hl => ?_
    simp only [bne_iff_ne, ne_eq, Decidable.not_not] at hne
    rw [hne] at hl
    simp only [UInt16.reduceToNat] at hl
    refine safe_bind_ok (goIndex_ok (by omega)) ?_
    refine safe_bind_ok (goU16_ok (by omega)) ?_
    refine safe_bind_ok (goU16_ok (by omega)) ?_
    refine safe_bind_ok (goSlice_ok (by omega) (by omega)) ?_
    refine safe_bind_ok (goSlice_ok (by omega) (by omega)) ?_
    exact safe_ok (by omega)

theorem unmarshalTSels_ne_fault (n : Nat) (b : Bytes) : unmarshalTSels n b ≠ .fault := by
  fun_induction unmarshalTSels n b with
  | case1 | case2 | case3 | case4 => nofun
  | case5 n b h4 t k hp hk hrest ih => exact absurd hrest ih
  | case6 n b h4 t k hp hk => exact absurd ((parseTSel_safe b (by omega)).of_ok hp).2 hk
  | case7 => nofun
  | case8 n b h4 hp => exact absurd hp (parseTSel_safe b (by omega)).ne_fault

theorem unmarshalTS_safe (mk : List TSel → Payload) (b : Bytes) :
    (unmarshalTS mk b).Safe fun p =>
      ∃ l, p = mk l ∧
        (b.length = 0 ∧ l = [] ∨ 4 ≤ b.length ∧ unmarshalTSels (byteAt b 0).toNat (b.drop 4) = .ok l) := by
  unfold unmarshalTS
  refine safe_ite (fun h0 => safe_ok ⟨_, rfl, .inl ⟨h0, rfl⟩⟩) fun h0 => ?_
  refine safe_ite (fun _ => safe_err) fun h4 => ?_
  refine safe_bind_ok (goIndex_ok (by omega)) ?_
  refine safe_bind_ok (goFrom_ok (by omega)) ?_
  exact (safe_self (unmarshalTSels_ne_fault _ _)).bind fun _ hu => safe_ok ⟨_, rfl, .inr ⟨by omega, hu⟩⟩

theorem parseTransform_safe (td : Bytes) (h : 8 ≤ td.length) :
    (parseTransform td).Safe fun (_, n) => 8 ≤ n ∧ n ≤ td.length := by
  unfold parseTransform
  refine safe_bind_ok (goU16_ok (by omega)) ?_
  refine safe_ite (fun _ => safe_err) fun h8 => ?_
  refine safe_ite (fun _ => safe_err) fun hl => ?_
  have h8 := u16_le_of_not_lt 8 h8
  refine safe_bind_ok (goIndex_ok (by omega)) ?_
  refine safe_bind_ok (goU16_ok (by omega)) ?_
  refine safe_ite (fun _ => ?_) fun _ => safe_ok (by omega)
  refine safe_ite (fun _ => safe_err) fun h12 => ?_
  have h12 := u16_le_of_not_lt 12 h12
  refine safe_bind_ok (goIndex_ok (by omega)) ?_
  refine safe_bind_ok (goU16_ok (by omega)) ?_
  refine safe_ite (fun _ => ?_) fun _ => ?_
  · refine safe_bind_ok (goU16_ok (by omega)) ?_
    refine safe_ite (fun _ => safe_err) fun _ => ?_
    refine safe_bind_ok (goSlice_ok (by omega) (by omega)) ?_
    exact safe_ok (by omega)
  · refine safe_bind_ok (goU16_ok (by omega)) ?_
    exact safe_ok (by omega)

theorem parseTransform_len (td : Bytes) (h : 8 ≤ td.length) (t : Transform) (n : Nat)
    (hp : parseTransform td = .ok (t, n)) : 0 < n ∧ n ≤ td.length := by
  obtain ⟨h1, h2⟩ := (parseTransform_safe td h).of_ok hp
  omega

theorem unmarshalTransforms_ne_fault (td : Bytes) (p : Proposal) : unmarshalTransforms td p ≠ .fault := by
  fun_induction unmarshalTransforms td p with
  | case1 | case2 => nofun
  | case3 td p h0 h8 t n hp hn ih => exact ih
  | case4 td p h0 h8 t n hp hn => exact absurd (parseTransform_len td (by omega) t n hp) hn
  | case5 => nofun
  | case6 td p h0 h8 hp => exact absurd hp (parseTransform_safe td (by omega)).ne_fault

theorem parseProposal_safe (b : Bytes) (h : 8 ≤ b.length) :
    (parseProposal b).Safe fun (p, n) =>
      n = (be16 (byteAt b 2) (byteAt b 3)).toNat ∧ 8 + (byteAt b 6).toNat ≤ n ∧ n ≤ b.length ∧
      ∃ spi, unmarshalTransforms ((b.take n).drop (8 + (byteAt b 6).toNat))
        ⟨byteAt b 4, byteAt b 5, spi, [], [], [], [], []⟩ = .ok p := by
  unfold parseProposal
  refine safe_bind_ok (a := be16 (byteAt b 2) (byteAt b 3)) (goU16_ok (by omega)) ?_
  refine safe_ite (fun _ => safe_err) fun h8 => ?_
  refine safe_ite (fun _ => safe_err) fun hl => ?_
  have h8 := u16_le_of_not_lt 8 h8
  refine safe_bind_ok (goIndex_ok (by omega)) ?_
  refine safe_bind_ok (goIndex_ok (by omega)) ?_
  refine safe_bind_ok (goIndex_ok (by omega)) ?_
  -- `do` has copied the rest of the block into the three branches that compute the SPI
  simp only [← Res.ite_bind]
  refine Safe.bind (q := fun _ => 8 + (byteAt b 6).toNat ≤ (be16 (byteAt b 2) (byteAt b 3)).toNat) ?_ fun spi hs => ?_
  · refine safe_ite (fun _ => safe_ite (fun _ => safe_err) fun hs => ?_) fun _ => safe_ok (by omega)
    exact safe_of_eq_ok (goSlice_ok (by omega) (by omega)) (by omega)
  · refine safe_bind_ok (goSlice_ok hs (by omega)) ?_
    refine (safe_self (unmarshalTransforms_ne_fault _ _)).bind fun p hp => ?_
    exact safe_ok ⟨rfl, hs, by omega, spi, hp⟩

theorem parseProposal_len (b : Bytes) (h : 8 ≤ b.length) (p : Proposal) (n : Nat)
    (hp : parseProposal b = .ok (p, n)) : 0 < n ∧ n ≤ b.length := by
  obtain ⟨-, h1, h2, -⟩ := (parseProposal_safe b h).of_ok hp
  omega

theorem unmarshalProposals_ne_fault (b : Bytes) : unmarshalProposals b ≠ .fault := by
  fun_induction unmarshalProposals b with
  | case1 | case2 | case3 | case4 => nofun
  | case5 b h0 h8 p n hp hn hrest ih => exact absurd hrest ih
  | case6 b h0 h8 p n hp hn => exact absurd (parseProposal_len b (by omega) p n hp) hn
  | case7 => nofun
  | case8 b h0 h8 hp => exact absurd hp (parseProposal_safe b (by omega)).ne_fault

theorem unmarshalSA_safe (b : Bytes) : (unmarshalSA b).Safe fun p => p.typeCode = Facts.typeSA :=
  (safe_true (unmarshalProposals_ne_fault b)).bind fun _ _ => safe_ok rfl

theorem unmarshalSimple_ne_fault (code : UInt8) (mk : Bytes → EapData) (b : Bytes) :
    unmarshalSimple code mk b ≠ .fault := by
  refine Safe.ne_fault (p := fun _ => True) ?_
  unfold unmarshalSimple
  refine safe_ite (fun h => ?_) fun _ => safe_ok trivial
  refine safe_bind_ok (goIndex_ok (by omega)) ?_
  refine safe_ite (fun _ => safe_err) fun _ => ?_
  refine safe_bind_ok (goFrom_ok (by omega)) ?_
  exact safe_ok trivial

theorem unmarshalExpanded_ne_fault (b : Bytes) : unmarshalExpanded b ≠ .fault := by
  refine Safe.ne_fault (p := fun _ => True) ?_
  unfold unmarshalExpanded
  refine safe_ite (fun _ => safe_ok trivial) fun h0 => ?_
  refine safe_ite (fun _ => safe_err) fun h8 => ?_
  refine safe_bind_ok (goU32_ok (by omega)) ?_
  refine safe_bind_ok (goU32_ok (by omega)) ?_
  exact safe_ite (fun _ => safe_bind_ok (goFrom_ok (by omega)) (safe_ok trivial)) fun _ => safe_ok trivial

theorem readN_ge {r : Bytes} {n : Nat} (h : n ≤ r.length) : readN r n = some (r.take n, r.drop n) := if_pos h

theorem readN_lt {r : Bytes} {n : Nat} (h : ¬ n ≤ r.length) : readN r n = none := if_neg h

theorem readN_some_le {r : Bytes} {n : Nat} {x : Bytes × Bytes} (h : readN r n = some x) : n ≤ r.length := by
  unfold readN at h
  split at h
  · assumption
  · cases h

theorem readN_append (a r : Bytes) (n : Nat) (h : n = a.length) : readN (a ++ r) n = some (a, r) := by
  subst h
  rw [readN, if_pos (by rw [List.length_append]; omega), List.take_left, List.drop_left]

/-- `io.ReadFull` of `n` octets in front of the rest `f` of an attribute parser -/
theorem safe_readN {α : Type} {r : Bytes} {n : Nat} {f : Bytes → Bytes → Res α} {p : α → Prop}
    (hf : n ≤ r.length → (f (r.take n) (r.drop n)).Safe p) :
    (match readN r n with
      | none => Res.err
      | some (v, r') => f v r').Safe p := by
  unfold readN
  by_cases h : n ≤ r.length
  · rw [if_pos h]; exact hf h
  · rw [if_neg h]; exact safe_err

/-- a read in front of the rest `f` of an attribute parser: a result means the octets were there
(the companion of `safe_readN`) -/
theorem readN_match_ok {α : Type} {r : Bytes} {n : Nat} {f : Bytes → Bytes → Res α} {y : α}
    (h : (match readN r n with
          | none => Res.err
          | some (v, r') => f v r') = .ok y) :
    n ≤ r.length ∧ f (r.take n) (r.drop n) = .ok y := by
  by_cases hn : n ≤ r.length
  · rw [readN, if_pos hn] at h; exact ⟨hn, h⟩
  · rw [readN, if_neg hn] at h; cases h

theorem parseAkaBody_safe (t len : UInt8) (r : Bytes) :
    (parseAkaBody t len r).Safe fun (a, n) => a.atype = t ∧ a.length = len ∧ 2 ≤ n ∧ n ≤ r.length := by
  unfold parseAkaBody
  refine safe_ite (fun _ => ?_) fun _ => safe_ite (fun _ => ?_) fun _ => safe_ite (fun _ => ?_) fun _ => ?_
  · refine safe_ite (fun _ => safe_err) fun _ => ?_
    refine safe_readN fun l1 => safe_readN fun l2 => ?_
    rw [List.length_drop] at l2
    exact safe_ok ⟨rfl, rfl, by omega, by omega⟩
  · refine safe_readN fun l1 => ?_
    refine safe_ite (fun _ => safe_err) fun _ => ?_
    refine safe_readN fun l2 => ?_
    rw [List.length_drop] at l2
    refine safe_ite (fun _ => ?_) fun _ => safe_ok ⟨rfl, rfl, by omega, by omega⟩
    -- the padding is read and dropped (`some _`): not the `match` that `safe_readN` is about
    split
    · exact safe_err
    · have l3 := readN_some_le ‹_›
      simp only [List.length_drop] at l3
      exact safe_ok ⟨rfl, rfl, by omega, by omega⟩
  · refine safe_readN fun l1 => ?_
    -- `4 * len - 1 - 1` in `uint8` is one of 254, 2, 6, …, 250
    have hk : 2 ≤ (4 * len - 1 - 1).toNat := by
      have hl := len.toNat_lt
      simp only [UInt8.toNat_sub, UInt8.toNat_mul, UInt8.toNat_ofNat]
      omega
    exact safe_ok ⟨rfl, rfl, hk, l1⟩
  · refine safe_ite (fun _ => safe_err) fun _ => ?_
    refine safe_readN fun l1 => safe_readN fun l2 => ?_
    rw [List.length_drop] at l2
    exact safe_ok ⟨rfl, rfl, by omega, by omega⟩

theorem parseAkaBody_len (t len : UInt8) (r : Bytes) (a : AkaAttr) (n : Nat)
    (hp : parseAkaBody t len r = .ok (a, n)) : n ≤ r.length :=
  ((parseAkaBody_safe t len r).of_ok hp).2.2.2

theorem unmarshalAkaAttrs_ne_fault (r : Bytes) (acc : List AkaAttr) : unmarshalAkaAttrs r acc ≠ .fault := by
  fun_induction unmarshalAkaAttrs r acc with
  | case1 | case2 => nofun
  | case3 acc t len body a n hp hn ih => exact ih
  | case4 acc t len body a n hp hn => exact absurd (parseAkaBody_len t len body a n hp) hn
  | case5 => nofun
  | case6 acc t len body hp => exact absurd hp (parseAkaBody_safe t len body).ne_fault

theorem unmarshalAka_eq (raw : Bytes) :
    unmarshalAka raw =
      if raw.length < 4 then .err else
      if byteAt raw 0 != Facts.eapTypeAkaPrime then .err else
      unmarshalAkaAttrs (raw.drop 4) [] >>= fun attrs =>
        .ok ⟨byteAt raw 1, be16 (byteAt raw 2) (byteAt raw 3), attrs⟩ := by
  unfold unmarshalAka
  refine ite_congr rfl (fun _ => rfl) fun h4 => ?_
  rw [goIndex_ok (by omega), Res.bind_ok]
  refine ite_congr rfl (fun _ => rfl) fun _ => ?_
  rw [goIndex_ok (by omega), Res.bind_ok, goU16_ok (by omega), Res.bind_ok, goFrom_ok (by omega), Res.bind_ok]

theorem unmarshalAka_ne_fault (raw : Bytes) : unmarshalAka raw ≠ .fault := by
  refine Safe.ne_fault (p := fun _ => True) ?_
  rw [unmarshalAka_eq]
  refine safe_ite (fun _ => safe_err) fun _ => safe_ite (fun _ => safe_err) fun _ => ?_
  exact (safe_true (unmarshalAkaAttrs_ne_fault _ _)).bind fun _ _ => safe_ok trivial

/-- the method dispatch of `EAP.Unmarshal` on the type-data `body` (non-empty) -/
def unmarshalEapData (body : Bytes) : Res EapData :=
  let ty := byteAt body 0
  if ty == Facts.eapTypeIdentity then unmarshalSimple Facts.eapTypeIdentity .identity body
  else if ty == Facts.eapTypeNotification then unmarshalSimple Facts.eapTypeNotification .notification body
  else if ty == Facts.eapTypeNak then unmarshalSimple Facts.eapTypeNak .nak body
  else if ty == Facts.eapTypeAkaPrime then (do let a ← unmarshalAka body; .ok (.aka a))
  else if ty == Facts.eapTypeExpanded then unmarshalExpanded body
  else .err

/-- `EAP.Unmarshal` with its reads resolved: each is covered by the guards in front of it -/
theorem unmarshalEap_eq (b : Bytes) :
    unmarshalEap b =
      if b.length = 0 then .ok ⟨0, 0, .none⟩ else
      if b.length < 4 then .err else
      if be16 (byteAt b 2) (byteAt b 3) < 4 then .err else
      if b.length ≠ (be16 (byteAt b 2) (byteAt b 3)).toNat then .err else
      if b.length = 4 then .ok ⟨byteAt b 0, byteAt b 1, .none⟩ else
      unmarshalEapData (b.drop 4) >>= fun d => .ok ⟨byteAt b 0, byteAt b 1, d⟩ := by
  unfold unmarshalEap
  refine ite_congr rfl (fun _ => rfl) fun h0 => ite_congr rfl (fun _ => rfl) fun h4 => ?_
  rw [goU16_ok (by omega), Res.bind_ok]
  refine ite_congr rfl (fun _ => rfl) fun hpl => ite_congr rfl (fun _ => rfl) fun hlen => ?_
  rw [goIndex_ok (by omega), Res.bind_ok, goIndex_ok (by omega), Res.bind_ok]
  -- `hlen` has just forced the length to equal the length field, so the test on the field is a test on the length
  have e4 : ((be16 (byteAt b 2) (byteAt b 3) == 4) = true) = (b.length = 4) := by
    rw [Decidable.not_not.mp hlen, beq_iff_eq, ← UInt16.toNat_inj]; rfl
  refine ite_congr e4 (fun _ => rfl) fun h => ?_
  rw [goIndex_ok (by omega), Res.bind_ok, goFrom_ok (by omega), Res.bind_ok]
  have : byteAt (b.drop 4) 0 = byteAt b 4 := by simp [byteAt]
  unfold unmarshalEapData
  simp only [this, Res.ite_bind]

theorem unmarshalEapData_ne_fault (body : Bytes) : unmarshalEapData body ≠ .fault := by
  refine Safe.ne_fault (p := fun _ => True) ?_
  unfold unmarshalEapData
  refine safe_ite (fun _ => safe_true (unmarshalSimple_ne_fault _ _ _)) fun _ => ?_
  refine safe_ite (fun _ => safe_true (unmarshalSimple_ne_fault _ _ _)) fun _ => ?_
  refine safe_ite (fun _ => safe_true (unmarshalSimple_ne_fault _ _ _)) fun _ => ?_
  refine safe_ite (fun _ => ?_) fun _ => safe_ite (fun _ => safe_true (unmarshalExpanded_ne_fault _)) fun _ => safe_err
  exact (safe_true (unmarshalAka_ne_fault _)).bind fun _ _ => safe_ok trivial

theorem unmarshalEap_ne_fault (b : Bytes) : unmarshalEap b ≠ .fault := by
  refine Safe.ne_fault (p := fun _ => True) ?_
  rw [unmarshalEap_eq]
  refine safe_ite (fun _ => safe_ok trivial) fun _ => safe_ite (fun _ => safe_err) fun _ => ?_
  refine safe_ite (fun _ => safe_err) fun _ => safe_ite (fun _ => safe_err) fun _ => ?_
  refine safe_ite (fun _ => safe_ok trivial) fun _ => ?_
  exact (safe_true (unmarshalEapData_ne_fault _)).bind fun _ _ => safe_ok trivial

theorem parseHeader_eq (b : Bytes) :
    parseHeader b =
      if b.length < 28 then .err else
      if be32 (byteAt b 24) (byteAt b 25) (byteAt b 26) (byteAt b 27) < 28 then .err else
      .ok { ispi := be64 b, rspi := be64 (b.drop 8), major := byteAt b 17 >>> 4, minor := byteAt b 17 &&& 0x0F,
            exch := byteAt b 18, flags := byteAt b 19,
            mid := be32 (byteAt b 20) (byteAt b 21) (byteAt b 22) (byteAt b 23), next := byteAt b 16,
            payloadBytes := b.drop 28 } := by
  unfold parseHeader
  refine ite_congr rfl (fun _ => rfl) fun h => ?_
  have h : 28 ≤ b.length := Nat.le_of_not_lt h
  rw [goU32_ok (by omega), Res.bind_ok]
  refine ite_congr rfl (fun _ => rfl) fun _ => ?_
  rw [goU64_ok (by omega), Res.bind_ok, goU64_ok (by omega), Res.bind_ok, goIndex_ok (by omega), Res.bind_ok,
    goIndex_ok (by omega), Res.bind_ok, goIndex_ok (by omega), Res.bind_ok, goIndex_ok (by omega), Res.bind_ok,
    goU32_ok (by omega), Res.bind_ok, goFrom_ok (lo := Facts.ikeHeaderLen) h, Res.bind_ok]
  rfl

theorem parseHeader_ne_fault (b : Bytes) : parseHeader b ≠ .fault := by
  rw [parseHeader_eq]
  exact (safe_ite (p := fun _ => True) (fun _ => safe_err) fun _ =>
    safe_ite (fun _ => safe_err) fun _ => safe_ok trivial).ne_fault

theorem parseHeader_inv (b : Bytes) (h : Header) (hp : parseHeader b = .ok h) :
    h.payloadBytes = b.drop 28 ∧ 28 ≤ b.length := by
  rw [parseHeader_eq] at hp
  split at hp
  · cases hp
  · split at hp
    · cases hp
    · cases hp; exact ⟨rfl, by omega⟩

/-- the payload type selects the decoder: `unmarshalPayload t` is one of these functions of the
next-payload octet and the body -/
theorem unmarshalPayload_cases {motive : UInt8 → (UInt8 → Bytes → Res Payload) → Prop}
    (sa : motive Facts.typeSA fun _ b => unmarshalSA b) (ke : motive Facts.typeKE fun _ b => unmarshalKE b)
    (idi : motive Facts.typeIDi fun _ b => unmarshalT4 .idi b)
    (idr : motive Facts.typeIDr fun _ b => unmarshalT4 .idr b)
    (cert : motive Facts.typeCERT fun _ b => unmarshalT1 .cert b)
    (certreq : motive Facts.typeCERTreq fun _ b => unmarshalT1 .certreq b)
    (auth : motive Facts.typeAUTH fun _ b => unmarshalT4 .auth b)
    (nonce : motive Facts.typeNiNr fun _ b => .ok (.nonce b))
    (notify : motive Facts.typeN fun _ b => unmarshalNotify b)
    (delete : motive Facts.typeD fun _ b => unmarshalDelete b)
    (vendor : motive Facts.typeV fun _ b => .ok (.vendor b))
    (tsi : motive Facts.typeTSi fun _ b => unmarshalTS .tsi b)
    (tsr : motive Facts.typeTSr fun _ b => unmarshalTS .tsr b)
    (sk : motive Facts.typeSK fun nx b => .ok (.sk nx b)) (cp : motive Facts.typeCP fun _ b => unmarshalCP b)
    (eap : motive Facts.typeEAP fun _ b => unmarshalEap b >>= fun e => .ok (.eap e))
    (unknown : ∀ t, motive t fun _ _ => .err) (t : UInt8) : motive t (unmarshalPayload t) :=
  ite_beq_cases_fun sa <| ite_beq_cases_fun ke <| ite_beq_cases_fun idi <| ite_beq_cases_fun idr <|
  ite_beq_cases_fun cert <| ite_beq_cases_fun certreq <| ite_beq_cases_fun auth <| ite_beq_cases_fun nonce <|
  ite_beq_cases_fun notify <| ite_beq_cases_fun delete <| ite_beq_cases_fun vendor <| ite_beq_cases_fun tsi <|
  ite_beq_cases_fun tsr <| ite_beq_cases_fun sk <| ite_beq_cases_fun cp <| ite_beq_cases_fun eap <| unknown t

/-- a decoder for a payload type other than SK, as a case of the dispatch: the clause about Encrypted payloads is
vacuous for it -/
theorem Res.Safe.not_sk {x : Res Payload} {c : UInt8} (hx : x.Safe fun p => p.typeCode = c)
    (hc : c ≠ Facts.typeSK) (nx : UInt8) (body : Bytes) :
    x.Safe fun p => p.typeCode = c ∧ ∀ n d, p = .sk n d → n = nx ∧ d = body :=
  hx.mono fun _ hp => ⟨hp, fun _ _ e => absurd (e ▸ hp).symm hc⟩

theorem unmarshalPayload_safe (t nx : UInt8) (body : Bytes) :
    (unmarshalPayload t nx body).Safe fun p => p.typeCode = t ∧ ∀ n d, p = .sk n d → n = nx ∧ d = body := by
  have t4 (mk) (c) (h : ∀ x d, (mk x d).typeCode = c) : (unmarshalT4 mk body).Safe fun p => p.typeCode = c :=
    (unmarshalT4_safe mk body).mono fun _ ⟨_, _, e, _⟩ => e ▸ h _ _
  have t1 (mk) (c) (h : ∀ x d, (mk x d).typeCode = c) : (unmarshalT1 mk body).Safe fun p => p.typeCode = c :=
    (unmarshalT1_safe mk body).mono fun _ ⟨_, _, e, _⟩ => e ▸ h _ _
  have ts (mk) (c) (h : ∀ l, (mk l).typeCode = c) : (unmarshalTS mk body).Safe fun p => p.typeCode = c :=
    (unmarshalTS_safe mk body).mono fun _ ⟨_, e, _⟩ => e ▸ h _
  have ke : (unmarshalKE body).Safe fun p => p.typeCode = Facts.typeKE :=
    (unmarshalKE_safe body).mono fun _ ⟨_, _, e, _⟩ => e ▸ rfl
  have ntf : (unmarshalNotify body).Safe fun p => p.typeCode = Facts.typeN :=
    (unmarshalNotify_safe body).mono fun _ ⟨_, _, _, _, e⟩ => e ▸ rfl
  have del : (unmarshalDelete body).Safe fun p => p.typeCode = Facts.typeD :=
    (unmarshalDelete_safe body).mono fun _ ⟨_, _, _, _, e, _⟩ => e ▸ rfl
  have cp : (unmarshalCP body).Safe fun p => p.typeCode = Facts.typeCP :=
    (unmarshalCP_safe body).mono fun _ ⟨_, _, e, _⟩ => e ▸ rfl
  have eap : (unmarshalEap body >>= fun e => .ok (Payload.eap e)).Safe fun p => p.typeCode = Facts.typeEAP :=
    (safe_true (unmarshalEap_ne_fault _)).bind fun _ _ => safe_ok rfl
  exact unmarshalPayload_cases
    (motive := fun t f => (f nx body).Safe fun p => p.typeCode = t ∧ ∀ n d, p = .sk n d → n = nx ∧ d = body)
    ((unmarshalSA_safe _).not_sk (by decide) _ _) (ke.not_sk (by decide) _ _)
    ((t4 .idi Facts.typeIDi fun _ _ => rfl).not_sk (by decide) _ _)
    ((t4 .idr Facts.typeIDr fun _ _ => rfl).not_sk (by decide) _ _)
    ((t1 .cert Facts.typeCERT fun _ _ => rfl).not_sk (by decide) _ _)
    ((t1 .certreq Facts.typeCERTreq fun _ _ => rfl).not_sk (by decide) _ _)
    ((t4 .auth Facts.typeAUTH fun _ _ => rfl).not_sk (by decide) _ _) (safe_ok ⟨rfl, nofun⟩)
    (ntf.not_sk (by decide) _ _) (del.not_sk (by decide) _ _)
    (safe_ok ⟨rfl, nofun⟩) ((ts .tsi Facts.typeTSi fun _ => rfl).not_sk (by decide) _ _)
    ((ts .tsr Facts.typeTSr fun _ => rfl).not_sk (by decide) _ _)
    (safe_ok ⟨rfl, fun _ _ e => by cases e; exact ⟨rfl, rfl⟩⟩)
    (cp.not_sk (by decide) _ _) (eap.not_sk (by decide) _ _) (fun _ => safe_err) t

/-- `(op, nx, n)`: the payload decoded (`none`: unknown type, not critical, skipped), the type of the next
payload, the octets consumed -/
theorem chainStep_safe (t : UInt8) (b : Bytes) :
    (chainStep t b).Safe fun (op, nx, n) =>
      nx = byteAt b 0 ∧ n = (be16 (byteAt b 2) (byteAt b 3)).toNat ∧ 4 ≤ n ∧ n ≤ b.length ∧
      ∀ p, op = some p → knownType t = true ∧ (t = Facts.typeSK → n = b.length) ∧
        unmarshalPayload t nx ((b.take n).drop 4) = .ok p := by
  unfold chainStep
  refine safe_ite (fun _ => safe_err) fun h4 => ?_
  refine safe_bind_ok (a := be16 (byteAt b 2) (byteAt b 3)) (goU16_ok (by omega)) ?_
  refine safe_ite (fun _ => safe_err) fun hpl => ?_
  refine safe_ite (fun _ => safe_err) fun hl => ?_
  have hpl := u16_le_of_not_lt 4 hpl
  refine safe_bind_ok (goIndex_ok (by omega)) ?_
  refine safe_bind_ok (goIndex_ok (by omega)) ?_
  refine safe_ite (fun hk => ?_) fun _ => safe_ite (fun _ => safe_ok ?_) fun _ => safe_err
  · refine safe_ite (fun _ => safe_err) fun hsk => ?_
    refine safe_bind_ok (goSlice_ok (by omega) (by omega)) ?_
    refine (safe_self (unmarshalPayload_safe _ _ _).ne_fault).bind fun p hp => safe_ok ?_
    refine ⟨rfl, rfl, by omega, by omega, fun _ e => ⟨hk, fun ht => ?_, Option.some.inj e ▸ hp⟩⟩
    -- Go `case TypeSK`: an Encrypted payload that does not end the container was refused by the guard `hsk`
    exact Eq.symm (by simpa [ht] using hsk)
  · exact ⟨rfl, rfl, by omega, by omega, nofun⟩

theorem chainStep_len (t : UInt8) (b : Bytes) (op : Option Payload) (nx : UInt8) (n : Nat)
    (hp : chainStep t b = .ok (op, nx, n)) : 0 < n ∧ n ≤ b.length := by
  obtain ⟨-, -, h1, h2, -⟩ := (chainStep_safe t b).of_ok hp
  omega

theorem decodeChain_ne_fault (t : UInt8) (b : Bytes) : decodeChain t b ≠ .fault := by
  fun_induction decodeChain t b with
  | case1 | case2 | case3 => nofun
  | case4 t b h0 op nx n hp hn hrest ih => exact absurd hrest ih
  | case5 t b h0 op nx n hp hn => exact absurd (chainStep_len t b op nx n hp) hn
  | case6 => nofun
  | case7 t b h0 hp => exact absurd hp (chainStep_safe t b).ne_fault

theorem decodeMsg_ne_fault (b : Bytes) : decodeMsg b ≠ .fault :=
  Res.bind_ne_fault (parseHeader_ne_fault b) fun _ _ =>
    Res.bind_ne_fault (decodeChain_ne_fault _ _) fun _ _ => nofun

theorem decodeMsg_inv {b : Bytes} {m : Msg} (h : decodeMsg b = .ok m) :
    parseHeader b = .ok m.hdr ∧ decodeChain m.hdr.next m.hdr.payloadBytes = .ok m.payloads := by
  obtain ⟨hd, hh, h⟩ := Res.bind_eq_ok h
  obtain ⟨ps, hc, h⟩ := Res.bind_eq_ok h
  cases h
  exact ⟨hh, hc⟩

/-- keeps the slices `decryptMsg` takes of an Encrypted payload and of the datagram in range -/
theorem decodeChain_sk_len (t : UInt8) (b : Bytes) (ps : List Payload) (h : decodeChain t b = .ok ps) :
    ∀ k d, Payload.sk k d ∈ ps → d.length + 4 ≤ b.length := by
  fun_induction decodeChain t b generalizing ps with
  | case1 => cases h; nofun
  | case2 t b h0 op nx n hp hn rest hrest ih =>
    cases h
    intro k d hm
    obtain ⟨-, -, h4, hn', hb⟩ := (chainStep_safe t b).of_ok hp
    have tail (hm : Payload.sk k d ∈ rest) : d.length + 4 ≤ b.length := by
      have := ih rest hrest k d hm
      simp only [List.length_drop] at this
      omega
    cases op with
    | none => exact tail hm
    | some p =>
      rcases List.mem_cons.mp hm with rfl | hm
      · obtain ⟨-, -, hb⟩ := hb _ rfl
        rw [(((unmarshalPayload_safe _ _ _).of_ok hb).2 k d rfl).2]
        simp only [List.length_drop, List.length_take]
        omega
      · exact tail hm
  | case3 | case4 | case5 | case6 | case7 => cases h

theorem xorBytes_length (a b : Bytes) : (xorBytes a b).length = min a.length b.length := by
  induction a generalizing b with
  | nil => simp [xorBytes]
  | cons x xs ih =>
    cases b with
    | nil => simp [xorBytes]
    | cons y ys => simp [xorBytes, ih]

theorem cbcDec_length_blocks (D : Bytes → Bytes) (hD : ∀ b, b.length = 16 → (D b).length = 16)
    (prev ct : Bytes) (hp : prev.length = 16) : (cbcDec D prev ct).length = 16 * (ct.length / 16) := by
  fun_induction cbcDec D prev ct with
  | case1 prev ct h => simp only [List.length_nil]; omega
  | case2 prev ct h c ih =>
    have hc16 : c.length = 16 := by simp only [c, List.length_take]; omega
    rw [List.length_append, xorBytes_length, hD c hc16, ih hc16, hp, List.length_drop]
    omega

theorem cbcDec_length (D : Bytes → Bytes) (hD : ∀ b, b.length = 16 → (D b).length = 16)
    (prev ct : Bytes) (hp : prev.length = 16) (hc : ct.length % 16 = 0) :
    (cbcDec D prev ct).length = ct.length := by
  rw [cbcDec_length_blocks D hD prev ct hp]; omega

theorem cbcEnc_length (E : Bytes → Bytes) (hE : ∀ b, b.length = 16 → (E b).length = 16)
    (prev pt : Bytes) (hp : prev.length = 16) (hc : pt.length % 16 = 0) :
    (cbcEnc E prev pt).length = pt.length := by
  fun_induction cbcEnc E prev pt with
  | case1 prev pt h => simp only [List.length_nil]; omega
  | case2 prev pt h c ih =>
    have hc16 : c.length = 16 := hE _ (by rw [xorBytes_length, List.length_take]; omega)
    rw [List.length_append, hc16, ih hc16 (by rw [List.length_drop]; omega), List.length_drop]
    omega

theorem cbcDecrypt_ne_fault (P : Prims) (hP : P.Lawful) (c : CipherObj) (ct : Bytes) :
    cbcDecrypt P c ct ≠ .fault := by
  refine Safe.ne_fault (p := fun _ => True) ?_
  unfold cbcDecrypt
  refine safe_ite (fun _ => safe_err) fun h16 => ?_
  refine safe_bind_ok (goTo_ok (by omega)) ?_
  refine safe_bind_ok (goFrom_ok (by omega)) ?_
  refine safe_ite (fun _ => safe_err) fun hem => ?_
  -- the plaintext is as long as the ciphertext after the IV, which is not empty
  have hem : ¬(ct.length - 16 = 0) ∧ (ct.length - 16) % 16 = 0 := by simpa using hem
  have hl := cbcDec_length _ (hP.dec_len c.key) (ct.take 16) (ct.drop 16)
    (by rw [List.length_take]; omega) (by rw [List.length_drop]; exact hem.2)
  rw [List.length_drop] at hl
  refine safe_bind_ok (goIndex_ok (by omega)) ?_
  refine safe_ite (fun _ => safe_err) fun _ => ?_
  exact safe_of_eq_ok (goTo_ok (by omega)) trivial

/-- the SA's checksum length does not exceed the digest length of its integrity objects -/
def SAKey.WF (P : Prims) (sa : SAKey) : Prop :=
  sa.integInfo.outLen ≤ P.macLen sa.integ_i.alg ∧ sa.integInfo.outLen ≤ P.macLen sa.integ_r.alg

theorem lastSK_ne_fault (ps : List Payload) (acc) : lastSK ps acc ≠ .fault := by
  induction ps generalizing acc with
  | nil => simp [lastSK]
  | cons p rest ih => cases p <;> simp [lastSK, ih]

theorem lastSK_some_ne_none (ps : List Payload) (x) : lastSK ps (some x) ≠ .ok none := by
  induction ps generalizing x with
  | nil => simp [lastSK]
  | cons p rest ih => cases p <;> simp [lastSK, ih]

theorem lastSK_cons_ne_none (p : Payload) (ps : List Payload) (acc) : lastSK (p :: ps) acc ≠ .ok none := by
  cases p <;> simp only [lastSK, ne_eq, reduceCtorEq, not_false_eq_true]
  exact lastSK_some_ne_none _ _

theorem lastSK_mem (ps : List Payload) (acc) (n : UInt8) (d : Bytes) (h : lastSK ps acc = .ok (some (n, d))) :
    Payload.sk n d ∈ ps ∨ acc = some (n, d) := by
  induction ps generalizing acc with
  | nil => simp [lastSK] at h; exact Or.inr h
  | cons p rest ih =>
    cases p <;> simp [lastSK] at h
    rename_i k e
    cases ih _ h with
    | inl hm => exact Or.inl (List.mem_cons_of_mem _ hm)
    | inr he => simp at he; obtain ⟨rfl, rfl⟩ := he; exact Or.inl (List.mem_cons_self)

theorem calcIntegrity_ne_fault (P : Prims) (hP : P.Lawful) (sa : SAKey) (hw : sa.WF P) (role : Bool) (data : Bytes) :
    (calcIntegrity P sa role data).2 ≠ .fault := by
  unfold calcIntegrity
  obtain ⟨w1, w2⟩ := hw
  cases role
  · simp only [Bool.false_eq_true, if_false]
    rw [goTo_ok]; · simp
    simp [HashObj.sum, HashObj.write, HashObj.reset, hP.mac_len]; exact w2
  · simp only [if_true]
    rw [goTo_ok]; · simp
    simp [HashObj.sum, HashObj.write, HashObj.reset, hP.mac_len]; exact w1

theorem calcIntegrity_WF (P : Prims) (sa : SAKey) (hw : sa.WF P) (role : Bool) (data : Bytes) :
    (calcIntegrity P sa role data).1.WF P := by
  unfold calcIntegrity
  cases role <;> simp [SAKey.WF, HashObj.write, HashObj.reset] <;> exact hw

theorem decryptPayload_ne_fault (P : Prims) (hP : P.Lawful) (sa : SAKey) (role : Bool) (ct : Bytes) :
    decryptPayload P sa role ct ≠ .fault := by
  unfold decryptPayload
  split <;> exact cbcDecrypt_ne_fault P hP _ _

/-- what `decryptMsg` returns, without its bookkeeping (key state, count of Decrypt calls): the steps of
`ike.go` `decryptMsg` in a row -/
theorem decryptMsg_result (P : Prims) (sa : SAKey) (role : Bool) (msg : Bytes) (m : Msg) :
    (decryptMsg P sa role msg m).2.2 =
      (lastSK m.payloads none >>= fun o =>
        match o with
        | none => .fault
        | some (next, encData) =>
          if encData.length < sa.integInfo.outLen then .err else
          if msg.length < sa.integInfo.outLen then .fault else
          let ci := calcIntegrity P sa (!role) (msg.take (msg.length - sa.integInfo.outLen))
          ci.2 >>= fun expect =>
          if !(bytesEq (encData.drop (encData.length - sa.integInfo.outLen)) expect) then .err else
          decryptPayload P ci.1 role (encData.take (encData.length - sa.integInfo.outLen)) >>= fun plain =>
          decodeChain next plain >>= fun ps => .ok ⟨m.hdr, ps⟩) := by
  unfold decryptMsg
  cases lastSK m.payloads none with
  | err | fault => rfl
  | ok o =>
    cases o with
    | none => rfl
    | some x =>
      obtain ⟨next, encData⟩ := x
      dsimp only [Res.bind_ok]
      split
      · rfl
      split
      · rfl
      cases calcIntegrity P sa (!role) (List.take (msg.length - sa.integInfo.outLen) msg) with
      | mk sa1 r =>
        cases r with
        | err | fault => rfl
        | ok expect =>
          dsimp only [Res.bind_ok]
          split
          · rfl
          cases decryptPayload P sa1 role (List.take (encData.length - sa.integInfo.outLen) encData) with
          | err | fault => rfl
          | ok plain => dsimp only [Res.bind_ok]; cases decodeChain next plain <;> rfl

theorem decryptMsg_ne_fault (P : Prims) (hP : P.Lawful) (sa : SAKey) (hw : sa.WF P) (role : Bool)
    (msg : Bytes) (m : Msg) (hne : m.payloads ≠ [])
    (hlen : ∀ k d, Payload.sk k d ∈ m.payloads → d.length + 4 ≤ msg.length) :
    (decryptMsg P sa role msg m).2.2 ≠ .fault := by
  rw [decryptMsg_result]
  refine Safe.ne_fault (p := fun _ => True) ((safe_self (lastSK_ne_fault _ _)).bind fun o hl => ?_)
  cases o with
  | none =>
    -- the nil dereference: `lastSK` finds an Encrypted payload in every non-empty list it accepts
    cases hps : m.payloads with
    | nil => exact absurd hps hne
    | cons p rest => rw [hps] at hl; exact absurd hl (lastSK_cons_ne_none p rest none)
  | some x =>
    obtain ⟨next, encData⟩ := x
    have := hlen _ _ ((lastSK_mem _ _ _ _ hl).resolve_right nofun)
    refine safe_ite (fun _ => safe_err) fun _ => safe_ite (fun _ => by omega) fun _ => ?_
    refine (safe_true (calcIntegrity_ne_fault P hP sa hw _ _)).bind fun _ _ => ?_
    refine safe_ite (fun _ => safe_err) fun _ => ?_
    refine (safe_true (decryptPayload_ne_fault P hP _ _ _)).bind fun _ _ => ?_
    exact (safe_true (decodeChain_ne_fault _ _)).bind fun _ _ => safe_ok trivial

/-- `unprotect` does not fault; a header handed in must come with the 28 octets it was parsed from,
since `msg[28:]` is taken without a check -/
theorem unprotect_ne_fault (P : Prims) (hP : P.Lawful) (sa : Option SAKey) (hw : ∀ k, sa = some k → k.WF P)
    (role : Bool) (hdr : Option Header) (msg : Bytes) (h28 : hdr ≠ none → 28 ≤ msg.length) :
    (unprotect P sa role hdr msg).2.2 ≠ .fault := by
  unfold unprotect
  dsimp only
  split
  · nofun
  · -- the first decoding does not fault
    rename_i hd
    cases hdr with
    | none => exact absurd hd (decodeMsg_ne_fault msg)
    | some h =>
      dsimp only at hd
      rw [goFrom_ok (lo := Facts.ikeHeaderLen) (h28 nofun), Res.bind_ok] at hd
      exact absurd hd (Res.bind_ne_fault (decodeChain_ne_fault _ _) fun _ _ => nofun)
  · rename_i m hd
    -- its Encrypted payloads lie inside `msg`
    have hlen : ∀ k d, Payload.sk k d ∈ m.payloads → d.length + 4 ≤ msg.length := fun k d hm => by
      cases hdr with
      | none =>
        obtain ⟨hh, hc⟩ := decodeMsg_inv hd
        have := decodeChain_sk_len _ _ _ hc k d hm
        rw [(parseHeader_inv _ _ hh).1, List.length_drop] at this
        omega
      | some h =>
        dsimp only at hd
        rw [goFrom_ok (lo := Facts.ikeHeaderLen) (h28 nofun), Res.bind_ok] at hd
        obtain ⟨ps, hc, hd⟩ := Res.bind_eq_ok hd
        cases hd
        have := decodeChain_sk_len _ _ _ hc k d hm
        rw [List.length_drop] at this
        omega
    cases hps : m.payloads with
    | nil => dsimp only; split <;> nofun
    | cons p rest =>
      dsimp only
      split
      · cases sa with
        | none => nofun
        | some k => exact decryptMsg_ne_fault P hP k (hw k rfl) role msg m (by rw [hps]; nofun) hlen
      · nofun

end Ike
