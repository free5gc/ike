import IkeProofs.Lemmas.Bytes
import IkeProofs.Lemmas.NoFault
import IkeModel.Spec.Eap
import IkeModel.EapMac

/-! EAP-AKA' attribute map and EAP packet codec (C14, C15).  Defines the domain of C14 (`AkaValOk`,
`AkaAttrBuilt`, `AkaSorted`, `AkaBuilt`, `AkaReach`, `DomEapData`, `DomEap`).  In order: the setter `akaMkAttr` by
attribute type and the shapes it stores (`akaAttrBuilt_iff`); the sorted association list (`akaInsert_*`,
`akaLookup_*`); per attribute class the reader undoes the emitter (`AkaAttrRT`), the attribute loop and its
sortedness invariant; the packet round trip; `SetAttr` on built packets and the size bound; byte equality with
`Spec.encodeEapAka`; AT_MAC: `Spec.zeroMac` of a built packet's wire form. -/

namespace Ike

/-- the seven attribute types `SetAttr` knows -/
def akaSettable (t : UInt8) : Prop :=
  t = Facts.atRand ∨ t = Facts.atAutn ∨ t = Facts.atRes ∨ t = Facts.atMac ∨
  t = Facts.atKdfInput ∨ t = Facts.atKdf ∨ t = Facts.atCheckcode

instance (t : UInt8) : Decidable (akaSettable t) := by unfold akaSettable; exact inferInstance

/-- `SetAttr(t, v)` is accepted, and `v` is short enough for the 8-bit length field (in
4-octet words) to be exact: AT_KDF_INPUT ≤ 1016 octets; AT_CHECKCODE a multiple of 4 octets
(the library emits no padding for it) and ≤ 1016 octets.  The other sizes are the setter's
own rules: RAND / AUTN / MAC 16 octets, RES 4..16 octets, KDF 2 octets. -/
def AkaValOk (t : UInt8) (v : Bytes) : Prop :=
  ((t = Facts.atRand ∨ t = Facts.atAutn ∨ t = Facts.atMac) ∧ v.length = 16) ∨
  (t = Facts.atRes ∧ 4 ≤ v.length ∧ v.length ≤ 16) ∨
  (t = Facts.atKdfInput ∧ v.length ≤ 1016) ∨
  (t = Facts.atKdf ∧ v.length = 2) ∨
  (t = Facts.atCheckcode ∧ v.length % 4 = 0 ∧ v.length ≤ 1016)

instance (t : UInt8) (v : Bytes) : Decidable (AkaValOk t v) := by unfold AkaValOk; exact inferInstance

/-- an attribute as `SetAttr` stores it for an accepted value -/
def AkaAttrBuilt (x : AkaAttr) : Prop :=
  AkaValOk x.atype x.value ∧ akaMkAttr x.atype x.value = .ok x

instance (x : AkaAttr) : Decidable (AkaAttrBuilt x) := by unfold AkaAttrBuilt; exact inferInstance

/-- strictly ascending by attribute type (hence unique keys) -/
def AkaSorted (l : List AkaAttr) : Prop := l.Pairwise (fun x y => x.atype < y.atype)

instance (l : List AkaAttr) : Decidable (AkaSorted l) := by unfold AkaSorted; exact inferInstance

/-- structural characterisation of the packets reachable through `SetAttr` from a fresh
`EapAkaPrime{subType}`: reserved = 0, attributes sorted by type with unique keys, each entry
what the setter stores for an accepted value -/
def AkaBuilt (a : Aka) : Prop :=
  a.reserved = 0 ∧ AkaSorted a.attrs ∧ ∀ x ∈ a.attrs, AkaAttrBuilt x

instance (a : Aka) : Decidable (AkaBuilt a) := by unfold AkaBuilt; exact inferInstance

/-- reachability through the API: a fresh packet, then any sequence of successful `SetAttr`
calls with values in the exact-length range -/
inductive AkaReach : Aka → Prop where
  | fresh (st : UInt8) : AkaReach ⟨st, 0, []⟩
  | set {a a' : Aka} (t : UInt8) (v : Bytes) :
      AkaReach a → AkaValOk t v → akaSetAttr a t v = .ok a' → AkaReach a'

theorem akaMkAttr_cases (t : UInt8) (v : Bytes) :
    akaMkAttr t v = .err ∨ ∃ l r, akaMkAttr t v = .ok ⟨t, l, r, v⟩ := by
  let M (x : Res AkaAttr) : Prop := x = .err ∨ ∃ l r, x = .ok ⟨t, l, r, v⟩
  have er : M .err := .inl rfl
  have ok : ∀ l r, M (.ok ⟨t, l, r, v⟩) := fun _ _ => .inr ⟨_, _, rfl⟩
  show M (akaMkAttr t v)
  unfold akaMkAttr
  -- the four class tests of `setAttr` (16-octet, padded, AT_KDF, AT_CHECKCODE), each with its size check inside
  exact ite_cases (fun _ => ite_cases (fun _ => er) fun _ => ok ..) fun _ =>
    ite_cases (fun _ => ite_cases (fun _ => er) fun _ => ok ..) fun _ =>
    ite_cases (fun _ => ite_cases (fun _ => er) fun _ => ok ..) fun _ =>
    ite_cases (fun _ => ok ..) fun _ => er

theorem akaMkAttr_ne_fault (t : UInt8) (v : Bytes) : akaMkAttr t v ≠ .fault := by
  rcases akaMkAttr_cases t v with h | ⟨_, _, h⟩ <;> rw [h] <;> nofun

theorem akaMkAttr_ok_fields {t : UInt8} {v : Bytes} {x : AkaAttr} (h : akaMkAttr t v = .ok x) :
    x.atype = t ∧ x.value = v := by
  rcases akaMkAttr_cases t v with h' | ⟨_, _, h'⟩ <;> rw [h'] at h
  · nomatch h
  · rw [← Res.ok.inj h]; exact ⟨rfl, rfl⟩

theorem akaMkAttr_fixed16 (t : UInt8) (v : Bytes) (ht : t = Facts.atRand ∨ t = Facts.atAutn ∨ t = Facts.atMac) :
    akaMkAttr t v = if v.length = 16 then .ok ⟨t, 5, 0, v⟩ else .err := by
  rw [akaMkAttr, if_pos (by rcases ht with rfl | rfl | rfl <;> rfl)]
  by_cases hv : v.length = 16
  · rw [if_pos hv, if_neg (not_not_intro hv), hv]; rfl
  · rw [if_neg hv, if_pos hv]

/-- `(total + pad) / 4` of `setAttr` for a value of `n` octets: 4 header octets and `n`, rounded up to words -/
theorem akaWords_eq (n : Nat) : (1 + 1 + 2 + n + (4 - (1 + 1 + 2 + n) % 4) % 4) / 4 = (n + 7) / 4 := by omega

theorem akaMkAttr_res (v : Bytes) : akaMkAttr Facts.atRes v =
    if 4 ≤ v.length ∧ v.length ≤ 16 then
      .ok ⟨Facts.atRes, UInt8.ofNat ((v.length + 7) / 4), UInt16.ofNat (v.length * 8), v⟩
    else .err := by
  rw [akaMkAttr, if_neg (by decide), if_pos (by decide)]
  dsimp only
  rw [akaWords_eq]
  have hc : (Facts.atRes == Facts.atRes && (decide (v.length * 8 > 128) || decide (v.length * 8 < 32))) = true ↔
      ¬ (4 ≤ v.length ∧ v.length ≤ 16) := by
    simp only [beq_self_eq_true, Bool.true_and, Bool.or_eq_true, decide_eq_true_eq]; omega
  by_cases hv : 4 ≤ v.length ∧ v.length ≤ 16
  · rw [if_pos hv, if_neg (fun h => hc.mp h hv)]
  · rw [if_neg hv, if_pos (hc.mpr hv)]

theorem akaMkAttr_kdfInput (v : Bytes) : akaMkAttr Facts.atKdfInput v =
    .ok ⟨Facts.atKdfInput, UInt8.ofNat ((v.length + 7) / 4), UInt16.ofNat (v.length * 8), v⟩ := by
  rw [akaMkAttr, if_neg (by decide), if_pos (by decide)]
  dsimp only
  rw [akaWords_eq, if_neg (by rw [show (Facts.atKdfInput == Facts.atRes) = false from rfl, Bool.false_and]; nofun)]

theorem akaMkAttr_kdf (v : Bytes) :
    akaMkAttr Facts.atKdf v = if v.length = 2 then .ok ⟨Facts.atKdf, 1, 0, v⟩ else .err := by
  rw [akaMkAttr, if_neg (by decide), if_neg (by decide), if_pos (by decide)]
  by_cases hv : v.length = 2
  · rw [if_pos hv, if_neg (not_not_intro hv)]
  · rw [if_neg hv, if_pos hv]

theorem akaMkAttr_checkcode (v : Bytes) :
    akaMkAttr Facts.atCheckcode v = .ok ⟨Facts.atCheckcode, UInt8.ofNat ((4 + v.length) / 4), 0, v⟩ := by
  rw [akaMkAttr, if_neg (by decide), if_neg (by decide), if_neg (by decide), if_pos (by decide)]

theorem akaMkAttr_unsettable {t : UInt8} (v : Bytes) (h : ¬ akaSettable t) : akaMkAttr t v = .err := by
  simp only [akaSettable, not_or] at h
  obtain ⟨h1, h2, h3, h4, h5, h6, h7⟩ := h
  rw [akaMkAttr, if_neg (by simp [h1, h2, h4]), if_neg (by simp [h3, h5]), if_neg (by simp [h6]), if_neg (by simp [h7])]

theorem akaMkAttr_err_iff (t : UInt8) (v : Bytes) :
    akaMkAttr t v = .err ↔
      ((t = Facts.atRand ∨ t = Facts.atAutn ∨ t = Facts.atMac) ∧ v.length ≠ 16) ∨
      (t = Facts.atKdf ∧ v.length ≠ 2) ∨
      (t = Facts.atRes ∧ (v.length < 4 ∨ 16 < v.length)) ∨
      ¬ akaSettable t := by
  constructor
  · intro h
    by_cases hs : akaSettable t
    · have h16 : (t = Facts.atRand ∨ t = Facts.atAutn ∨ t = Facts.atMac) → v.length ≠ 16 := fun ht hv => by
        rw [akaMkAttr_fixed16 t v ht, if_pos hv] at h; nomatch h
      rcases hs with ht | ht | rfl | ht | rfl | rfl | rfl
      · exact Or.inl ⟨Or.inl ht, h16 (Or.inl ht)⟩
      · exact Or.inl ⟨Or.inr (Or.inl ht), h16 (Or.inr (Or.inl ht))⟩
      · refine Or.inr (Or.inr (Or.inl ⟨rfl, ?_⟩))
        by_cases hv : 4 ≤ v.length ∧ v.length ≤ 16
        · rw [akaMkAttr_res, if_pos hv] at h; nomatch h
        · omega
      · exact Or.inl ⟨Or.inr (Or.inr ht), h16 (Or.inr (Or.inr ht))⟩
      · rw [akaMkAttr_kdfInput] at h; nomatch h
      · refine Or.inr (Or.inl ⟨rfl, fun hv => ?_⟩)
        rw [akaMkAttr_kdf, if_pos hv] at h; nomatch h
      · rw [akaMkAttr_checkcode] at h; nomatch h
    · exact Or.inr (Or.inr (Or.inr hs))
  · rintro (⟨ht, hv⟩ | ⟨rfl, hv⟩ | ⟨rfl, hv⟩ | hs)
    · rw [akaMkAttr_fixed16 t v ht, if_neg hv]
    · rw [akaMkAttr_kdf, if_neg hv]
    · rw [akaMkAttr_res, if_neg (by omega)]
    · exact akaMkAttr_unsettable v hs

theorem akaMkAttr_ok_of_valOk {t : UInt8} {v : Bytes} (h : AkaValOk t v) : ∃ x, akaMkAttr t v = .ok x := by
  rcases h with ⟨ht, hv⟩ | ⟨rfl, hv⟩ | ⟨rfl, _⟩ | ⟨rfl, hv⟩ | ⟨rfl, _⟩
  · exact ⟨_, by rw [akaMkAttr_fixed16 t v ht, if_pos hv]⟩
  · exact ⟨_, by rw [akaMkAttr_res, if_pos hv]⟩
  · exact ⟨_, akaMkAttr_kdfInput v⟩
  · exact ⟨_, by rw [akaMkAttr_kdf, if_pos hv]⟩
  · exact ⟨_, akaMkAttr_checkcode v⟩

theorem akaAttrBuilt_of_mk {t : UInt8} {v : Bytes} {x : AkaAttr} (hv : AkaValOk t v) (h : akaMkAttr t v = .ok x) :
    AkaAttrBuilt x := by
  obtain ⟨h1, h2⟩ := akaMkAttr_ok_fields h
  unfold AkaAttrBuilt
  rw [h1, h2]
  exact ⟨hv, h⟩

/-- the four shapes `SetAttr` stores; for the padded ones `4·len` is `|v| + 4` rounded up to a word -/
theorem akaAttrBuilt_iff (x : AkaAttr) : AkaAttrBuilt x ↔
    (∃ t v, (t = Facts.atRand ∨ t = Facts.atAutn ∨ t = Facts.atMac) ∧ v.length = 16 ∧ x = ⟨t, 5, 0, v⟩) ∨
    (∃ t len bits v, (t = Facts.atRes ∨ t = Facts.atKdfInput) ∧ (t = Facts.atRes → 4 ≤ v.length ∧ v.length ≤ 16) ∧
      v.length ≤ 1016 ∧ v.length + 4 ≤ 4 * len.toNat ∧ 4 * len.toNat < v.length + 8 ∧ bits.toNat = v.length * 8 ∧
      x = ⟨t, len, bits, v⟩) ∨
    (∃ v, v.length = 2 ∧ x = ⟨Facts.atKdf, 1, 0, v⟩) ∨
    (∃ len v, v.length ≤ 1016 ∧ 4 * len.toNat = 4 + v.length ∧ x = ⟨Facts.atCheckcode, len, 0, v⟩) := by
  have hw : ∀ (len : UInt8) (n : Nat), n ≤ 1016 →
      (len = UInt8.ofNat ((n + 7) / 4) ↔ n + 4 ≤ 4 * len.toNat ∧ 4 * len.toNat < n + 8) := by
    intro len n hn
    rw [← UInt8.toNat_inj, toNat_ofNat_u8 _ (by omega)]
    omega
  have h16 : ∀ n : Nat, n ≤ 1016 → (UInt16.ofNat (n * 8)).toNat = n * 8 := fun n hn =>
    toNat_ofNat_u16 _ (Nat.le_trans (Nat.mul_le_mul_right 8 hn) (by decide))
  constructor
  · rintro ⟨hv, hm⟩
    rcases hv with ⟨ht, hv⟩ | ⟨ht, hv⟩ | ⟨ht, hv⟩ | ⟨ht, hv⟩ | ⟨ht, h4, hv⟩
    · rw [akaMkAttr_fixed16 _ _ ht, if_pos hv] at hm
      exact Or.inl ⟨_, _, ht, hv, (Res.ok.inj hm).symm⟩
    · rw [ht, akaMkAttr_res, if_pos hv] at hm
      have hv' : x.value.length ≤ 1016 := Nat.le_trans hv.2 (by decide)
      obtain ⟨h1, h2⟩ := (hw _ x.value.length hv').mp rfl
      exact Or.inr (Or.inl ⟨_, _, _, x.value, Or.inl rfl, fun _ => hv, hv', h1, h2, h16 _ hv', (Res.ok.inj hm).symm⟩)
    · rw [ht, akaMkAttr_kdfInput] at hm
      obtain ⟨h1, h2⟩ := (hw _ x.value.length hv).mp rfl
      exact Or.inr (Or.inl ⟨_, _, _, _, Or.inr rfl, fun h => absurd h (by decide), hv, h1, h2, h16 _ hv,
        (Res.ok.inj hm).symm⟩)
    · rw [ht, akaMkAttr_kdf, if_pos hv] at hm
      exact Or.inr (Or.inr (Or.inl ⟨_, hv, (Res.ok.inj hm).symm⟩))
    · rw [ht, akaMkAttr_checkcode] at hm
      refine Or.inr (Or.inr (Or.inr ⟨_, _, hv, ?_, (Res.ok.inj hm).symm⟩))
      rw [toNat_ofNat_u8 _ (by omega)]; omega
  · rintro (⟨t, v, ht, hv, rfl⟩ | ⟨t, len, bits, v, ht, hres, hv, h1, h2, hbits, rfl⟩ | ⟨v, hv, rfl⟩ |
      ⟨len, v, hv, hlen, rfl⟩)
    · exact ⟨Or.inl ⟨ht, hv⟩, by rw [akaMkAttr_fixed16 t v ht, if_pos hv]⟩
    · have e : (⟨t, UInt8.ofNat ((v.length + 7) / 4), UInt16.ofNat (v.length * 8), v⟩ : AkaAttr) = ⟨t, len, bits, v⟩ := by
        rw [← (hw len _ hv).mpr ⟨h1, h2⟩, ← hbits, UInt16.ofNat_toNat]
      rcases ht with rfl | rfl
      · exact ⟨Or.inr (Or.inl ⟨rfl, hres rfl⟩), by rw [akaMkAttr_res, if_pos (hres rfl), e]⟩
      · exact ⟨Or.inr (Or.inr (Or.inl ⟨rfl, hv⟩)), by rw [akaMkAttr_kdfInput, e]⟩
    · exact ⟨Or.inr (Or.inr (Or.inr (Or.inl ⟨rfl, hv⟩))), by rw [akaMkAttr_kdf, if_pos hv]⟩
    · obtain ⟨h4, hd⟩ : v.length % 4 = 0 ∧ (4 + v.length) / 4 = len.toNat := by omega
      exact ⟨Or.inr (Or.inr (Or.inr (Or.inr ⟨rfl, h4, hv⟩))), by rw [akaMkAttr_checkcode, hd, UInt8.ofNat_toNat]⟩

theorem akaInsert_cons (x : AkaAttr) (rest : List AkaAttr) (a : AkaAttr) :
    (a.atype < x.atype ∧ akaInsert (x :: rest) a = a :: x :: rest) ∨
    (a.atype = x.atype ∧ akaInsert (x :: rest) a = a :: rest) ∨
    (x.atype < a.atype ∧ akaInsert (x :: rest) a = x :: akaInsert rest a) := by
  by_cases c1 : a.atype < x.atype
  · exact Or.inl ⟨c1, by rw [akaInsert, if_pos c1]⟩
  · by_cases c2 : a.atype = x.atype
    · exact Or.inr (Or.inl ⟨c2, by rw [akaInsert, if_neg c1, if_pos (beq_iff_eq.mpr c2)]⟩)
    · exact Or.inr (Or.inr ⟨UInt8.lt_of_le_of_ne (UInt8.not_lt.mp c1) (Ne.symm c2),
        by rw [akaInsert, if_neg c1, if_neg (mt beq_iff_eq.mp c2)]⟩)

theorem akaLookup_insert_same (l : List AkaAttr) (a : AkaAttr) : akaLookup (akaInsert l a) a.atype = some a := by
  have hd : ∀ r, akaLookup (a :: r) a.atype = some a := fun r => by rw [akaLookup, if_pos (beq_self_eq_true _)]
  induction l with
  | nil => exact hd []
  | cons x rest ih =>
    rcases akaInsert_cons x rest a with ⟨_, e⟩ | ⟨_, e⟩ | ⟨c, e⟩ <;> rw [e]
    · exact hd _
    · exact hd _
    · rw [akaLookup, if_neg (mt beq_iff_eq.mp (UInt8.ne_of_lt c)), ih]

theorem akaLookup_insert_other (l : List AkaAttr) (a : AkaAttr) (t : UInt8) (ht : t ≠ a.atype) :
    akaLookup (akaInsert l a) t = akaLookup l t := by
  have hd : ∀ r, akaLookup (a :: r) t = akaLookup r t := fun r => by
    rw [akaLookup, if_neg (mt beq_iff_eq.mp (Ne.symm ht))]
  induction l with
  | nil => exact hd []
  | cons x rest ih =>
    rcases akaInsert_cons x rest a with ⟨_, e⟩ | ⟨c, e⟩ | ⟨_, e⟩ <;> rw [e]
    · exact hd _
    · rw [hd, akaLookup, if_neg (mt beq_iff_eq.mp (c ▸ Ne.symm ht))]
    · rw [akaLookup, akaLookup, ih]

theorem akaInsert_mem {l : List AkaAttr} {a y : AkaAttr} (h : y ∈ akaInsert l a) : y = a ∨ y ∈ l := by
  induction l with
  | nil => exact Or.inl (List.mem_singleton.mp h)
  | cons x rest ih =>
    rcases akaInsert_cons x rest a with ⟨_, e⟩ | ⟨_, e⟩ | ⟨_, e⟩ <;> rw [e] at h
    · exact List.mem_cons.mp h
    · exact (List.mem_cons.mp h).imp_right (List.mem_cons_of_mem x)
    · rcases List.mem_cons.mp h with rfl | h
      · exact Or.inr (List.mem_cons_self ..)
      · exact (ih h).imp_right (List.mem_cons_of_mem x)

/-- `akaInsert` keeps the list strictly ascending by type (the model's counterpart of Go's
sort over the map keys in `Marshal`) -/
theorem akaInsert_sorted (l : List AkaAttr) (a : AkaAttr) (h : AkaSorted l) : AkaSorted (akaInsert l a) := by
  unfold AkaSorted at *
  induction l with
  | nil => exact List.pairwise_singleton _ _
  | cons x rest ih =>
    obtain ⟨hx, hrest⟩ := List.pairwise_cons.mp h
    rcases akaInsert_cons x rest a with ⟨c, e⟩ | ⟨c, e⟩ | ⟨c, e⟩ <;> rw [e]
    · refine List.pairwise_cons.mpr ⟨fun y hy => ?_, h⟩
      rcases List.mem_cons.mp hy with rfl | hy
      · exact c
      · exact UInt8.lt_trans c (hx y hy)
    · exact List.pairwise_cons.mpr ⟨fun y hy => c ▸ hx y hy, hrest⟩
    · refine List.pairwise_cons.mpr ⟨fun y hy => ?_, ih hrest⟩
      rcases akaInsert_mem hy with rfl | hy
      · exact c
      · exact hx y hy

theorem akaInsert_append (l : List AkaAttr) (a : AkaAttr) (h : ∀ y ∈ l, y.atype < a.atype) :
    akaInsert l a = l ++ [a] := by
  induction l with
  | nil => rfl
  | cons x rest ih =>
    have hx := h x (List.mem_cons_self ..)
    rcases akaInsert_cons x rest a with ⟨c, _⟩ | ⟨c, _⟩ | ⟨_, e⟩
    · exact absurd c (UInt8.lt_asymm hx)
    · exact absurd c.symm (UInt8.ne_of_lt hx)
    · rw [e, ih (fun y hy => h y (List.mem_cons_of_mem x hy))]; rfl

theorem akaInsert_front (l : List AkaAttr) (a : AkaAttr) (h : ∀ y ∈ l, a.atype < y.atype) :
    akaInsert l a = a :: l := by
  cases l with
  | nil => rfl
  | cons x rest => rw [akaInsert, if_pos (h x (List.mem_cons_self ..))]

theorem akaInsert_insert_same (l : List AkaAttr) (x y : AkaAttr) (h : x.atype = y.atype) :
    akaInsert (akaInsert l x) y = akaInsert l y := by
  have hd : ∀ r, akaInsert (x :: r) y = y :: r := fun r => by
    rw [akaInsert, if_neg (h ▸ UInt8.lt_irrefl _), if_pos (beq_iff_eq.mpr h.symm)]
  induction l with
  | nil => exact hd []
  | cons z rest ih =>
    rcases akaInsert_cons z rest x with ⟨c, e⟩ | ⟨c, e⟩ | ⟨c, e⟩ <;> rw [e, h] at *
    · rw [hd, akaInsert, if_pos c]
    · rw [hd, akaInsert, if_neg (c ▸ UInt8.lt_irrefl _), if_pos (beq_iff_eq.mpr c)]
    · rw [akaInsert, akaInsert, if_neg (UInt8.lt_asymm c), if_neg (mt beq_iff_eq.mp (Ne.symm (UInt8.ne_of_lt c))),
        if_neg (UInt8.lt_asymm c), if_neg (mt beq_iff_eq.mp (Ne.symm (UInt8.ne_of_lt c))), ih]

/-- what `marshalAkaAttr` emits after the type and length octets -/
def akaBody (x : AkaAttr) : Bytes :=
  (if x.atype != Facts.atKdf then put16 x.reserved else []) ++ x.value ++
  (if x.atype == Facts.atRes || x.atype == Facts.atKdfInput
   then zeros (4 * x.length.toNat - 4 - x.value.length) else [])

theorem marshalAkaAttr_cons (x : AkaAttr) : marshalAkaAttr x = x.atype :: x.length :: akaBody x := by
  simp only [marshalAkaAttr, akaBody, List.cons_append, List.nil_append, List.append_assoc]

/-- the reader, given the type and length octets, maps the emitted body back to the attribute,
consuming exactly the body -/
def AkaAttrRT (x : AkaAttr) : Prop :=
  ∀ rest, parseAkaBody x.atype x.length (akaBody x ++ rest) = .ok (x, (akaBody x).length)

theorem parse_marshal_fixed16 (t : UInt8) (v : Bytes)
    (ht : t = Facts.atRand ∨ t = Facts.atAutn ∨ t = Facts.atMac) (hv : v.length = 16) :
    akaBody ⟨t, 5, 0, v⟩ = put16 0 ++ v ∧ AkaAttrRT ⟨t, 5, 0, v⟩ := by
  have hb : akaBody ⟨t, 5, 0, v⟩ = put16 0 ++ v := by
    rw [akaBody]
    dsimp only
    rw [if_pos (by rcases ht with rfl | rfl | rfl <;> rfl), if_neg (by rcases ht with rfl | rfl | rfl <;> decide),
      List.append_nil]
  refine ⟨hb, fun rest => ?_⟩
  show parseAkaBody t 5 _ = _
  rw [hb, parseAkaBody, if_pos (by rcases ht with rfl | rfl | rfl <;> rfl), if_neg (by decide), List.append_assoc,
    readN_append _ _ 2 rfl]
  dsimp only
  rw [readN_append _ _ 16 hv.symm, List.length_append, hv]
  rfl

/-- the word arithmetic of a padded attribute (`total`, `vlen`, `pad` of `parseAkaBody`) in ℕ -/
theorem akaPad_arith (len : UInt8) (bits : UInt16) :
    (bits / 8).toNat = bits.toNat / 8 ∧
    (len.toUInt16 * 4 < bits / 8 + 4 ↔ 4 * len.toNat < bits.toNat / 8 + 4) ∧
    (bits.toNat / 8 + 4 ≤ 4 * len.toNat →
      (len.toUInt16 * 4 - bits / 8 - 4).toNat = 4 * len.toNat - 4 - bits.toNat / 8) := by
  have hlen := len.toNat_lt
  have hbl := bits.toNat_lt
  have e4 : (4 : UInt16).toNat = 4 := rfl
  have hvl : (bits / 8).toNat = bits.toNat / 8 := UInt16.toNat_div _ _
  have htot : (len.toUInt16 * 4).toNat = 4 * len.toNat := by
    rw [UInt16.toNat_mul, UInt8.toNat_toUInt16, e4, Nat.mul_comm, Nat.mod_eq_of_lt (by omega)]
  have hv4 : (bits / 8 + 4).toNat = bits.toNat / 8 + 4 := by
    rw [UInt16.toNat_add, hvl, e4, Nat.mod_eq_of_lt (by omega)]
  refine ⟨hvl, ?_, fun hfit => ?_⟩
  · rw [UInt16.lt_iff_toNat_lt, htot, hv4]
  · have h1 : bits / 8 ≤ len.toUInt16 * 4 := by rw [UInt16.le_iff_toNat_le, htot, hvl]; omega
    have h2 : 4 ≤ len.toUInt16 * 4 - bits / 8 := by
      rw [UInt16.le_iff_toNat_le, UInt16.toNat_sub_of_le _ _ h1, htot, hvl, e4]; omega
    rw [UInt16.toNat_sub_of_le _ _ h2, UInt16.toNat_sub_of_le _ _ h1, htot, hvl, e4]; omega

/-- AT_RES / AT_KDF_INPUT as the reader accepts them: any bit count, the value has `bits / 8` octets -/
theorem parse_marshal_padded (t len : UInt8) (bits : UInt16) (v : Bytes)
    (ht : t = Facts.atRes ∨ t = Facts.atKdfInput) (hv : v.length = bits.toNat / 8)
    (hfit : v.length + 4 ≤ 4 * len.toNat) :
    akaBody ⟨t, len, bits, v⟩ = put16 bits ++ v ++ zeros (4 * len.toNat - 4 - v.length) ∧
    AkaAttrRT ⟨t, len, bits, v⟩ := by
  have hb : akaBody ⟨t, len, bits, v⟩ = put16 bits ++ v ++ zeros (4 * len.toNat - 4 - v.length) := by
    rw [akaBody]
    dsimp only
    rw [if_pos (by rcases ht with rfl | rfl <;> rfl), if_pos (by rcases ht with rfl | rfl <;> rfl)]
  refine ⟨hb, fun rest => ?_⟩
  show parseAkaBody t len _ = _
  obtain ⟨hvl, hlt, hpad⟩ := akaPad_arith len bits
  have hp := hpad (by omega)
  rw [← hv] at hp
  have hl : (put16 bits ++ v ++ zeros (4 * len.toNat - 4 - v.length)).length
      = 2 + v.length + (4 * len.toNat - 4 - v.length) := by
    rw [List.length_append, List.length_append, put16_length, zeros_length]
  rw [hb, hl, parseAkaBody, if_neg (by rcases ht with rfl | rfl <;> decide), if_pos (by rcases ht with rfl | rfl <;> rfl),
    List.append_assoc, List.append_assoc, readN_append _ _ 2 rfl]
  dsimp only
  rw [show be16 (byteAt (put16 bits) 0) (byteAt (put16 bits) 1) = bits from be16_put bits,
    if_neg (by rw [hlt]; omega), hvl, ← hv, readN_append _ _ v.length rfl]
  dsimp only
  by_cases h0 : len.toUInt16 * 4 - bits / 8 - 4 > 0
  · rw [if_pos h0, hp, readN_append _ _ _ (zeros_length _).symm]
  · have : 4 * len.toNat - 4 - v.length = 0 := by
      rw [← hp]; exact Nat.eq_zero_of_not_pos (fun h => h0 (UInt16.lt_iff_toNat_lt.mpr h))
    rw [if_neg h0, this]
    rfl

/-- … as the setter stores them: `bits = 8·|v|` -/
theorem parse_marshal_padded_exact (t len : UInt8) (bits : UInt16) (v : Bytes)
    (ht : t = Facts.atRes ∨ t = Facts.atKdfInput) (hbits : bits.toNat = v.length * 8)
    (hfit : v.length + 4 ≤ 4 * len.toNat) :
    akaBody ⟨t, len, bits, v⟩ = put16 bits ++ v ++ zeros (4 * len.toNat - 4 - v.length) ∧
    AkaAttrRT ⟨t, len, bits, v⟩ :=
  parse_marshal_padded t len bits v ht (by rw [hbits, Nat.mul_div_cancel _ (by decide)]) hfit

/-- the reader computes the value size of AT_KDF in 8-bit arithmetic: `(4·len − 2) mod 256` octets -/
theorem parse_marshal_kdf (len : UInt8) (v : Bytes) (hv : v.length = (4 * len - 1 - 1).toNat) :
    akaBody ⟨Facts.atKdf, len, 0, v⟩ = v ∧ AkaAttrRT ⟨Facts.atKdf, len, 0, v⟩ := by
  have hb : akaBody ⟨Facts.atKdf, len, 0, v⟩ = v := by
    rw [akaBody]
    dsimp only
    rw [if_neg (by decide), if_neg (by decide), List.append_nil, List.nil_append]
  refine ⟨hb, fun rest => ?_⟩
  show parseAkaBody Facts.atKdf len _ = _
  rw [hb, parseAkaBody, if_neg (by decide), if_neg (by decide), if_pos (by decide)]
  dsimp only
  rw [← hv, readN_append _ _ _ rfl]

theorem parse_marshal_other (t len : UInt8) (res : UInt16) (v : Bytes)
    (c1 : ¬ (t == Facts.atMac || t == Facts.atRand || t == Facts.atAutn) = true)
    (c2 : ¬ (t == Facts.atKdfInput || t == Facts.atRes) = true)
    (c3 : ¬ (t == Facts.atKdf) = true)
    (hl : ¬ (len == 0) = true) (hv : v.length = 4 * len.toNat - 4) :
    akaBody ⟨t, len, res, v⟩ = put16 res ++ v ∧ AkaAttrRT ⟨t, len, res, v⟩ := by
  have hb : akaBody ⟨t, len, res, v⟩ = put16 res ++ v := by
    rw [akaBody]
    dsimp only
    rw [if_pos (by simpa using c3), if_neg (by rwa [Bool.or_comm]), List.append_nil]
  refine ⟨hb, fun rest => ?_⟩
  show parseAkaBody t len _ = _
  rw [hb, parseAkaBody, if_neg c1, if_neg c2, if_neg c3, if_neg hl, List.append_assoc, readN_append _ _ 2 rfl]
  dsimp only
  rw [readN_append _ _ _ hv.symm, show be16 (byteAt (put16 res) 0) (byteAt (put16 res) 1) = res from be16_put res,
    List.length_append, put16_length, hv]

theorem parse_marshal_checkcode (len : UInt8) (v : Bytes) (hlen : 4 * len.toNat = 4 + v.length) :
    akaBody ⟨Facts.atCheckcode, len, 0, v⟩ = put16 0 ++ v ∧ AkaAttrRT ⟨Facts.atCheckcode, len, 0, v⟩ :=
  parse_marshal_other Facts.atCheckcode len 0 v (by decide) (by decide) (by decide)
    (fun h => by rw [beq_iff_eq.mp h] at hlen; change 0 = _ at hlen; omega) (by omega)

/-- the wire form of a stored attribute: `4·len` octets, `len ≥ 1`, and the reader maps it back -/
theorem akaAttrBuilt_wire {x : AkaAttr} (hb : AkaAttrBuilt x) :
    (akaBody x).length + 2 = 4 * x.length.toNat ∧ 1 ≤ x.length.toNat ∧ AkaAttrRT x := by
  rcases (akaAttrBuilt_iff x).mp hb with ⟨t, v, ht, hv, rfl⟩ | ⟨t, len, bits, v, ht, _, _, h1, _, hbits, rfl⟩ |
    ⟨v, hv, rfl⟩ | ⟨len, v, _, hlen, rfl⟩
  · obtain ⟨e, h⟩ := parse_marshal_fixed16 t v ht hv
    rw [e, List.length_append, hv]
    exact ⟨rfl, Nat.le_of_ble_eq_true rfl, h⟩
  · obtain ⟨e, h⟩ := parse_marshal_padded_exact t len bits v ht hbits h1
    rw [e, List.length_append, List.length_append, put16_length, zeros_length]
    dsimp only
    exact ⟨by omega, by omega, h⟩
  · obtain ⟨e, h⟩ := parse_marshal_kdf 1 v hv
    rw [e, hv]
    exact ⟨rfl, Nat.le_refl 1, h⟩
  · obtain ⟨e, h⟩ := parse_marshal_checkcode len v hlen
    rw [e, List.length_append, put16_length]
    dsimp only
    exact ⟨by omega, by omega, h⟩

theorem unmarshalAkaAttrs_cons (t len : UInt8) (body : Bytes) (acc : List AkaAttr) (a : AkaAttr) (n : Nat)
    (hp : parseAkaBody t len body = .ok (a, n)) (hn : n ≤ body.length) :
    unmarshalAkaAttrs (t :: len :: body) acc = unmarshalAkaAttrs (body.drop n) (akaInsert acc a) := by
  rw [unmarshalAkaAttrs]
  simp only [hp]
  rw [dif_pos hn]

theorem unmarshalAkaAttrs_marshal (l : List AkaAttr) (acc : List AkaAttr)
    (hs : AkaSorted l) (hb : ∀ x ∈ l, AkaAttrRT x)
    (hacc : ∀ y ∈ acc, ∀ x ∈ l, y.atype < x.atype) :
    unmarshalAkaAttrs (marshalAkaAttrs l) acc = .ok (acc ++ l) := by
  induction l generalizing acc with
  | nil => rw [marshalAkaAttrs, unmarshalAkaAttrs, List.append_nil]
  | cons x rest ih =>
    obtain ⟨hx, hrest⟩ := List.pairwise_cons.mp hs
    rw [marshalAkaAttrs, marshalAkaAttr_cons, List.cons_append, List.cons_append,
      unmarshalAkaAttrs_cons _ _ _ _ _ _ (hb x (List.mem_cons_self ..) _) (by rw [List.length_append]; omega),
      List.drop_left, akaInsert_append _ _ (fun y hy => hacc y hy x (List.mem_cons_self ..)),
      ih (acc ++ [x]) hrest (fun z hz => hb z (List.mem_cons_of_mem x hz)), List.append_assoc]
    · rfl
    · intro y hy z hz
      rcases List.mem_append.mp hy with hy | hy
      · exact hacc y hy z (List.mem_cons_of_mem x hz)
      · rw [List.mem_singleton.mp hy]; exact hx z hz

theorem unmarshalAkaAttrs_sorted (r : Bytes) (acc l : List AkaAttr) (hs : AkaSorted acc)
    (h : unmarshalAkaAttrs r acc = .ok l) : AkaSorted l := by
  fun_induction unmarshalAkaAttrs r acc with
  | case1 acc => exact Res.ok.inj h ▸ hs
  | case2 acc _ => exact Res.ok.inj h ▸ hs
  | case3 acc t len body a n hp hn ih => exact ih (akaInsert_sorted _ _ hs) h
  | case4 => nomatch h
  | case5 => nomatch h
  | case6 => nomatch h

theorem unmarshalAka_sorted (raw : Bytes) (a : Aka) (h : unmarshalAka raw = .ok a) : AkaSorted a.attrs := by
  rw [unmarshalAka_eq] at h
  obtain ⟨_, h⟩ := Res.ite_err_eq_ok h
  obtain ⟨_, h⟩ := Res.ite_err_eq_ok h
  obtain ⟨attrs, ha, h⟩ := Res.bind_eq_ok h
  rw [← Res.ok.inj h]
  exact unmarshalAkaAttrs_sorted _ _ _ List.Pairwise.nil ha

/-- `EapAkaPrime.Unmarshal ∘ Marshal` (any reserved word) -/
theorem rt_aka (a : Aka) (bs : Bytes) (hs : AkaSorted a.attrs) (hb : ∀ x ∈ a.attrs, AkaAttrRT x)
    (h : marshalAka a = .ok bs) : unmarshalAka bs = .ok a := by
  rw [← Res.ok.inj h]
  show unmarshalAka (Facts.eapTypeAkaPrime :: a.subtype :: UInt8.ofNat (a.reserved.toNat / 256) ::
    UInt8.ofNat (a.reserved.toNat % 256) :: marshalAkaAttrs a.attrs) = _
  rw [unmarshalAka_eq, if_neg (by simp only [List.length_cons]; omega), byteAt_cons_zero, if_neg (by decide),
    show List.drop 4 _ = marshalAkaAttrs a.attrs from rfl, unmarshalAkaAttrs_marshal a.attrs [] hs hb nofun]
  exact congrArg Res.ok (congrArg (fun r => Aka.mk a.subtype r a.attrs) (be16_put a.reserved))

/-- size in octets of the type-data a method marshals to -/
def eapDataSize : EapData → Nat
  | .none => 0
  | .identity d => 1 + d.length
  | .notification d => 1 + d.length
  | .nak d => 1 + d.length
  | .expanded _ _ d => 8 + d.length
  | .aka a => 4 + (marshalAkaAttrs a.attrs).length

/-- method data the property quantifies over: no data; Identity / Notification / Nak with at
least one octet; Expanded with a 24-bit vendor id; EAP-AKA' built through the setter -/
def DomEapData : EapData → Prop
  | .none => True
  | .identity d => 1 ≤ d.length
  | .notification d => 1 ≤ d.length
  | .nak d => 1 ≤ d.length
  | .expanded vid _ _ => vid.toNat < 16777216
  | .aka a => AkaBuilt a

instance (d : EapData) : Decidable (DomEapData d) := by
  cases d <;> unfold DomEapData <;> exact inferInstance

/-- the packets of property C14: any code and identifier; Success / Failure (codes 3, 4)
carry no data; method data in `DomEapData`; the whole packet fits the 16-bit length field -/
def DomEap (e : Eap) : Prop :=
  ((e.code = Facts.eapCodeSuccess ∨ e.code = Facts.eapCodeFailure) → e.data = .none) ∧
  DomEapData e.data ∧ 4 + eapDataSize e.data ≤ 65535

instance (e : Eap) : Decidable (DomEap e) := by unfold DomEap; exact inferInstance

theorem marshalEapData_size (d : EapData) (td : Bytes) (h : marshalEapData d = .ok td) :
    td.length = eapDataSize d := by
  cases d with
  | none => rw [← Res.ok.inj h]; rfl
  | identity v | notification v | nak v => rw [← Res.ok.inj (Res.ite_err_eq_ok h).2]; exact Nat.add_comm ..
  | expanded vid vt v =>
    rw [← Res.ok.inj h, List.length_append, List.length_append, put32_length, put32_length]; rfl
  | aka a =>
    rw [← Res.ok.inj h, List.length_append, List.length_append, put16_length]; rfl

theorem marshalEap_eq (e : Eap) (bs : Bytes) (h : marshalEap e = .ok bs) :
    ∃ td, marshalEapData e.data = .ok td ∧
      bs = [e.code, e.ident] ++ put16 (UInt16.ofNat (4 + td.length)) ++ td := by
  obtain ⟨td, hm, h⟩ := Res.bind_eq_ok h
  exact ⟨td, hm, (Res.ok.inj h).symm⟩

theorem u32_and_ffffff (x : UInt32) : (x &&& 0x00ffffff).toNat = x.toNat % 16777216 := by
  rw [UInt32.toNat_and]
  have : (0x00ffffff : UInt32).toNat = 2 ^ 24 - 1 := rfl
  rw [this, Nat.and_two_pow_sub_one_eq_mod]

theorem expanded_word (vid : UInt32) :
    ((Facts.eapTypeExpanded.toUInt32 <<< 24) ||| (vid &&& 0x00ffffff)).toNat = 254 * 16777216 + vid.toNat % 16777216 := by
  have h1 : (Facts.eapTypeExpanded.toUInt32 <<< 24 : UInt32).toNat = 2 ^ 24 * 254 := by decide
  rw [UInt32.toNat_or, h1, u32_and_ffffff]
  have := Nat.two_pow_add_eq_or_of_lt (i := 24) (b := vid.toNat % 16777216) (Nat.mod_lt _ (by decide)) 254
  omega

/-- RFC 3748 §5.7 on the wire: the Type octet 254, then the vendor id in three octets -/
theorem put32_expanded_word (vid : UInt32) (hv : vid.toNat < 16777216) :
    put32 ((Facts.eapTypeExpanded.toUInt32 <<< 24) ||| (vid &&& 0x00ffffff)) =
      [254, UInt8.ofNat (vid.toNat / 65536), UInt8.ofNat (vid.toNat / 256 % 256), UInt8.ofNat (vid.toNat % 256)] := by
  -- the four octets of `254·2²⁴ + m`, `m < 2²⁴` (linear arithmetic with these constants is slow to check)
  have e0 : (254 * 16777216 + vid.toNat) / 16777216 = 254 := Nat.div_eq_of_lt_le (by omega) (by omega)
  have e1 : (254 * 16777216 + vid.toNat) / 65536 % 256 = vid.toNat / 65536 := by
    rw [show 254 * 16777216 + vid.toNat = 65536 * (256 * 254) + vid.toNat from rfl, Nat.mul_add_div (by decide),
      Nat.mul_add_mod, Nat.mod_eq_of_lt (Nat.div_lt_of_lt_mul hv)]
  have e2 : (254 * 16777216 + vid.toNat) / 256 % 256 = vid.toNat / 256 % 256 := by
    rw [show 254 * 16777216 + vid.toNat = 256 * (256 * (254 * 256)) + vid.toNat from rfl, Nat.mul_add_div (by decide),
      Nat.mul_add_mod]
  have e3 : (254 * 16777216 + vid.toNat) % 256 = vid.toNat % 256 := by
    rw [show 254 * 16777216 + vid.toNat = 256 * (254 * 65536) + vid.toNat from rfl, Nat.mul_add_mod]
  rw [put32, expanded_word, Nat.mod_eq_of_lt hv, e0, e1, e2, e3]
  rfl

theorem rt_eapData_expanded (vid vt : UInt32) (d : Bytes) (hv : vid.toNat < 16777216) :
    byteAt (put32 ((Facts.eapTypeExpanded.toUInt32 <<< 24) ||| (vid &&& 0x00ffffff)) ++ put32 vt ++ d) 0
      = Facts.eapTypeExpanded ∧
    unmarshalExpanded (put32 ((Facts.eapTypeExpanded.toUInt32 <<< 24) ||| (vid &&& 0x00ffffff)) ++ put32 vt ++ d)
      = .ok (.expanded vid vt d) := by
  refine ⟨by rw [put32_expanded_word vid hv]; rfl, ?_⟩
  have hw := expanded_word vid
  generalize (Facts.eapTypeExpanded.toUInt32 <<< 24) ||| (vid &&& 0x00ffffff) = w at hw
  have e : w &&& 0x00ffffff = vid := UInt32.toNat_inj.mp (by
    rw [u32_and_ffffff, hw, Nat.mul_add_mod_self_right, Nat.mod_mod, Nat.mod_eq_of_lt hv])
  have hl : (put32 w ++ put32 vt ++ d).length = 8 + d.length := by
    rw [List.length_append, List.length_append, put32_length, put32_length]
  rw [unmarshalExpanded, hl, if_neg (by omega), if_neg (by omega), goU32_ok (by omega), goU32_ok (by omega)]
  simp only [Res.bind_ok, put32, List.cons_append, List.nil_append, byteAt_cons_zero, byteAt_cons_succ, be32_put]
  rw [e]
  by_cases hd : 8 + d.length > 8
  · rw [if_pos hd, goFrom_ok (by simp only [List.length_cons]; omega)]; rfl
  · rw [if_neg hd, List.eq_nil_of_length_eq_zero (by omega : d.length = 0)]

theorem rt_unmarshalSimple (code : UInt8) (mk : Bytes → EapData) (d : Bytes) (hd : 1 ≤ d.length) :
    unmarshalSimple code mk ([code] ++ d) = .ok (mk d) := by
  rw [unmarshalSimple, if_pos (by rw [List.length_append, List.length_singleton]; omega),
    goIndex_ok (by rw [List.length_append, List.length_singleton]; omega), Res.bind_ok,
    show byteAt ([code] ++ d) 0 = code from rfl, if_neg (by simp),
    goFrom_ok (by rw [List.length_append, List.length_singleton]; omega)]
  rfl

theorem unmarshalEapData_marshal {d : EapData} {td : Bytes} (hd : DomEapData d) (hm : marshalEapData d = .ok td) :
    (td = [] ∧ d = .none) ∨ (td ≠ [] ∧ unmarshalEapData td = .ok d) := by
  unfold unmarshalEapData
  cases d with
  | none => exact Or.inl ⟨(Res.ok.inj hm).symm, rfl⟩
  | identity v | notification v | nak v =>
    rw [← Res.ok.inj (Res.ite_err_eq_ok hm).2]
    exact Or.inr ⟨List.cons_ne_nil _ _, rt_unmarshalSimple _ _ v hd⟩
  | expanded vid vt v =>
    obtain ⟨hty, hu⟩ := rt_eapData_expanded vid vt v hd
    rw [← Res.ok.inj hm]
    refine Or.inr ⟨List.cons_ne_nil _ _, ?_⟩
    dsimp only
    rw [hty, hu]
    rfl
  | aka a =>
    have hu := rt_aka a td hd.2.1 (fun x hx => (akaAttrBuilt_wire (hd.2.2 x hx)).2.2) hm
    rw [← Res.ok.inj hm] at hu ⊢
    refine Or.inr ⟨List.cons_ne_nil _ _, ?_⟩
    dsimp only
    rw [show byteAt _ 0 = Facts.eapTypeAkaPrime from rfl, hu]
    rfl

theorem unmarshalEap_emitted (code ident : UInt8) (td : Bytes) (d : EapData)
    (hsz : 4 + td.length ≤ 65535)
    (hd : (td = [] ∧ d = .none) ∨ (td ≠ [] ∧ unmarshalEapData td = .ok d)) :
    unmarshalEap ([code, ident] ++ put16 (UInt16.ofNat (4 + td.length)) ++ td) = .ok ⟨code, ident, d⟩ := by
  have hl : (UInt16.ofNat (4 + td.length)).toNat = 4 + td.length := toNat_ofNat_u16 _ (by omega)
  generalize UInt16.ofNat (4 + td.length) = pl at hl
  have hpl := be16_put pl
  show unmarshalEap (code :: ident :: UInt8.ofNat (pl.toNat / 256) :: UInt8.ofNat (pl.toNat % 256) :: td) = _
  generalize UInt8.ofNat (pl.toNat / 256) = p0 at hpl
  generalize UInt8.ofNat (pl.toNat % 256) = p1 at hpl
  have e4 : (4 : UInt16).toNat = 4 := rfl
  rw [unmarshalEap_eq, show byteAt (code :: ident :: p0 :: p1 :: td) 2 = p0 from rfl,
    show byteAt (code :: ident :: p0 :: p1 :: td) 3 = p1 from rfl, hpl]
  simp only [List.length_cons]
  rw [if_neg (by omega), if_neg (by omega), if_neg (by rw [UInt16.lt_iff_toNat_lt]; omega), if_neg (by omega)]
  rcases hd with ⟨rfl, rfl⟩ | ⟨htd, hdd⟩
  · rfl
  · rw [if_neg (by have := List.length_pos_iff.mpr htd; omega),
      show List.drop 4 (code :: ident :: p0 :: p1 :: td) = td from rfl, hdd]
    rfl

/-- the codec never looks at the code octet: no Success / Failure clause is needed -/
theorem rt_eap_anycode (e : Eap) (bs : Bytes) (hdd : DomEapData e.data) (hsz : 4 + eapDataSize e.data ≤ 65535)
    (h : marshalEap e = .ok bs) : unmarshalEap bs = .ok e := by
  obtain ⟨td, hm, rfl⟩ := marshalEap_eq e bs h
  rw [← marshalEapData_size _ _ hm] at hsz
  exact unmarshalEap_emitted e.code e.ident td e.data hsz (unmarshalEapData_marshal hdd hm)

/-- **EAP round trip** on `DomEap` (the form C03, C12 and the parser lemmas use) -/
theorem rt_eap_payload (e : Eap) (bs : Bytes) (hd : DomEap e) (h : marshalEap e = .ok bs) :
    unmarshalEap bs = .ok e :=
  rt_eap_anycode e bs hd.2.1 hd.2.2 h

theorem marshalEap_inj {e1 e2 : Eap} {bs : Bytes} (h1 : DomEap e1) (h2 : DomEap e2)
    (m1 : marshalEap e1 = .ok bs) (m2 : marshalEap e2 = .ok bs) : e1 = e2 :=
  Res.ok.inj ((rt_eap_payload e1 bs h1 m1).symm.trans (rt_eap_payload e2 bs h2 m2))

theorem akaValOk_settable {t : UInt8} {v : Bytes} (h : AkaValOk t v) : akaSettable t := by
  rcases h with ⟨ht | ht | ht, _⟩ | ⟨ht, _⟩ | ⟨ht, _⟩ | ⟨ht, _⟩ | ⟨ht, _⟩
  · exact Or.inl ht
  · exact Or.inr (Or.inl ht)
  · exact Or.inr (Or.inr (Or.inr (Or.inl ht)))
  · exact Or.inr (Or.inr (Or.inl ht))
  · exact Or.inr (Or.inr (Or.inr (Or.inr (Or.inl ht))))
  · exact Or.inr (Or.inr (Or.inr (Or.inr (Or.inr (Or.inl ht)))))
  · exact Or.inr (Or.inr (Or.inr (Or.inr (Or.inr (Or.inr ht)))))

theorem akaSetAttr_ok_iff (a a' : Aka) (t : UInt8) (v : Bytes) :
    akaSetAttr a t v = .ok a' ↔ ∃ na, akaMkAttr t v = .ok na ∧ a' = { a with attrs := akaInsert a.attrs na } := by
  constructor
  · intro h
    obtain ⟨na, hm, h⟩ := Res.bind_eq_ok h
    exact ⟨na, hm, (Res.ok.inj h).symm⟩
  · rintro ⟨na, hm, rfl⟩
    rw [akaSetAttr, hm]; rfl

theorem akaGetAttr_set {a a' : Aka} {t : UInt8} {v : Bytes} (h : akaSetAttr a t v = .ok a') :
    akaGetAttr a' t = .ok v ∧ ∀ t', t' ≠ t → akaGetAttr a' t' = akaGetAttr a t' := by
  obtain ⟨na, hm, rfl⟩ := (akaSetAttr_ok_iff _ _ _ _).mp h
  obtain ⟨h1, h2⟩ := akaMkAttr_ok_fields hm
  constructor
  · rw [akaGetAttr, ← h1, akaLookup_insert_same]
    exact congrArg Res.ok h2
  · intro t' ht
    rw [akaGetAttr, akaGetAttr, akaLookup_insert_other _ _ _ (h1 ▸ ht)]

theorem akaBuilt_set {a a' : Aka} {t : UInt8} {v : Bytes} (hb : AkaBuilt a) (hv : AkaValOk t v)
    (h : akaSetAttr a t v = .ok a') : AkaBuilt a' := by
  obtain ⟨na, hm, rfl⟩ := (akaSetAttr_ok_iff _ _ _ _).mp h
  obtain ⟨h0, hs, hall⟩ := hb
  refine ⟨h0, akaInsert_sorted _ _ hs, fun x hx => ?_⟩
  rcases akaInsert_mem hx with rfl | hx
  · exact akaAttrBuilt_of_mk hv hm
  · exact hall x hx

/-- at most one attribute of each of the seven settable types, each of at most 255 words -/
theorem marshalAkaAttrs_bound (l : List AkaAttr) (hs : AkaSorted l) (hb : ∀ x ∈ l, AkaAttrBuilt x) :
    l.length ≤ (marshalAkaAttrs l).length ∧ (marshalAkaAttrs l).length ≤ 1020 * 7 := by
  have h7 : l.length ≤ 7 := by
    have := ascending_length_le [Facts.atRand, Facts.atAutn, Facts.atRes, Facts.atMac, Facts.atKdfInput, Facts.atKdf,
      Facts.atCheckcode] (l.map AkaAttr.atype) (by decide)
      (List.pairwise_map.mpr hs) (fun t ht => by
        obtain ⟨x, hx, rfl⟩ := List.mem_map.mp ht
        simpa [akaSettable] using akaValOk_settable (hb x hx).1)
    rwa [List.length_map] at this
  have hlen : l.length ≤ (marshalAkaAttrs l).length ∧ (marshalAkaAttrs l).length ≤ 1020 * l.length := by
    clear h7 hs
    induction l with
    | nil => exact ⟨Nat.le_refl _, Nat.le_refl _⟩
    | cons x rest ih =>
      have h1 := (akaAttrBuilt_wire (hb x (List.mem_cons_self ..))).1
      have h255 := x.length.toNat_lt
      have := ih (fun y hy => hb y (List.mem_cons_of_mem x hy))
      rw [marshalAkaAttrs, marshalAkaAttr_cons, List.length_append, List.length_cons, List.length_cons,
        List.length_cons]
      omega
  omega

/-- 7148 = 8 header octets + seven attributes of at most 1020: fits the 16-bit EAP length field -/
theorem akaBuilt_size {a : Aka} (hb : AkaBuilt a) : 4 + eapDataSize (.aka a) ≤ 7148 := by
  have := (marshalAkaAttrs_bound a.attrs hb.2.1 hb.2.2).2
  rw [eapDataSize]
  omega

theorem domEap_aka (code ident : UInt8) (a : Aka) (hc : code ≠ Facts.eapCodeSuccess ∧ code ≠ Facts.eapCodeFailure)
    (hb : AkaBuilt a) : DomEap ⟨code, ident, .aka a⟩ :=
  ⟨fun h => h.elim (absurd · hc.1) (absurd · hc.2), hb, Nat.le_trans (akaBuilt_size hb) (by decide)⟩

theorem marshalAkaAttr_eq_spec {x : AkaAttr} (hb : AkaAttrBuilt x) :
    marshalAkaAttr x = Spec.encodeAkaAttr x.atype x.value := by
  rw [marshalAkaAttr_cons]
  rcases (akaAttrBuilt_iff x).mp hb with ⟨t, v, ht, hv, rfl⟩ | ⟨t, len, bits, v, ht, _, _, h1, h2, hbits, rfl⟩ |
    ⟨v, hv, rfl⟩ | ⟨len, v, _, hlen, rfl⟩
  · show t :: 5 :: akaBody _ = Spec.encodeAkaAttr t v
    rw [(parse_marshal_fixed16 t v ht hv).1, Spec.encodeAkaAttr, if_pos (by rcases ht with rfl | rfl | rfl <;> rfl)]
    rfl
  · show t :: len :: akaBody _ = Spec.encodeAkaAttr t v
    have hw : len.toNat = Spec.wordsFor v.length := by unfold Spec.wordsFor; omega
    have hbt : bits = UInt16.ofNat (8 * v.length) := by rw [Nat.mul_comm, ← hbits, UInt16.ofNat_toNat]
    rw [(parse_marshal_padded_exact t len bits v ht hbits h1).1, hw, u8_eq_ofNat hw, hbt]
    rcases ht with rfl | rfl
    · rw [Spec.encodeAkaAttr, if_neg (by decide), if_pos (by decide)]; rfl
    · rw [Spec.encodeAkaAttr, if_neg (by decide), if_neg (by decide), if_pos (by decide)]; rfl
  · show Facts.atKdf :: 1 :: akaBody _ = Spec.encodeAkaAttr Facts.atKdf v
    rw [(parse_marshal_kdf 1 v hv).1, Spec.encodeAkaAttr, if_neg (by decide), if_neg (by decide), if_neg (by decide),
      if_pos (by decide)]
    rfl
  · show Facts.atCheckcode :: len :: akaBody _ = Spec.encodeAkaAttr Facts.atCheckcode v
    have hw : len.toNat = Spec.wordsFor v.length := by unfold Spec.wordsFor; omega
    rw [(parse_marshal_checkcode len v hlen).1, Spec.encodeAkaAttr, if_neg (by decide), if_neg (by decide),
      if_neg (by decide), if_neg (by decide), ← hw,
      show 4 * len.toNat - 4 - v.length = 0 by omega, ← u8_eq_ofNat rfl]
    exact (List.append_nil _).symm

theorem marshalAkaAttrs_eq_spec (l : List AkaAttr) (hb : ∀ x ∈ l, AkaAttrBuilt x) :
    marshalAkaAttrs l = Spec.encodeAkaAttrs (l.map (fun x => (x.atype, x.value))) := by
  induction l with
  | nil => rfl
  | cons x rest ih =>
    rw [marshalAkaAttrs, List.map_cons, Spec.encodeAkaAttrs, marshalAkaAttr_eq_spec (hb x (List.mem_cons_self ..)),
      ih (fun y hy => hb y (List.mem_cons_of_mem x hy))]

/-- AT_MAC as `initMAC` stores it: 16 zero octets -/
def akaZeroMacAttr : AkaAttr := ⟨Facts.atMac, 5, 0, zeros 16⟩

/-- the packet with AT_MAC := 0¹⁶ (inserted if absent, overwritten if present) -/
def akaZeroMac (a : Aka) : Aka := { a with attrs := akaInsert a.attrs akaZeroMacAttr }

theorem akaInitMac_eq (a : Aka) : akaInitMac a = .ok (akaZeroMac a) := by
  rw [akaInitMac, akaSetAttr, akaMkAttr_fixed16 _ _ (Or.inr (Or.inr rfl)), if_pos (zeros_length 16)]
  rfl

theorem akaValOk_mac (m : Bytes) (h : m.length = 16) : AkaValOk Facts.atMac m :=
  Or.inl ⟨Or.inr (Or.inr rfl), h⟩

theorem akaZeroMac_built {a : Aka} (hb : AkaBuilt a) : AkaBuilt (akaZeroMac a) :=
  akaBuilt_set hb (akaValOk_mac (zeros 16) (zeros_length 16)) (akaInitMac_eq a)

/-- wire form of an EAP-AKA' packet (what `EAP.Marshal` returns; it cannot fail) -/
def eapAkaWire (code ident : UInt8) (a : Aka) : Bytes :=
  [code, ident] ++ put16 (UInt16.ofNat (4 + (4 + (marshalAkaAttrs a.attrs).length))) ++
    ([Facts.eapTypeAkaPrime, a.subtype] ++ put16 a.reserved ++ marshalAkaAttrs a.attrs)

theorem marshalEap_aka (code ident : UInt8) (a : Aka) :
    marshalEap ⟨code, ident, .aka a⟩ = .ok (eapAkaWire code ident a) := by
  rw [marshalEap, marshalEapData, marshalAka, Res.bind_ok, eapAkaWire, List.length_append, List.length_append,
    put16_length]
  rfl

theorem calcEapAkaPrimeAtMAC_aka (P : Prims) (code ident : UInt8) (a : Aka) (key : Bytes) :
    calcEapAkaPrimeAtMAC P ⟨code, ident, .aka a⟩ key =
      (⟨code, ident, .aka (akaZeroMac a)⟩,
       .ok ((P.mac 2 key (eapAkaWire code ident (akaZeroMac a))).take 16)) := by
  unfold calcEapAkaPrimeAtMAC
  simp only [akaInitMac_eq, marshalEap_aka]

theorem akaZeroMac_setMac (a : Aka) (x : AkaAttr) (hx : x.atype = Facts.atMac) :
    akaZeroMac { a with attrs := akaInsert a.attrs x } = akaZeroMac a := by
  rw [akaZeroMac, akaZeroMac, akaInsert_insert_same _ _ _ hx]

/-- what the RFC 5448 §3.4 walk does to one attribute: the value of an AT_MAC becomes 0¹⁶ -/
def akaZeroIfMac (x : AkaAttr) : AkaAttr :=
  if x.atype == Facts.atMac then { x with value := zeros 16 } else x

theorem akaZeroIfMac_mac {x : AkaAttr} (hb : AkaAttrBuilt x) (ht : x.atype = Facts.atMac) :
    akaZeroIfMac x = akaZeroMacAttr ∧ ∃ v, v.length = 16 ∧ x = ⟨Facts.atMac, 5, 0, v⟩ := by
  rcases (akaAttrBuilt_iff x).mp hb with ⟨t, v, _, hv, rfl⟩ | ⟨t, _, _, _, ht', _, _, _, _, _, rfl⟩ | ⟨_, _, rfl⟩ |
    ⟨_, _, _, _, rfl⟩
  · cases ht
    exact ⟨rfl, v, hv, rfl⟩
  · cases ht; rcases ht' with h | h <;> exact absurd h (by decide)
  · exact absurd ht (show Facts.atKdf ≠ Facts.atMac by decide)
  · exact absurd ht (show Facts.atCheckcode ≠ Facts.atMac by decide)

theorem akaZeroIfMac_other {x : AkaAttr} (ht : x.atype ≠ Facts.atMac) : akaZeroIfMac x = x := by
  rw [akaZeroIfMac, if_neg (mt beq_iff_eq.mp ht)]

/-- in a built list that carries AT_MAC, zeroing the MAC value in place is the same as
`initMAC` (store 0¹⁶ under the key) -/
theorem akaZeroIfMac_map_eq_insert (l : List AkaAttr) (hs : AkaSorted l) (hb : ∀ x ∈ l, AkaAttrBuilt x)
    (hm : ∃ x ∈ l, x.atype = Facts.atMac) : l.map akaZeroIfMac = akaInsert l akaZeroMacAttr := by
  induction l with
  | nil => obtain ⟨x, hx, _⟩ := hm; nomatch hx
  | cons h rest ih =>
    obtain ⟨hh, hrest⟩ := List.pairwise_cons.mp hs
    rcases akaInsert_cons h rest akaZeroMacAttr with ⟨c, _⟩ | ⟨c, e⟩ | ⟨c, e⟩
    · -- AT_MAC below the head: then it is nowhere in the sorted list
      have c : Facts.atMac < h.atype := c
      obtain ⟨x, hx, hxm⟩ := hm
      rcases List.mem_cons.mp hx with rfl | hx
      · exact absurd (hxm ▸ c) (UInt8.lt_irrefl _)
      · exact absurd (UInt8.lt_trans c (hxm ▸ hh x hx)) (UInt8.lt_irrefl _)
    · have c : Facts.atMac = h.atype := c
      rw [e, List.map_cons, (akaZeroIfMac_mac (hb h (List.mem_cons_self ..)) c.symm).1,
        show rest.map akaZeroIfMac = rest from (List.map_congr_left fun y hy =>
          akaZeroIfMac_other (UInt8.ne_of_lt (c ▸ hh y hy)).symm).trans (List.map_id rest)]
    · have hne : h.atype ≠ Facts.atMac := UInt8.ne_of_lt c
      obtain ⟨x, hx, hxm⟩ := hm
      rcases List.mem_cons.mp hx with rfl | hx
      · exact absurd hxm hne
      · rw [e, List.map_cons, akaZeroIfMac_other hne, ih hrest (fun y hy => hb y (List.mem_cons_of_mem h hy)) ⟨x, hx, hxm⟩]

theorem akaLookup_some_mem {l : List AkaAttr} {t : UInt8} {x : AkaAttr} (h : akaLookup l t = some x) :
    x ∈ l ∧ x.atype = t := by
  induction l with
  | nil => nomatch h
  | cons y rest ih =>
    rw [akaLookup] at h
    by_cases c : (y.atype == t) = true
    · rw [if_pos c] at h
      cases h
      exact ⟨List.mem_cons_self .., beq_iff_eq.mp c⟩
    · rw [if_neg c] at h
      exact ⟨List.mem_cons_of_mem y (ih h).1, (ih h).2⟩

theorem marshalAkaAttrs_zeroIfMac_length (l : List AkaAttr) (hb : ∀ x ∈ l, AkaAttrBuilt x) :
    (marshalAkaAttrs (l.map akaZeroIfMac)).length = (marshalAkaAttrs l).length := by
  induction l with
  | nil => rfl
  | cons x rest ih =>
    have hx : (marshalAkaAttr (akaZeroIfMac x)).length = (marshalAkaAttr x).length := by
      by_cases ht : x.atype = Facts.atMac
      · obtain ⟨hz, v, hv, rfl⟩ := akaZeroIfMac_mac (hb x (List.mem_cons_self ..)) ht
        rw [hz, akaZeroMacAttr, marshalAkaAttr_cons, marshalAkaAttr_cons,
          (parse_marshal_fixed16 _ v (Or.inr (Or.inr rfl)) hv).1,
          (parse_marshal_fixed16 _ (zeros 16) (Or.inr (Or.inr rfl)) (zeros_length 16)).1]
        simp only [List.length_cons, List.length_append, zeros_length, hv]
      · rw [akaZeroIfMac_other ht]
    rw [List.map_cons, marshalAkaAttrs, marshalAkaAttrs, List.length_append, List.length_append, hx,
      ih (fun y hy => hb y (List.mem_cons_of_mem x hy))]

/-- (`Spec.zeroMacAttrs` and `Spec.zeroMac` are written with the RFC's numbers: 11 is AT_MAC, 50 EAP-AKA') -/
theorem zeroMacAttrs_marshal (l : List AkaAttr) (hb : ∀ x ∈ l, AkaAttrBuilt x) (fuel : Nat)
    (hf : l.length < fuel) :
    Spec.zeroMacAttrs fuel (marshalAkaAttrs l) =
      some (marshalAkaAttrs (l.map akaZeroIfMac), l.any (fun x => x.atype == Facts.atMac)) := by
  induction l generalizing fuel with
  | nil =>
    cases fuel with
    | zero => nomatch hf
    | succ f => rfl
  | cons x rest ih =>
    cases fuel with
    | zero => nomatch hf
    | succ f =>
      have hx := hb x (List.mem_cons_self ..)
      obtain ⟨hbl, hw1, _⟩ := akaAttrBuilt_wire hx
      have hn : 4 * x.length.toNat - 2 = (akaBody x).length := by omega
      have hw0 : ¬ (x.length == 0) = true := fun h => by
        rw [beq_iff_eq.mp h] at hw1; exact absurd hw1 (by decide)
      rw [marshalAkaAttrs, marshalAkaAttr_cons, List.cons_append, List.cons_append, Spec.zeroMacAttrs]
      rw [hn, if_neg (by rw [List.length_append, Bool.or_eq_true, decide_eq_true_eq]; exact fun h => h.elim hw0 (by omega)),
        List.drop_left, ih (fun y hy => hb y (List.mem_cons_of_mem x hy)) f (Nat.lt_of_succ_lt_succ hf)]
      dsimp only
      rw [List.map_cons, List.any_cons, marshalAkaAttrs]
      by_cases ht : x.atype = Facts.atMac
      · obtain ⟨hz, v, hv, rfl⟩ := akaZeroIfMac_mac hx ht
        rw [hz, akaZeroMacAttr, marshalAkaAttr_cons, (parse_marshal_fixed16 _ v (Or.inr (Or.inr rfl)) hv).1,
          (parse_marshal_fixed16 _ (zeros 16) (Or.inr (Or.inr rfl)) (zeros_length 16)).1]
        rfl
      · rw [if_neg (show ¬ (x.atype == 11) = true from mt beq_iff_eq.mp ht), List.take_left, akaZeroIfMac_other ht,
          marshalAkaAttr_cons, beq_eq_false_iff_ne.mpr ht]
        rfl

theorem zeroMac_of_attrs (c i p0 p1 st r0 r1 : UInt8) (m m' : Bytes) (hlen : p0.toNat * 256 + p1.toNat = 8 + m.length)
    (hz : Spec.zeroMacAttrs (8 + m.length + 1) m = some (m', true)) :
    Spec.zeroMac (c :: i :: p0 :: p1 :: 50 :: st :: r0 :: r1 :: m) =
      some (c :: i :: p0 :: p1 :: 50 :: st :: r0 :: r1 :: m') := by
  have hl : (c :: i :: p0 :: p1 :: 50 :: st :: r0 :: r1 :: m).length = 8 + m.length := by
    simp only [List.length_cons]; omega
  rw [Spec.zeroMac, hl, if_neg (by omega), show byteAt _ 2 = p0 from rfl, show byteAt _ 3 = p1 from rfl,
    if_neg (not_not_intro hlen), show byteAt _ 4 = (50 : UInt8) from rfl, if_neg (not_not_intro rfl),
    show List.drop 8 _ = m from rfl, hz]
  rfl

theorem zeroMac_wire (code ident : UInt8) (a : Aka) (hb : AkaBuilt a)
    (hm : ∃ x ∈ a.attrs, x.atype = Facts.atMac) :
    Spec.zeroMac (eapAkaWire code ident a) = some (eapAkaWire code ident (akaZeroMac a)) := by
  obtain ⟨_, hs, hall⟩ := hb
  obtain ⟨hge, hsz⟩ := marshalAkaAttrs_bound a.attrs hs hall
  have hany : a.attrs.any (fun x => x.atype == Facts.atMac) = true := by
    obtain ⟨x, hx, hxm⟩ := hm
    exact List.any_eq_true.mpr ⟨x, hx, beq_iff_eq.mpr hxm⟩
  have hz := zeroMacAttrs_marshal a.attrs hall (8 + (marshalAkaAttrs a.attrs).length + 1) (by omega)
  rw [hany] at hz
  have hl : (UInt16.ofNat (4 + (4 + (marshalAkaAttrs a.attrs).length))).toNat
      = 8 + (marshalAkaAttrs a.attrs).length := by rw [toNat_ofNat_u16 _ (by omega)]; omega
  rw [eapAkaWire, eapAkaWire, akaZeroMac]
  rw [← akaZeroIfMac_map_eq_insert a.attrs hs hall hm, marshalAkaAttrs_zeroIfMac_length a.attrs hall]
  generalize UInt16.ofNat (4 + (4 + (marshalAkaAttrs a.attrs).length)) = pl at hl
  exact zeroMac_of_attrs code ident _ _ a.subtype _ _ _ _ ((octets16_toNat _ (Nat.le_of_lt_succ pl.toNat_lt)).trans hl) hz

end Ike
