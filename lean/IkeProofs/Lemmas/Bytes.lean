import IkeProofs.Lemmas.Basic

/-! Octet-string lemmas: big-endian round trips, framing (`take`/`drop` across a
known prefix), and the few single-bit facts the codec needs. -/

namespace Ike

/-- `toNat ∘ ofNat` on a number that fits, with the bound in the form `omega` can discharge
(core's `UInt8.toNat_ofNat_of_lt'` asks for `n < UInt8.size`) -/
theorem toNat_ofNat_u8 (n : Nat) (h : n ≤ 255) : (UInt8.ofNat n).toNat = n :=
  Nat.mod_eq_of_lt (Nat.lt_succ_of_le h)

theorem toNat_ofNat_u16 (n : Nat) (h : n ≤ 65535) : (UInt16.ofNat n).toNat = n :=
  Nat.mod_eq_of_lt (Nat.lt_succ_of_le h)

theorem toNat_ofNat_u32 (n : Nat) (h : n ≤ 4294967295) : (UInt32.ofNat n).toNat = n :=
  Nat.mod_eq_of_lt (Nat.lt_succ_of_le h)

@[simp] theorem byteAt_cons_zero (x : UInt8) (xs : Bytes) : byteAt (x :: xs) 0 = x := by simp [byteAt]
@[simp] theorem byteAt_cons_succ (x : UInt8) (xs : Bytes) (n : Nat) : byteAt (x :: xs) (n + 1) = byteAt xs n := by
  simp [byteAt]

theorem byteAt_append_left (p r : Bytes) (i : Nat) (h : i < p.length) : byteAt (p ++ r) i = byteAt p i := by
  simp [byteAt, List.getD_eq_getElem?_getD, List.getElem?_append_left h]

theorem byteAt_append_right (p r : Bytes) (i : Nat) : byteAt (p ++ r) (p.length + i) = byteAt r i := by
  simp [byteAt, List.getD_eq_getElem?_getD, List.getElem?_append_right]

theorem take_prefix_eq (p r : Bytes) (n : Nat) (hn : n = p.length) : List.take n (p ++ r) = p := by
  subst hn; simp

theorem drop_prefix_eq (p r : Bytes) (n : Nat) (hn : n = p.length) : List.drop n (p ++ r) = r := by
  subst hn; simp

theorem take_len_append (p r : Bytes) : List.take p.length (p ++ r) = p := take_prefix_eq p r _ rfl
theorem drop_len_append (p r : Bytes) : List.drop p.length (p ++ r) = r := drop_prefix_eq p r _ rfl
theorem take_len_left (x r : Bytes) : List.take x.length (x ++ r) = x := take_len_append x r
theorem drop_len_left (x r : Bytes) : List.drop x.length (x ++ r) = r := drop_len_append x r

theorem take_add_append (p r : Bytes) (n : Nat) : List.take (p.length + n) (p ++ r) = p ++ List.take n r := by
  rw [List.take_append, List.take_of_length_le (by omega)]; simp

theorem drop_add_append (p r : Bytes) (n : Nat) : List.drop (p.length + n) (p ++ r) = List.drop n r := by
  simp [List.drop_append]

theorem take_add_cons1 (a : UInt8) (r : Bytes) (n : Nat) : List.take (1 + n) (a :: r) = a :: List.take n r :=
  take_add_append [a] r n
theorem drop_add_cons1 (a : UInt8) (r : Bytes) (n : Nat) : List.drop (1 + n) (a :: r) = List.drop n r :=
  drop_add_append [a] r n

theorem take_add_cons8 (a b c d e f g h : UInt8) (r : Bytes) (n : Nat) :
    List.take (8 + n) (a :: b :: c :: d :: e :: f :: g :: h :: r) = a :: b :: c :: d :: e :: f :: g :: h :: List.take n r :=
  take_add_append [a, b, c, d, e, f, g, h] r n

theorem drop_take_mid (p x r : Bytes) (n m : Nat) (hn : n = p.length) (hm : m = p.length + x.length) :
    List.drop n (List.take m (p ++ (x ++ r))) = x := by
  subst hn hm
  rw [← List.append_assoc, show p.length + x.length = (p ++ x).length by simp, List.take_left']
  · simp
  · rfl

theorem goSlice_mid (p x r : Bytes) (lo hi : Nat) (hlo : lo = p.length) (hhi : hi = p.length + x.length) :
    goSlice (p ++ (x ++ r)) lo hi = .ok x := by
  rw [goSlice_ok (by omega) (by rw [hhi, List.length_append, List.length_append]; omega),
    drop_take_mid p x r lo hi hlo hhi]

/-! ### big-endian integers: everything rests on `n / 256 * 256 + n % 256 = n`, applied once per octet -/

theorem div_65536 (n : Nat) : n / 65536 = n / 256 / 256 := (Nat.div_div_eq_div_mul n 256 256).symm
theorem div_16777216 (n : Nat) : n / 16777216 = n / 256 / 256 / 256 := by
  rw [Nat.div_div_eq_div_mul, Nat.div_div_eq_div_mul]

theorem u8_eq_ofNat {w : UInt8} {n : Nat} (h : w.toNat = n) : w = UInt8.ofNat n := by
  rw [← h, UInt8.ofNat_toNat]

theorem be16_toNat (a b : UInt8) : (be16 a b).toNat = a.toNat * 256 + b.toNat :=
  Nat.mod_eq_of_lt (by have := a.toNat_lt; have := b.toNat_lt; omega)

/-- the two octets `put16` writes for `n`, read as numbers, recombine to `n` -/
theorem octets16_toNat (n : Nat) (h : n ≤ 65535) :
    (UInt8.ofNat (n / 256)).toNat * 256 + (UInt8.ofNat (n % 256)).toNat = n := by
  have h1 : n / 256 < 256 := Nat.div_lt_of_lt_mul (Nat.lt_succ_of_le h)
  rw [UInt8.toNat_ofNat', UInt8.toNat_ofNat', Nat.mod_mod, Nat.mod_eq_of_lt h1, Nat.div_add_mod']

theorem put16_toNat (v : UInt16) :
    (UInt8.ofNat (v.toNat / 256)).toNat * 256 + (UInt8.ofNat (v.toNat % 256)).toNat = v.toNat :=
  octets16_toNat v.toNat (Nat.le_of_lt_succ v.toNat_lt)

theorem digits32 (n : Nat) (h : n < 4294967296) :
    ((n / 16777216 % 256 * 256 + n / 65536 % 256) * 256 + n / 256 % 256) * 256 + n % 256 = n := by
  have h3 : n / 16777216 < 256 := Nat.div_lt_of_lt_mul h
  rw [Nat.mod_eq_of_lt h3, div_16777216, div_65536, Nat.div_add_mod', Nat.div_add_mod', Nat.div_add_mod']

theorem digits24 (n : Nat) : (n / 65536 * 256 + n / 256 % 256) * 256 + n % 256 = n := by
  rw [div_65536, Nat.div_add_mod', Nat.div_add_mod']

/-- the four octets `put32` writes for `n`, read as numbers, recombine to `n` -/
theorem octets32_toNat (n : Nat) (h : n < 4294967296) :
    (UInt8.ofNat (n / 16777216)).toNat * 16777216 + (UInt8.ofNat (n / 65536 % 256)).toNat * 65536 +
      (UInt8.ofNat (n / 256 % 256)).toNat * 256 + (UInt8.ofNat (n % 256)).toNat = n := by
  have hd := digits32 n h
  simp only [Nat.add_mul, Nat.mul_assoc, Nat.reduceMul] at hd
  simp only [UInt8.toNat_ofNat', Nat.mod_mod]
  exact hd

theorem be16_put (v : UInt16) : be16 (UInt8.ofNat (v.toNat / 256)) (UInt8.ofNat (v.toNat % 256)) = v := by
  apply UInt16.toNat_inj.mp
  rw [be16_toNat, put16_toNat]

theorem put16_ofNat (n : Nat) (h : n ≤ 65535) :
    put16 (UInt16.ofNat n) = [UInt8.ofNat (n / 256), UInt8.ofNat (n % 256)] := by
  simp only [put16, toNat_ofNat_u16 n h]

theorem beNat_put32 (v : UInt32) : beNat (put32 v) = v.toNat := by
  simp only [put32, beNat, List.foldl, UInt8.toNat_ofNat', Nat.mod_mod, Nat.zero_mul, Nat.zero_add]
  exact digits32 _ v.toNat_lt

theorem be32_put (v : UInt32) :
    be32 (UInt8.ofNat (v.toNat / 16777216)) (UInt8.ofNat (v.toNat / 65536 % 256))
         (UInt8.ofNat (v.toNat / 256 % 256)) (UInt8.ofNat (v.toNat % 256)) = v := by
  apply UInt32.toNat_inj.mp
  simp only [be32, UInt8.toNat_ofNat', UInt32.toNat_ofNat', Nat.mod_mod]
  rw [digits32 _ v.toNat_lt, Nat.mod_eq_of_lt v.toNat_lt]

theorem mul_add_divmod (x d m : Nat) (hd : d < m) : (x * m + d) / m = x ∧ (x * m + d) % m = d := by
  rw [Nat.mul_comm, Nat.mul_add_div (Nat.zero_lt_of_lt hd), Nat.mul_add_mod, Nat.div_eq_of_lt hd, Nat.mod_eq_of_lt hd]
  exact ⟨rfl, rfl⟩

theorem digit_div (q : Nat) (d : UInt8) : (q * 256 + d.toNat) / 256 = q := by have := d.toNat_lt; omega
theorem digit_mod (q : Nat) (d : UInt8) : (q * 256 + d.toNat) % 256 = d.toNat := by have := d.toNat_lt; omega

theorem put16_be16 (a b : UInt8) : put16 (be16 a b) = [a, b] := by
  rw [put16, be16_toNat, digit_div, digit_mod, UInt8.ofNat_toNat, UInt8.ofNat_toNat]

theorem put32_be32 (a b c d : UInt8) : put32 (be32 a b c d) = [a, b, c, d] := by
  have hlt : ((a.toNat * 256 + b.toNat) * 256 + c.toNat) * 256 + d.toNat < 4294967296 := by
    have := a.toNat_lt; have := b.toNat_lt; have := c.toNat_lt; have := d.toNat_lt; omega
  rw [put32, be32, UInt32.toNat_ofNat', Nat.mod_eq_of_lt hlt, div_16777216, div_65536, digit_div, digit_div,
    digit_div, digit_mod, digit_mod, digit_mod, UInt8.ofNat_toNat, UInt8.ofNat_toNat, UInt8.ofNat_toNat,
    UInt8.ofNat_toNat]

theorem beNat_foldl (b : Bytes) (acc : Nat) :
    List.foldl (fun acc x => acc * 256 + x.toNat) acc b = acc * 256 ^ b.length + beNat b := by
  unfold beNat
  induction b generalizing acc with
  | nil => simp
  | cons x xs ih =>
    simp only [List.foldl_cons, List.length_cons]
    rw [ih, ih (0 * 256 + x.toNat), Nat.pow_succ]
    simp [Nat.add_mul, Nat.mul_assoc, Nat.mul_comm 256]
    omega

theorem beNat_append (a b : Bytes) : beNat (a ++ b) = beNat a * 256 ^ b.length + beNat b := by
  show List.foldl _ 0 (a ++ b) = _
  rw [List.foldl_append, beNat_foldl]
  rfl

theorem beNat_put64 (v : UInt64) : beNat (put64 v) = v.toNat := by
  have hv := v.toNat_lt
  rw [put64, beNat_append, beNat_put32, beNat_put32]
  simp only [put32_length, UInt32.toNat_ofNat']
  omega

theorem be64_put64 (v : UInt64) (r : Bytes) : be64 (put64 v ++ r) = v := by
  unfold be64
  rw [take_prefix_eq _ _ _ (by simp), beNat_put64, UInt64.ofNat_toNat]

/-- the version octet: major version in the high nibble, minor version in the low one -/
theorem version_octet (a b : UInt8) (ha : a.toNat < 16) (hb : b.toNat < 16) :
    (a <<< 4) ||| (b &&& 0x0F) = UInt8.ofNat (16 * a.toNat + b.toNat) := by
  apply UInt8.toNat_inj.mp
  have hor := Nat.two_pow_add_eq_or_of_lt (i := 4) hb a.toNat
  have hand := Nat.and_two_pow_sub_one_eq_mod b.toNat 4
  have hshl := Nat.shiftLeft_eq a.toNat 4
  simp only [Nat.reducePow, Nat.reduceSub] at hor hand hshl
  rw [UInt8.toNat_or, UInt8.toNat_shiftLeft, UInt8.toNat_and, UInt8.toNat_ofNat']
  show a.toNat <<< 4 % 256 ||| b.toNat &&& 15 = _
  rw [hshl, hand, Nat.mod_eq_of_lt (a := a.toNat * 16) (by omega), Nat.mod_eq_of_lt hb, Nat.mul_comm, ← hor,
    Nat.mod_eq_of_lt (by omega)]

theorem version_octet_rt (a b : UInt8) (ha : a.toNat < 16) (hb : b.toNat < 16) :
    (((a <<< 4) ||| (b &&& 0x0F)) >>> 4 = a) ∧ (((a <<< 4) ||| (b &&& 0x0F)) &&& 0x0F = b) := by
  have hw : (UInt8.ofNat (16 * a.toNat + b.toNat)).toNat = 16 * a.toNat + b.toNat :=
    Nat.mod_eq_of_lt (by omega)
  have hand := Nat.and_two_pow_sub_one_eq_mod (16 * a.toNat + b.toNat) 4
  have hshr := Nat.shiftRight_eq_div_pow (16 * a.toNat + b.toNat) 4
  simp only [Nat.reducePow, Nat.reduceSub] at hand hshr
  rw [version_octet a b ha hb, ← UInt8.toNat_inj, ← UInt8.toNat_inj, UInt8.toNat_shiftRight, UInt8.toNat_and, hw]
  show (16 * a.toNat + b.toNat) >>> 4 = _ ∧ (16 * a.toNat + b.toNat) &&& 15 = _
  rw [hshr, hand]
  omega

/-- masking an octet with `0x80` keeps bit 7 only.  Three library facts pin `x &&& 128` down:
its quotient by 128 is `x / 128 &&& 1` (`hd`), which is `x / 128 % 2` (`h1`), and its remainder
mod 128 is 0 (`hm`: `128 &&& 127 = 0`); `x < 256` makes `x / 128 % 2 = x / 128` -/
theorem u8_and_80 (x : UInt8) : (x &&& 0x80).toNat = x.toNat / 128 * 128 := by
  have hd := Nat.and_div_two_pow (a := x.toNat) (b := 128) (n := 7)
  have h1 := Nat.and_two_pow_sub_one_eq_mod (x.toNat / 2 ^ 7) 1
  have hm := Nat.and_two_pow_sub_one_eq_mod (x.toNat &&& 128) 7
  rw [Nat.and_assoc] at hm
  simp only [Nat.reducePow, Nat.reduceDiv, Nat.reduceSub, Nat.reduceAnd, Nat.and_zero] at hd h1 hm
  have := x.toNat_lt
  rw [UInt8.toNat_and]
  show x.toNat &&& 128 = _
  omega

theorem u8_bit7 (x : UInt8) : ((x &&& 0x80) >>> 7) = UInt8.ofNat (x.toNat / 128) := by
  apply UInt8.toNat_inj.mp
  have h : x.toNat / 128 < 256 := Nat.lt_of_le_of_lt (Nat.div_le_self _ _) x.toNat_lt
  rw [UInt8.toNat_shiftRight, u8_and_80, UInt8.toNat_ofNat', Nat.shiftRight_eq_div_pow, Nat.mod_eq_of_lt h]
  exact Nat.mul_div_cancel _ (by decide)

theorem u8_bit7_cases (x : UInt8) : ((x &&& 0x80) >>> 7) = 0 ∨ ((x &&& 0x80) >>> 7) = 1 := by
  rw [u8_bit7]
  have : x.toNat / 128 = 0 ∨ x.toNat / 128 = 1 := by have := x.toNat_lt; omega
  rcases this with h | h
  · exact Or.inl (by rw [h]; rfl)
  · exact Or.inr (by rw [h]; rfl)

/-- the two ways the code tests bit 7 of a flag octet agree -/
theorem u8_bit7_eq_zero (f : UInt8) : ((f &&& 0x80) >>> 7 == 0) = !((f &&& 0x80) != 0) := by
  have h : f.toNat / 128 < 256 := Nat.lt_of_le_of_lt (Nat.div_le_self _ _) f.toNat_lt
  rw [bne, Bool.not_not, u8_bit7, Bool.eq_iff_iff, beq_iff_eq, beq_iff_eq, ← UInt8.toNat_inj, ← UInt8.toNat_inj,
    u8_and_80, UInt8.toNat_ofNat', Nat.mod_eq_of_lt h]
  show f.toNat / 128 = 0 ↔ f.toNat / 128 * 128 = 0
  omega

/-- bit 15 of a 16-bit word, as the decoders read it from the word's first octet -/
theorem u16_bit15 (w : UInt16) : (UInt8.ofNat (w.toNat / 256) &&& 0x80) >>> 7 = UInt8.ofNat (w.toNat / 32768) := by
  have h : w.toNat / 256 < 256 := Nat.div_lt_of_lt_mul w.toNat_lt
  rw [u8_bit7, UInt8.toNat_ofNat', Nat.mod_eq_of_lt h, Nat.div_div_eq_div_mul]

theorem toNat_and_7fff (w : UInt16) : (w &&& 0x7fff).toNat = w.toNat % 32768 := by
  rw [UInt16.toNat_and]
  exact Nat.and_two_pow_sub_one_eq_mod w.toNat 15

theorem u16_and_7fff_lt (w : UInt16) : (w &&& 0x7fff).toNat < 32768 := by
  rw [toNat_and_7fff]
  exact Nat.mod_lt _ (by decide)

theorem u16_and_7fff_of_lt (a : UInt16) (h : a.toNat < 32768) : a &&& 0x7fff = a :=
  UInt16.toNat_inj.mp (by rw [toNat_and_7fff, Nat.mod_eq_of_lt h])

theorem u16_and_7fff (a : UInt16) : (a &&& 0x7fff) &&& 0x7fff = a &&& 0x7fff :=
  UInt16.toNat_inj.mp (by rw [toNat_and_7fff, toNat_and_7fff, Nat.mod_mod])

theorem u16_or_8000 (a : UInt16) (h : a.toNat < 32768) : ((0x8000 : UInt16) ||| a).toNat = 32768 + a.toNat := by
  have := Nat.two_pow_add_eq_or_of_lt (i := 15) (b := a.toNat) h 1
  rw [UInt16.toNat_or]
  exact this.symm

theorem ascending_length_le : ∀ (s l : Bytes), s.Pairwise (· < ·) → l.Pairwise (· < ·) →
    (∀ x ∈ l, x ∈ s) → l.length ≤ s.length
  | _, [], _, _, _ => Nat.zero_le _
  | [], x :: _, _, _, h => nomatch h x (List.mem_cons_self ..)
  | a :: s, x :: l, hs, hl, h => by
    obtain ⟨ha, hs⟩ := List.pairwise_cons.mp hs
    obtain ⟨hx, hl⟩ := List.pairwise_cons.mp hl
    refine Nat.succ_le_succ (ascending_length_le s l hs hl fun y hy => ?_)
    -- `a ≤ x < y`, so `y` is not the head `a`
    rcases List.mem_cons.mp (h y (List.mem_cons_of_mem x hy)) with rfl | hys
    · rcases List.mem_cons.mp (h x (List.mem_cons_self ..)) with rfl | hxs
      · exact absurd (hx _ hy) (UInt8.lt_irrefl _)
      · exact absurd (hx _ hy) (UInt8.lt_asymm (ha x hxs))
    · exact hys

/-! ### more on big-endian integers and on cutting octet strings at fixed offsets -/

/-- the `/ 16`, `% 16` reading of the version octet `16 * major + minor` (`version_octet`, `version_rt'` read the same
octet by shift and mask) -/
theorem version_nibbles (a b : UInt8) (ha : a.toNat < 16) (hb : b.toNat < 16) :
    UInt8.ofNat ((UInt8.ofNat (16 * a.toNat + b.toNat)).toNat / 16) = a ∧
    UInt8.ofNat ((UInt8.ofNat (16 * a.toNat + b.toNat)).toNat % 16) = b := by
  obtain ⟨h1, h2⟩ := mul_add_divmod a.toNat b.toNat 16 hb
  rw [toNat_ofNat_u8 _ (by omega), Nat.mul_comm, h1, h2, UInt8.ofNat_toNat, UInt8.ofNat_toNat]
  exact ⟨rfl, rfl⟩

theorem put32_beNat (x : Bytes) (h : x.length = 4) : put32 (UInt32.ofNat (beNat x)) = x := by
  match x, h with
  | [a, b, c, d], _ =>
    have e : beNat [a, b, c, d] = ((a.toNat * 256 + b.toNat) * 256 + c.toNat) * 256 + d.toNat := by simp [beNat]
    rw [e]
    exact put32_be32 a b c d

theorem beNat_lt4 (x : Bytes) (h : x.length = 4) : beNat x < 4294967296 :=
  (congrArg beNat (put32_beNat x h)).symm.trans (beNat_put32 _) ▸ UInt32.toNat_lt _

theorem put64_beNat (x : Bytes) (h : x.length = 8) : put64 (UInt64.ofNat (beNat x)) = x := by
  have hu : (x.take 4).length = 4 := by rw [List.length_take, h]; rfl
  have hv : (x.drop 4).length = 4 := by rw [List.length_drop, h]
  rw [← List.take_append_drop 4 x]
  generalize x.take 4 = u at hu
  generalize x.drop 4 = v at hv
  have h1 := beNat_lt4 u hu
  have h2 := beNat_lt4 v hv
  obtain ⟨e1, e2⟩ := mul_add_divmod (beNat u) (beNat v) 4294967296 h2
  unfold put64
  rw [beNat_append, hv, show (256 : Nat) ^ 4 = 4294967296 from rfl, UInt64.toNat_ofNat', Nat.mod_eq_of_lt (by omega),
    e1, e2, put32_beNat u hu, put32_beNat v hv]

theorem put64_be64 (b : Bytes) (h : 8 ≤ b.length) : put64 (be64 b) = b.take 8 := by
  unfold be64
  exact put64_beNat _ (by rw [List.length_take]; omega)

theorem byteAt_drop (b : Bytes) (n i : Nat) : byteAt (b.drop n) i = byteAt b (n + i) := by
  simp [byteAt, List.getD_eq_getElem?_getD, List.getElem?_drop]

theorem drop_add {b t t' : Bytes} {n k : Nat} (h1 : b.drop n = t) (h2 : t.drop k = t') : b.drop (n + k) = t' := by
  rw [← List.drop_drop, h1, h2]

theorem take4_eq (y : Bytes) (h : 4 ≤ y.length) : y.take 4 = [byteAt y 0, byteAt y 1, byteAt y 2, byteAt y 3] := by
  match y, h with
  | a :: b :: c :: d :: rest, _ => simp

theorem take4_drop (b : Bytes) (n : Nat) (h : n + 4 ≤ b.length) :
    (b.drop n).take 4 = [byteAt b n, byteAt b (n + 1), byteAt b (n + 2), byteAt b (n + 3)] := by
  rw [take4_eq _ (by rw [List.length_drop]; omega)]
  simp only [byteAt_drop, Nat.add_zero]

theorem drop_cons4 (b : Bytes) (n : Nat) (h : n + 4 ≤ b.length) :
    b.drop n = byteAt b n :: byteAt b (n + 1) :: byteAt b (n + 2) :: byteAt b (n + 3) :: b.drop (n + 4) := by
  rw [← List.take_append_drop 4 (b.drop n), take4_drop b n h, List.drop_drop]
  rfl

theorem drop_eq_take_append (b : Bytes) (n k : Nat) : b.drop n = (b.drop n).take k ++ b.drop (n + k) := by
  rw [← List.drop_drop, List.take_append_drop]

theorem drop_eq_nil_iff_length_eq (rest : Bytes) (n : Nat) (h : n ≤ rest.length) :
    (rest.drop n = []) ↔ rest.length = n := by
  rw [List.drop_eq_nil_iff]
  omega

/-- octets of length `|S| + n` that agree with `S` before their last `n` are `S` followed by a tail of length `n` -/
theorem eq_append_of_take_eq (b S : Bytes) (n : Nat) (hlen : b.length = S.length + n)
    (hpre : b.take (b.length - n) = S) : ∃ tail, b = S ++ tail ∧ tail.length = n := by
  rw [hlen, Nat.add_sub_cancel] at hpre
  refine ⟨b.drop S.length, ?_, ?_⟩
  · conv => lhs; rw [← List.take_append_drop S.length b, hpre]
  · rw [List.length_drop, hlen, Nat.add_sub_cancel_left]

theorem byteAt_snoc_last (x : Bytes) (c : UInt8) : byteAt (x ++ [c]) ((x ++ [c]).length - 1) = c := by
  rw [List.length_append, List.length_singleton, Nat.add_sub_cancel]
  exact byteAt_append_right x [c] 0

theorem take_snoc_byteAt (y : Bytes) (n : Nat) (h : y.length = n + 1) : y = y.take n ++ [byteAt y n] := by
  induction y generalizing n with
  | nil => simp at h
  | cons a as ih =>
    cases n with
    | zero =>
      have : as = [] := List.eq_nil_of_length_eq_zero (by simpa using h)
      subst this; simp
    | succ n =>
      simp only [List.take_succ_cons, List.cons_append, byteAt_cons_succ, List.cons.injEq, true_and]
      exact ih n (by simpa using h)

theorem bytesEq_iff (a b : Bytes) : bytesEq a b = true ↔ a = b := by
  unfold bytesEq; simp

/-! big-endian values of octet strings (`beNat`) and the fixed-width encoder `natToBytes` -/

theorem beNat_cons (x : UInt8) (v : Bytes) : beNat (x :: v) = x.toNat * 256 ^ v.length + beNat v := by
  have := beNat_append [x] v
  simpa [beNat] using this

theorem beNat_zeros_append (k : Nat) (v : Bytes) : beNat (zeros k ++ v) = beNat v := by
  induction k with
  | zero => rfl
  | succ k ih =>
    have : zeros (k + 1) ++ v = (0 : UInt8) :: (zeros k ++ v) := by simp [zeros, List.replicate_succ]
    rw [this, beNat_cons, ih]; simp

theorem beNat_lt (v : Bytes) : beNat v < 256 ^ v.length := by
  induction v with
  | nil => simp [beNat]
  | cons x xs ih =>
    rw [beNat_cons, List.length_cons, Nat.pow_succ]
    have hx := x.toNat_lt
    have : x.toNat * 256 ^ xs.length ≤ 255 * 256 ^ xs.length := Nat.mul_le_mul_right _ (by omega)
    omega

theorem beNat_inj (a b : Bytes) (hl : a.length = b.length) (h : beNat a = beNat b) : a = b := by
  induction a generalizing b with
  | nil => cases b with
    | nil => rfl
    | cons y ys => simp at hl
  | cons x xs ih =>
    cases b with
    | nil => simp at hl
    | cons y ys =>
      simp only [List.length_cons, Nat.add_right_cancel_iff] at hl
      rw [beNat_cons, beNat_cons, hl] at h
      have h1 := beNat_lt xs
      have h2 := beNat_lt ys
      rw [hl] at h1
      have hpos : 0 < 256 ^ ys.length := Nat.pow_pos (by omega)
      generalize 256 ^ ys.length = M at *
      have hxy : x.toNat = y.toNat := by
        have e1 : (x.toNat * M + beNat xs) / M = x.toNat := by
          rw [Nat.mul_comm, Nat.mul_add_div hpos, Nat.div_eq_of_lt h1]; simp
        have e2 : (y.toNat * M + beNat ys) / M = y.toNat := by
          rw [Nat.mul_comm, Nat.mul_add_div hpos, Nat.div_eq_of_lt h2]; simp
        rw [← e1, ← e2, h]
      rw [hxy] at h
      have hrest : beNat xs = beNat ys := by omega
      rw [UInt8.toNat_inj.mp hxy, ih ys hl hrest]

theorem natToBytes_length (L n : Nat) : (natToBytes L n).length = L := by simp [natToBytes]

theorem natToBytes_succ (L n : Nat) :
    natToBytes (L + 1) n = natToBytes L (n / 256) ++ [UInt8.ofNat (n % 256)] := by
  unfold natToBytes
  rw [List.range_succ, List.map_append]
  congr 1
  · apply List.map_congr_left
    intro i hi
    have hi' : i < L := List.mem_range.mp hi
    have : L + 1 - 1 - i = (L - 1 - i) + 1 := by omega
    rw [this, Nat.pow_succ, Nat.mul_comm, Nat.div_div_eq_div_mul]
  · simp

theorem beNat_natToBytes (L n : Nat) : beNat (natToBytes L n) = n % 256 ^ L := by
  induction L generalizing n with
  | zero => simp [natToBytes, beNat, Nat.mod_one]
  | succ L ih =>
    rw [natToBytes_succ, beNat_append, ih, Nat.pow_succ', Nat.mod_mul]
    simp only [List.length_cons, List.length_nil, beNat, List.foldl, UInt8.toNat_ofNat']
    omega

theorem length_take_drop (ks : Bytes) (n l : Nat) (h : n + l ≤ ks.length) : ((ks.drop n).take l).length = l := by
  rw [List.length_take, List.length_drop]; omega

theorem u8_ofNat_mod (n : Nat) : UInt8.ofNat (n % 256) = UInt8.ofNat n := by
  apply UInt8.toNat_inj.mp
  simp [UInt8.toNat_ofNat']

theorem natToBytes_one (n : Nat) : natToBytes 1 n = [UInt8.ofNat n] := by
  simp [natToBytes, List.range_succ, u8_ofNat_mod]

/-- both sides are the two octets of `n % 65536` -/
theorem natToBytes_two (n : Nat) : natToBytes 2 n = put16 (UInt16.ofNat n) := by
  simp only [natToBytes, put16, UInt16.toNat_ofNat']
  simp [List.range_succ]
  apply UInt8.toNat_inj.mp
  simp only [UInt8.toNat_ofNat']
  omega

end Ike
