import IkeProofs.Lemmas.NoFault
import IkeProofs.Lemmas.Bytes
import IkeModel.Security.ChildOps

/-! One AES-CBC cipher object (C10): the random source's reads, closed forms of `Encrypt` /
`Decrypt`; `Decrypt` returns `inner` whenever the CBC decryption of its input is
`inner ‖ pad ‖ [|pad|]`; call histories on one object (`cbcRandAfter`, `cbcRun`).
What a successful `Encrypt` implies comes in three forms: `cbcEncrypt_ok_ct` (the ciphertext as
a function of the stream), `cbcEncrypt_ok_draws` (the two reads), `cbcEncrypt_ok_plain` (length
and CBC decryption). -/

namespace Ike

theorem xorBytes_cancel (a b : Bytes) (h : a.length ≤ b.length) : xorBytes (xorBytes a b) b = a := by
  induction a generalizing b with
  | nil => cases b <;> rfl
  | cons x xs ih =>
    cases b with
    | nil => cases h
    | cons y ys =>
      simp only [xorBytes, ih ys (Nat.le_of_succ_le_succ h), UInt8.xor_assoc, UInt8.xor_self, UInt8.xor_zero]

theorem cbcDec_cbcEnc (E D : Bytes → Bytes)
    (hE : ∀ b, b.length = 16 → (E b).length = 16)
    (hDE : ∀ b, b.length = 16 → D (E b) = b)
    (iv x : Bytes) (hiv : iv.length = 16) (hx : x.length % 16 = 0) :
    cbcDec D iv (cbcEnc E iv x) = x := by
  fun_induction cbcEnc E iv x with
  | case1 prev pt h =>
    have : pt = [] := List.eq_nil_of_length_eq_zero (by omega)
    subst this
    rw [cbcDec, dif_pos (by decide)]
  | case2 prev pt h c ih =>
    have hrest : (List.drop 16 pt).length % 16 = 0 := by rw [List.length_drop]; omega
    have ht : (List.take 16 pt).length = 16 := by rw [List.length_take]; exact Nat.min_eq_left (Nat.le_of_not_lt h)
    have hx16 : (xorBytes (List.take 16 pt) prev).length = 16 := by rw [xorBytes_length, ht, hiv]; rfl
    have hc16 : c.length = 16 := hE _ hx16
    rw [cbcDec, dif_neg (by rw [List.length_append, hc16]; omega)]
    simp only
    rw [take_prefix_eq _ _ _ hc16.symm, drop_prefix_eq _ _ _ hc16.symm, ih hc16 hrest,
      show D c = xorBytes (List.take 16 pt) prev from hDE _ hx16,
      xorBytes_cancel _ _ (by rw [ht, hiv]; exact Nat.le_refl _), List.take_append_drop]

theorem cyc_length (buf : Bytes) (pos n : Nat) : (cyc buf pos n).length = n := by
  induction n generalizing pos with
  | zero => rfl
  | succ n ih => simp [cyc, ih]

theorem Rand.draw_ok (r : Rand) (n : Nat) (h : r.failAt ≠ some r.reads) :
    r.draw n = ({ r with reads := r.reads + 1, pos := r.pos + n }, .ok (cyc r.buf r.pos n)) := by
  unfold Rand.draw; rw [if_neg h]

theorem Rand.draw_ok_length {r r' : Rand} {n : Nat} {out : Bytes} (h : r.draw n = (r', .ok out)) :
    out.length = n := by
  unfold Rand.draw at h
  split at h
  · cases h
  · cases h; exact cyc_length _ _ _

/-- number of octets `PKCS7Padding` appends (1…16; `blockSize - len % blockSize` is never 0) -/
def padLen (plain : Bytes) : Nat := 16 - plain.length % 16

theorem padLen_bounds (plain : Bytes) : 1 ≤ padLen plain ∧ padLen plain ≤ 16 ∧
    (plain.length + padLen plain) % 16 = 0 := by
  unfold padLen; omega

/-- the padded plaintext `Encrypt` feeds to CBC when the padding draw yields `drawn` -/
def paddedWith (plain drawn : Bytes) : Bytes :=
  plain ++ drawn.take (padLen plain - 1) ++ [UInt8.ofNat (padLen plain - 1)]

/-- two reads of the random source, first the padding (`padLen` octets), then the IV -/
theorem cbcEncrypt_eq (P : Prims) (c : CipherObj) (r : Rand) (plain : Bytes) :
    cbcEncrypt P c r plain =
      if r.failAt = some r.reads then ({ r with reads := r.reads + 1 }, .err)
      else if r.failAt = some (r.reads + 1) then
        ({ r with reads := r.reads + 2, pos := r.pos + padLen plain }, .err)
      else
        let iv := cyc r.buf (r.pos + padLen plain) 16
        ({ r with reads := r.reads + 2, pos := r.pos + padLen plain + 16 },
         .ok (iv ++ cbcEnc (P.enc c.key) iv (paddedWith plain (cyc r.buf r.pos (padLen plain))))) := by
  unfold cbcEncrypt pkcs7Pad Rand.draw
  by_cases h1 : r.failAt = some r.reads
  · simp only [if_pos h1]
  · simp only [if_neg h1]
    by_cases h2 : r.failAt = some (r.reads + 1)
    · simp only [if_pos h2]; rfl
    · simp only [if_neg h2]; rfl

theorem paddedWith_length (plain drawn : Bytes) (hd : drawn.length = padLen plain) :
    (paddedWith plain drawn).length = plain.length + padLen plain := by
  have := (padLen_bounds plain).1
  unfold paddedWith
  rw [List.length_append, List.length_append, List.length_take, hd]
  show plain.length + min (padLen plain - 1) (padLen plain) + 1 = _
  omega

theorem cbcEncrypt_ok_ct (P : Prims) (c : CipherObj) (r : Rand) (plain ct : Bytes)
    (h : (cbcEncrypt P c r plain).2 = .ok ct) :
    r.failAt ≠ some r.reads ∧ r.failAt ≠ some (r.reads + 1) ∧
    ct = cyc r.buf (r.pos + padLen plain) 16 ++
      cbcEnc (P.enc c.key) (cyc r.buf (r.pos + padLen plain) 16)
        (paddedWith plain (cyc r.buf r.pos (padLen plain))) := by
  rw [cbcEncrypt_eq] at h
  by_cases h1 : r.failAt = some r.reads
  · rw [if_pos h1] at h; cases h
  · rw [if_neg h1] at h
    by_cases h2 : r.failAt = some (r.reads + 1)
    · rw [if_pos h2] at h; cases h
    · rw [if_neg h2] at h
      exact ⟨h1, h2, (Res.ok.inj h).symm⟩

theorem cbcEncrypt_ok_draws (P : Prims) (c : CipherObj) (r r2 : Rand) (plain ct : Bytes)
    (h : cbcEncrypt P c r plain = (r2, .ok ct)) :
    ∃ r1 drawn iv, r.draw (padLen plain) = (r1, .ok drawn) ∧ r1.draw 16 = (r2, .ok iv) := by
  obtain ⟨h1, h2, _⟩ := cbcEncrypt_ok_ct P c r plain ct (by rw [h])
  rw [cbcEncrypt_eq, if_neg h1, if_neg h2] at h
  obtain ⟨rfl, -⟩ := Prod.mk.inj h
  exact ⟨_, _, _, Rand.draw_ok r _ h1, Rand.draw_ok _ _ h2⟩

/-- the textbook CBC decryption of `ct = IV ‖ blocks` under the object's key -/
def cbcPlain (P : Prims) (c : CipherObj) (ct : Bytes) : Bytes :=
  cbcDec (P.dec c.key) (ct.take 16) (ct.drop 16)

/-- the pad-length octet `Decrypt` reads: the last octet of the CBC decryption -/
def lastPlainOctet (P : Prims) (c : CipherObj) (ct : Bytes) : UInt8 :=
  byteAt (cbcPlain P c ct) ((cbcPlain P c ct).length - 1)

theorem cbcPlain_length (P : Prims) (hP : P.Lawful) (c : CipherObj) (ct : Bytes)
    (h16 : 16 ≤ ct.length) (hal : (ct.length - 16) % 16 = 0) :
    (cbcPlain P c ct).length = ct.length - 16 := by
  unfold cbcPlain
  rw [cbcDec_length _ (hP.dec_len c.key) _ _ (by rw [List.length_take]; exact Nat.min_eq_left h16)
    (by rw [List.length_drop]; exact hal), List.length_drop]

theorem cbcDecrypt_eq (P : Prims) (hP : P.Lawful) (c : CipherObj) (ct : Bytes) :
    cbcDecrypt P c ct =
      if ct.length < 32 ∨ (ct.length - 16) % 16 ≠ 0 ∨
          (lastPlainOctet P c ct).toNat + 1 > ct.length - 16 then .err
      else .ok ((cbcPlain P c ct).take (ct.length - 16 - ((lastPlainOctet P c ct).toNat + 1))) := by
  unfold cbcDecrypt
  by_cases h16 : ct.length < 16
  · rw [if_pos h16, if_pos (Or.inl (Nat.lt_trans h16 (by decide)))]
  have h16' := Nat.le_of_not_lt h16
  rw [if_neg h16, goTo_ok h16', goFrom_ok h16']
  simp only [Res.bind_ok, List.length_drop, Bool.or_eq_true, decide_eq_true_eq]
  by_cases h32 : ct.length < 32
  · -- fewer than 16 octets after the IV: empty, or not a whole block
    have hlt : ct.length - 16 < 16 := by omega
    rw [if_pos (Or.inl h32), if_pos (by rw [Nat.mod_eq_of_lt hlt]; exact Decidable.em _)]
  have hpos : ct.length - 16 ≠ 0 := by omega
  by_cases hal : (ct.length - 16) % 16 = 0
  · have hl := cbcPlain_length P hP c ct h16' hal
    -- the first two refusal causes are excluded here: drop them from the right-hand side
    have hc : ∀ q : Prop, (ct.length < 32 ∨ (ct.length - 16) % 16 ≠ 0 ∨ q) ↔ q := fun q =>
      ⟨fun h => (h.resolve_left h32).resolve_left (fun h => h hal), fun h => .inr (.inr h)⟩
    simp only [hc]
    rw [if_neg (fun h => h.elim hpos (fun h => h hal))]
    clear hc hal
    unfold lastPlainOctet cbcPlain
    unfold cbcPlain at hl
    generalize cbcDec (P.dec c.key) (List.take 16 ct) (List.drop 16 ct) = pt at hl ⊢
    rw [goIndex_ok (by omega), hl]
    simp only [Res.bind_ok]
    by_cases hp : (byteAt pt (ct.length - 16 - 1)).toNat + 1 > ct.length - 16
    · rw [if_pos hp, if_pos hp]
    · rw [if_neg hp, if_neg hp, goTo_ok (by omega)]
  · rw [if_pos (Or.inr hal), if_pos (Or.inr (Or.inl hal))]

/-- `Decrypt` strips ANY padding the last octet announces; the pad octets are arbitrary -/
theorem cbcDecrypt_of_plain (P : Prims) (hP : P.Lawful) (c : CipherObj) (ct inner pad : Bytes)
    (hpad : pad.length ≤ 255) (hal : (inner.length + pad.length + 1) % 16 = 0)
    (hct : ct.length = 16 + (inner.length + pad.length + 1))
    (hpl : cbcPlain P c ct = inner ++ pad ++ [UInt8.ofNat pad.length]) :
    cbcDecrypt P c ct = .ok inner := by
  have hlast : lastPlainOctet P c ct = UInt8.ofNat pad.length := by
    unfold lastPlainOctet; rw [hpl, byteAt_snoc_last]
  have hn : ct.length - 16 = inner.length + pad.length + 1 := by rw [hct, Nat.add_sub_cancel_left]
  have h32 : ¬ ct.length < 32 := by omega
  have hal' : ¬ (ct.length - 16) % 16 ≠ 0 := fun h => h (hn ▸ hal)
  clear hal
  rw [cbcDecrypt_eq P hP, hlast, toNat_ofNat_u8 _ hpad, if_neg (by omega), hpl,
    show ct.length - 16 - (pad.length + 1) = inner.length by omega,
    List.append_assoc, take_prefix_eq _ _ _ rfl]

theorem cbcPlain_cbcEnc (P : Prims) (hP : P.Lawful) (c : CipherObj) (iv pt : Bytes)
    (hiv : iv.length = 16) (hpt : pt.length % 16 = 0) :
    cbcPlain P c (iv ++ cbcEnc (P.enc c.key) iv pt) = pt := by
  unfold cbcPlain
  rw [take_prefix_eq _ _ _ hiv.symm, drop_prefix_eq _ _ _ hiv.symm]
  exact cbcDec_cbcEnc _ _ (hP.enc_len c.key) (hP.dec_enc c.key) iv pt hiv hpt

/-- `Decrypt ∘ (IV ‖ CBC-encrypt)` on a plaintext with ANY legal padding (C06: a peer's padding) -/
theorem cbcDecrypt_padded (P : Prims) (hP : P.Lawful) (c : CipherObj) (iv inner pad : Bytes)
    (hiv : iv.length = 16) (hpad : pad.length ≤ 255) (hal : (inner.length + pad.length + 1) % 16 = 0) :
    cbcDecrypt P c (iv ++ cbcEnc (P.enc c.key) iv (inner ++ pad ++ [UInt8.ofNat pad.length])) = .ok inner := by
  have hl : (inner ++ pad ++ [UInt8.ofNat pad.length]).length = inner.length + pad.length + 1 := by
    rw [List.length_append, List.length_append]; rfl
  apply cbcDecrypt_of_plain P hP c _ inner pad hpad hal
  · rw [List.length_append, cbcEnc_length _ (hP.enc_len c.key) _ _ hiv (by rw [hl]; exact hal), hiv, hl]
  · exact cbcPlain_cbcEnc P hP c iv _ hiv (by rw [hl]; exact hal)

theorem cbcEncrypt_ok_plain (P : Prims) (hP : P.Lawful) (c : CipherObj) (r : Rand) (plain ct : Bytes)
    (h : (cbcEncrypt P c r plain).2 = .ok ct) :
    ∃ pad, pad.length = padLen plain - 1 ∧ ct.length = 16 + (plain.length + padLen plain) ∧
      cbcPlain P c ct = plain ++ pad ++ [UInt8.ofNat (padLen plain - 1)] := by
  obtain ⟨_, _, hct⟩ := cbcEncrypt_ok_ct P c r plain ct h
  have hiv := cyc_length r.buf (r.pos + padLen plain) 16
  have hl := paddedWith_length plain _ (cyc_length r.buf r.pos (padLen plain))
  have hal : (paddedWith plain (cyc r.buf r.pos (padLen plain))).length % 16 = 0 := by
    rw [hl]; exact (padLen_bounds plain).2.2
  refine ⟨(cyc r.buf r.pos (padLen plain)).take (padLen plain - 1), ?_, ?_, ?_⟩
  · rw [List.length_take, cyc_length]; exact Nat.min_eq_left (Nat.sub_le _ _)
  · rw [hct, List.length_append, cbcEnc_length _ (hP.enc_len c.key) _ _ hiv hal, hiv, hl]
  · rw [hct]; exact cbcPlain_cbcEnc P hP c _ _ hiv hal

theorem cbcEncrypt_rand (P : Prims) (c : CipherObj) (r : Rand) (p : Bytes) :
    (cbcEncrypt P c r p).1.buf = r.buf ∧ (cbcEncrypt P c r p).1.failAt = r.failAt ∧
    r.pos ≤ (cbcEncrypt P c r p).1.pos ∧ r.reads < (cbcEncrypt P c r p).1.reads := by
  rw [cbcEncrypt_eq]
  by_cases h1 : r.failAt = some r.reads
  · rw [if_pos h1]; simp
  · rw [if_neg h1]
    by_cases h2 : r.failAt = some (r.reads + 1)
    · rw [if_pos h2]; simp
    · rw [if_neg h2]; simp; omega

/-- the random source after a history of calls on one object -/
def cbcRandAfter (P : Prims) (c : CipherObj) : Rand → List CbcOp → Rand
  | r, [] => r
  | r, .enc p :: rest => cbcRandAfter P c (cbcEncrypt P c r p).1 rest
  | r, .dec _ :: rest => cbcRandAfter P c r rest

theorem cbcRun_append (P : Prims) (c : CipherObj) (r : Rand) (ops1 ops2 : List CbcOp) :
    cbcRun P c r (ops1 ++ ops2) = cbcRun P c r ops1 ++ cbcRun P c (cbcRandAfter P c r ops1) ops2 := by
  induction ops1 generalizing r with
  | nil => rfl
  | cons op rest ih =>
    cases op with
    | enc p => simp only [List.cons_append, cbcRun, cbcRandAfter, ih]
    | dec ct => simp only [List.cons_append, cbcRun, cbcRandAfter, ih]

theorem cbcRun_length (P : Prims) (c : CipherObj) (r : Rand) (ops : List CbcOp) :
    (cbcRun P c r ops).length = ops.length := by
  induction ops generalizing r with
  | nil => rfl
  | cons op rest ih =>
    cases op with
    | enc p => simp only [cbcRun, List.length_cons, ih]
    | dec ct => simp only [cbcRun, List.length_cons, ih]

end Ike
