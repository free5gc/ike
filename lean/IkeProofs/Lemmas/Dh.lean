import IkeProofs.Lemmas.Bytes
import IkeModel.Security.Dh
import IkeModel.Spec.Keys

/-! For C09: square-and-multiply is the modular power, `big.Int.Bytes()` left-padded is the fixed-width
big-endian encoding, and the exponent-drawing loop.  The MODEL of that loop is defined here (`genRandom`,
`randMin`, `randMax`, `genRandomDraws`), over the outcomes of its `rand.Int` calls, not under `IkeModel/`. -/

namespace Ike

theorem modPow_eq (b e m : Nat) : modPow b e m = b ^ e % m := by
  fun_induction modPow b e m with
  | case1 b => simp
  | case2 b e h half hodd ih =>  -- odd exponent; `half` is the `let` of the definition
    simp only [half] at *
    rw [ih, ← Nat.pow_mod]
    have he : e = 2 * (e / 2) + 1 := by omega
    conv => rhs; rw [he, Nat.pow_succ, Nat.pow_mul, Nat.mul_comm]
    rw [Nat.mul_mod_mod, Nat.mod_mul_mod, Nat.pow_two]
  | case3 b e h half hodd ih =>  -- even exponent
    simp only [half] at *
    rw [ih, ← Nat.pow_mod]
    have he : e = 2 * (e / 2) := by omega
    conv => rhs; rw [he, Nat.pow_mul]
    rw [Nat.pow_two]

/-- the digit loop of `natBytesMin` with enough fuel (`n < fuel`: it stops at `n = 0`, not at `fuel = 0`):
the value it has written, and how many octets that takes -/
theorem natBytesMin_go_spec (fuel n : Nat) (acc : Bytes) (h : n < fuel) :
    beNat (natBytesMin.go fuel n acc) = n * 256 ^ acc.length + beNat acc ∧
    ∀ k, n < 256 ^ k → (natBytesMin.go fuel n acc).length ≤ k + acc.length := by
  induction fuel generalizing n acc with
  | zero => omega
  | succ fuel ih =>
    unfold natBytesMin.go
    by_cases h0 : n = 0
    · rw [if_pos h0]; subst h0; simp
    · rw [if_neg h0]
      have hlt : n / 256 < fuel := by omega
      obtain ⟨ih1, ih2⟩ := ih (n / 256) (UInt8.ofNat (n % 256) :: acc) hlt
      constructor
      · rw [ih1, beNat_cons, List.length_cons, Nat.pow_succ, UInt8.toNat_ofNat']
        have : n % 256 % 2 ^ 8 = n % 256 := by omega
        rw [this]
        generalize 256 ^ acc.length = M
        have hn : n = 256 * (n / 256) + n % 256 := (Nat.div_add_mod n 256).symm
        conv => rhs; rw [hn]
        rw [Nat.add_mul, Nat.mul_comm M 256, ← Nat.mul_assoc, Nat.mul_comm (n / 256) 256, Nat.add_assoc]
      · intro k hk
        cases k with
        | zero => simp at hk; omega
        | succ k =>
          have := ih2 k (by rw [Nat.pow_succ] at hk; omega)
          simp only [List.length_cons] at this
          omega

theorem beNat_natBytesMin (n : Nat) : beNat (natBytesMin n) = n := by
  have := (natBytesMin_go_spec (n + 1) n [] (by omega)).1
  simpa [natBytesMin, beNat] using this

theorem natBytesMin_length_le (n L : Nat) (h : n < 256 ^ L) : (natBytesMin n).length ≤ L := by
  have := (natBytesMin_go_spec (n + 1) n [] (by omega)).2 L h
  simpa [natBytesMin] using this

/-- `append(make([]byte, L-len(v)), v...)` with `v = n.Bytes()` is the
`L`-octet big-endian encoding of `n`, whenever `n < 256^L` -/
theorem leftPad_natBytesMin (L n : Nat) (h : n < 256 ^ L) :
    leftPad L (natBytesMin n) = .ok (natToBytes L n) := by
  have hl := natBytesMin_length_le n L h
  unfold leftPad
  rw [if_pos hl]
  congr 1
  apply beNat_inj
  · rw [natToBytes_length, List.length_append, zeros_length]; omega
  · rw [beNat_zeros_append, beNat_natBytesMin, beNat_natToBytes, Nat.mod_eq_of_lt h]

/-- the padding faults (negative `make`) exactly when the value does not fit -/
theorem leftPad_ne_fault_iff (L : Nat) (v : Bytes) : leftPad L v ≠ .fault ↔ v.length ≤ L := by
  unfold leftPad
  by_cases h : v.length ≤ L
  · rw [if_pos h]; simp [h]
  · rw [if_neg h]; simp [h]

/-! ### the exponent-drawing loop `security.GenerateRandomNumber`

```go
for {
    number, err = rand.Int(rand.Reader, &randomNumberMaximum)
    if err != nil { return nil, errors.Errorf(...) }
    else if number.Cmp(&randomNumberMinimum) == 1 { break }
}
return number, nil
```

The loop is modelled over an explicit list of outcomes of the successive
`rand.Int` calls: `none` = the call returned an error, `some v` = it returned
the number `v`.  `rand.Int` itself (rejection sampling on octets read from
`rand.Reader`, result uniformly in `[0, max)`) is TRUSTED: it is standard
library code, not modelled; its contract `v < max` appears as the hypothesis
`hInt` of `C09_random_range`.  The Go loop has no iteration bound, so a finite list of
outcomes can be exhausted with the loop still running: that is the outer
`none`. -/

/-- `randomNumberMinimum` = 32 hex digits `F` (security.go:35) -/
def randMin : Nat := 2 ^ 128 - 1
/-- `randomNumberMaximum` = 512 hex digits `F` (security.go:34) -/
def randMax : Nat := 2 ^ 2048 - 1

/-- `GenerateRandomNumber()` over the outcomes of its `rand.Int` calls; `none`
= still looping after all listed outcomes were consumed. -/
def genRandom (min : Nat) : List (Option Nat) → Option (Res Nat)
  | [] => none
  | none :: _ => some .err
  | some v :: rest => if v > min then some (.ok v) else genRandom min rest

/-- number of `rand.Int` calls the loop made -/
def genRandomDraws (min : Nat) : List (Option Nat) → Nat
  | [] => 0
  | none :: _ => 1
  | some v :: rest => if v > min then 1 else 1 + genRandomDraws min rest

/-- draws that are all `≤ min` are redrawn -/
theorem genRandom_skip (min : Nat) (pre : List Nat) (rest : List (Option Nat)) (h : ∀ v ∈ pre, v ≤ min) :
    genRandom min (pre.map some ++ rest) = genRandom min rest := by
  induction pre with
  | nil => rfl
  | cons p ps ih =>
    have hp : ¬ p > min := Nat.not_lt.mpr (h p (List.mem_cons_self ..))
    simp only [List.map_cons, List.cons_append, genRandom, if_neg hp]
    exact ih fun v hv => h v (List.mem_cons_of_mem _ hv)

/-- a call that returned did so at a decisive outcome (a failed `rand.Int` or a draw above `min`) that
followed draws `≤ min` only -/
theorem genRandom_decisive (min : Nat) (ds : List (Option Nat)) (x : Res Nat) (h : genRandom min ds = some x) :
    ∃ (pre : List Nat) (d : Option Nat) (post : List (Option Nat)), ds = pre.map some ++ d :: post ∧
      (∀ v ∈ pre, v ≤ min) ∧ ((d = none ∧ x = .err) ∨ ∃ r, d = some r ∧ min < r ∧ x = .ok r) := by
  induction ds with
  | nil => cases h
  | cons d rest ih =>
    cases d with
    | none => exact ⟨[], none, rest, rfl, nofun, Or.inl ⟨rfl, (Option.some.inj h).symm⟩⟩
    | some v =>
      simp only [genRandom] at h
      by_cases hv : v > min
      · rw [if_pos hv] at h
        exact ⟨[], some v, rest, rfl, nofun, Or.inr ⟨v, rfl, hv, (Option.some.inj h).symm⟩⟩
      · rw [if_neg hv] at h
        obtain ⟨pre, d, post, rfl, hp, hd⟩ := ih h
        exact ⟨v :: pre, d, post, rfl, List.forall_mem_cons.mpr ⟨Nat.not_lt.mp hv, hp⟩, hd⟩

theorem genRandom_ok_iff (min : Nat) (ds : List (Option Nat)) (r : Nat) :
    genRandom min ds = some (.ok r) ↔
      ∃ (pre : List Nat) (post : List (Option Nat)), ds = pre.map some ++ some r :: post ∧ (∀ v ∈ pre, v ≤ min) ∧ min < r := by
  constructor
  · intro h
    obtain ⟨pre, d, post, rfl, hp, ⟨-, hx⟩ | ⟨r', rfl, hr, hx⟩⟩ := genRandom_decisive min ds _ h
    · cases hx
    · cases hx; exact ⟨pre, post, rfl, hp, hr⟩
  · rintro ⟨pre, post, rfl, hp, hr⟩
    rw [genRandom_skip _ _ _ hp, genRandom, if_pos hr]

theorem genRandom_err_iff (min : Nat) (ds : List (Option Nat)) :
    genRandom min ds = some .err ↔
      ∃ (pre : List Nat) (post : List (Option Nat)), ds = pre.map some ++ none :: post ∧ (∀ v ∈ pre, v ≤ min) := by
  constructor
  · intro h
    obtain ⟨pre, d, post, rfl, hp, ⟨rfl, -⟩ | ⟨r', rfl, hr, hx⟩⟩ := genRandom_decisive min ds _ h
    · exact ⟨pre, post, rfl, hp⟩
    · cases hx
  · rintro ⟨pre, post, rfl, hp⟩
    rw [genRandom_skip _ _ _ hp, genRandom]

theorem genRandom_ne_fault (min : Nat) (ds : List (Option Nat)) : genRandom min ds ≠ some .fault := by
  intro h
  obtain ⟨_, _, _, _, _, ⟨_, hx⟩ | ⟨_, _, _, hx⟩⟩ := genRandom_decisive min ds _ h <;> cases hx

theorem genRandom_prefix (min : Nat) (ds extra : List (Option Nat)) (x : Res Nat)
    (h : genRandom min ds = some x) : genRandom min (ds ++ extra) = some x := by
  obtain ⟨pre, d, post, rfl, hp, ⟨rfl, rfl⟩ | ⟨r, rfl, hr, rfl⟩⟩ := genRandom_decisive min ds x h
  · rw [List.append_assoc, genRandom_skip _ _ _ hp]; rfl
  · rw [List.append_assoc, genRandom_skip _ _ _ hp, List.cons_append, genRandom, if_pos hr]

end Ike
