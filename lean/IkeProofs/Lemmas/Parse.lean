import IkeProofs.Lemmas.Wire
import IkeProofs.Theorems.C03
import IkeModel.Spec.Parse
import IkeModel.Spec.SkOpen

/-! C05, parser side: the independent strict parser `Spec.parse` (IkeModel/Spec/Parse.lean) and the
independent encoder `Spec.encode` under the canonical liberties are inverse to each other.  Per RFC
figure `parseX_encode` (the parser reads back what the encoder writes for a value of the encodable
domain) and `encodeX_parse` (whatever the parser accepts, the encoder writes again octet for octet).

The header record that `Spec.parse` builds is, field for field, `Spec.readHeader b` of
IkeModel/Spec/SkOpen.lean (the two agree by `rfl`, see `parse_eq_some_iff`); the two header lemmas
`readHeader_encodeHeader` / `encodeHeader_readHeader` are stated for `readHeader` and serve the opener
lemmas of Lemmas/SkOpen.lean as well.

The encodable domain (`Payload.Dom`, `Msg.Dom`) is defined in Theorems/C03.lean, hence that import. -/

namespace Ike.ParseLemmas
open Spec

/-- peel one `if c then none else …` off a hypothesis `h : … = some _` -/
macro "peel " h:ident " with " n:ident : tactic =>
  `(tactic| (have htmp := ite_none_eq_some $h; clear $h; have $n := htmp.1; have $h := htmp.2; clear htmp))

/-- a count octet the parsers accept (Num Transforms, Number of TSs) is the count and not 0 -/
theorem count_accept {n : UInt8} {m : Nat} (h : ¬ (m ≠ n.toNat ∨ n = 0)) : m = n.toNat ∧ n.toNat ≠ 0 := by
  simp only [not_or, Decidable.not_not] at h
  exact ⟨h.1, fun hc => h.2 (UInt8.toNat_inj.mp hc)⟩

theorem put16_pair (a b : UInt8) : put16 (UInt16.ofNat (a.toNat * 256 + b.toNat)) = [a, b] := put16_be16 a b

theorem be16_put16_cons (v : UInt16) :
    be16 (UInt8.ofNat (v.toNat / 256)) (UInt8.ofNat (v.toNat % 256)) = v := be16_put v

theorem parseAttr_encode (t : Transform) (hd : t.Dom) (a : Bytes) (h : encodeAttr t = .ok a) :
    parseAttr t.ttype t.tid a = some t := by
  obtain ⟨tt, tid, present, fmt, atype, aval, vval⟩ := t
  unfold encodeAttr at h
  dsimp only [Transform.Dom] at hd h ⊢
  rcases hd with ⟨h1, h2, h3, h4, h5⟩ | ⟨h1, h2, h3, h5⟩ | ⟨h1, h2, h3, h4, h5⟩
  · subst h1 h2 h3 h4 h5
    cases h
    rfl
  · subst h1 h2 h5
    rw [if_neg (by decide), if_neg (Nat.not_le_of_lt h3), if_pos rfl] at h
    cases h
    -- the type word is `128 * 256 + atype`: first octet ≥ 128
    have key : 128 ≤ (32768 + atype.toNat) / 256 ∧ (32768 + atype.toNat) / 256 ≤ 255 ∧
        ((32768 + atype.toNat) / 256 - 128) * 256 + (32768 + atype.toNat) % 256 = atype.toNat := by omega
    rw [put16_ofNat _ (by omega)]
    simp only [put16, List.cons_append, List.nil_append, parseAttr]
    rw [toNat_ofNat_u8 _ key.2.1, toNat_ofNat_u8 _ (Nat.le_of_lt_succ (Nat.mod_lt _ (by decide))), if_pos key.1,
      if_neg (not_not_intro rfl), be16_put, key.2.2, UInt16.ofNat_toNat]
  · subst h1 h2 h4
    rw [if_neg (by decide), if_neg (Nat.not_le_of_lt h3), if_neg (by decide)] at h
    obtain ⟨hv, h⟩ := Res.ite_err_eq_ok h
    cases h
    have hv' : vval.length ≤ 65535 := Nat.le_of_not_lt hv
    have key : atype.toNat / 256 < 128 := by omega
    rw [put16_ofNat _ (by omega), put16_ofNat _ hv']
    simp only [List.cons_append, List.nil_append, parseAttr]
    rw [toNat_ofNat_u8 _ (by omega), if_neg (Nat.not_le_of_lt key), if_neg (not_not_intro (octets16_toNat _ hv').symm), be16_put]

theorem encodeAttr_parse (tt : UInt8) (tid : UInt16) (a : Bytes) (t : Transform)
    (h : parseAttr tt tid a = some t) : encodeAttr t = .ok a ∧ t.ttype = tt ∧ t.tid = tid := by
  unfold parseAttr at h
  split at h
  · cases h
    exact ⟨rfl, rfl, rfl⟩
  · rename_i a0 a1 v0 v1 rest
    have ha0 := a0.toNat_lt
    have ha1 := a1.toNat_lt
    by_cases h128 : 128 ≤ a0.toNat
    · rw [if_pos h128] at h
      obtain ⟨hr, h⟩ := ite_none_eq_some h
      cases h
      cases Decidable.not_not.mp hr
      refine ⟨?_, rfl, rfl⟩
      simp only [encodeAttr, Bool.not_true, Bool.false_eq_true, if_false, if_true]
      rw [toNat_ofNat_u16 _ (by omega), if_neg (by omega),
        show 32768 + ((a0.toNat - 128) * 256 + a1.toNat) = a0.toNat * 256 + a1.toNat by omega, put16_pair, put16_be16]
      rfl
    · rw [if_neg h128] at h
      obtain ⟨hl, h⟩ := ite_none_eq_some h
      cases h
      refine ⟨?_, rfl, rfl⟩
      have hv0 := v0.toNat_lt
      have hv1 := v1.toNat_lt
      simp only [encodeAttr, Bool.not_true, Bool.false_eq_true, if_false]
      rw [be16_toNat, if_neg (by omega), if_neg (by decide), Decidable.not_not.mp hl, if_neg (by omega), put16_pair,
        put16_pair]
      rfl
  · cases h

/-- a frame `a` in front of `tl`.  The parsers cut at `len - n` (`len` the length field, `n` the size of the
fixed part it also covers); once the step lemmas have rewritten `len` to `n + a.length` the cut reads
`n + a.length - n`, the shape these three lemmas are stated for -/
theorem take_frame (n : Nat) (a tl : Bytes) : List.take (n + a.length - n) (a ++ tl) = a := by
  rw [Nat.add_sub_cancel_left, List.take_left']; rfl

theorem drop_frame (n : Nat) (a tl : Bytes) : List.drop (n + a.length - n) (a ++ tl) = tl := by
  rw [Nat.add_sub_cancel_left, List.drop_left']; rfl

/-- the parsers' "last substructure" test: the frame ends where the input ends -/
theorem frame_last (n : Nat) (a tl : Bytes) : (a ++ tl).length = n + a.length - n ↔ tl = [] := by
  rw [Nat.add_sub_cancel_left, List.length_append]
  constructor
  · intro h; exact List.eq_nil_of_length_eq_zero (by omega)
  · intro h; rw [h]; rfl

/-- one well-framed transform in front of `tl` -/
theorem parseTransforms_step (fuel : Nat) (m l0 l1 tt i0 i1 : UInt8) (a tl : Bytes) (t : Transform) (ts : List Transform)
    (hl : l0.toNat * 256 + l1.toNat = 8 + a.length) (hm : m = if tl = [] then 0 else 3)
    (ha : parseAttr tt (be16 i0 i1) a = some t) (ht : parseTransforms fuel tl = some ts) :
    parseTransforms (fuel + 1) (m :: 0 :: l0 :: l1 :: tt :: 0 :: i0 :: i1 :: (a ++ tl)) = some (t :: ts) := by
  rw [parseTransforms]
  simp only [hl, frame_last]
  rw [if_neg (by simp), if_neg (by rw [List.length_append]; omega), take_frame, drop_frame,
    if_neg (not_not_intro hm), ha, ht]

/-- the canonical emission of a transform list -/
abbrev emitC (ts : List Transform) : List (TLib × Transform) := ts.map (fun t => (({} : TLib), t))

/-- every element is written as at least one octet, so the "last" marks can be read off the tail -/
theorem encodeTransforms_nil_iff (em : List (TLib × Transform)) (bs : Bytes) (h : encodeTransforms em = .ok bs) :
    em = [] ↔ bs = [] := by
  cases em with
  | nil => cases h; exact ⟨fun _ => rfl, fun _ => rfl⟩
  | cons e rest =>
    refine ⟨fun h' => (nomatch h'), fun h' => ?_⟩
    obtain ⟨hd, hh, h⟩ := Res.bind_eq_ok h
    obtain ⟨tl, _, h⟩ := Res.bind_eq_ok h
    obtain ⟨a, _, _, rfl⟩ := encodeTransform_ok _ _ _ _ hh
    cases h
    cases h'

theorem encodeProposals_nil_iff (ls : List PLib) (ps : List Proposal) (bs : Bytes) (h : encodeProposals ls ps = .ok bs) :
    ps = [] ↔ bs = [] := by
  cases ps with
  | nil => cases h; exact ⟨fun _ => rfl, fun _ => rfl⟩
  | cons p rest =>
    refine ⟨fun h' => (nomatch h'), fun h' => ?_⟩
    obtain ⟨hd, hh, h⟩ := Res.bind_eq_ok h
    obtain ⟨tl, _, h⟩ := Res.bind_eq_ok h
    obtain ⟨td, _, _, _, _, rfl⟩ := encodeProposal_ok _ _ _ _ hh
    cases h
    cases h'

theorem parseTransforms_encode (ts : List Transform) (hd : ∀ t ∈ ts, t.Dom) (bs : Bytes)
    (h : encodeTransforms (emitC ts) = .ok bs) (fuel : Nat) (hf : bs.length < fuel) :
    parseTransforms fuel bs = some ts := by
  induction ts generalizing bs fuel with
  | nil =>
    cases h
    obtain ⟨f, rfl⟩ := Nat.exists_eq_add_one_of_ne_zero (Nat.ne_zero_of_lt hf)
    rfl
  | cons t rest ih =>
    obtain ⟨hb, hh, h⟩ := Res.bind_eq_ok h
    obtain ⟨tl, hr, h⟩ := Res.bind_eq_ok h
    cases h
    obtain ⟨a, ha, hh⟩ := Res.bind_eq_ok hh
    obtain ⟨hlen, hh⟩ := Res.ite_err_eq_ok hh
    cases hh
    obtain ⟨f, rfl⟩ := Nat.exists_eq_add_one_of_ne_zero (Nat.ne_zero_of_lt hf)
    have hrec := ih (fun q hq => hd q (List.mem_cons_of_mem _ hq)) tl hr f
      (by simp only [List.length_append, List.length_cons] at hf; omega)
    rw [put16_ofNat _ (by omega)]
    refine parseTransforms_step f _ _ _ t.ttype _ _ a tl t rest (octets16_toNat (8 + a.length) (by omega)) ?_
      (by rw [be16_put]; exact parseAttr_encode t (hd t List.mem_cons_self) a ha) hrec
    simp only [List.isEmpty_iff, encodeTransforms_nil_iff _ _ hr]

theorem encodeTransforms_parse (fuel : Nat) (bs : Bytes) (ts : List Transform)
    (h : parseTransforms fuel bs = some ts) : encodeTransforms (emitC ts) = .ok bs := by
  induction fuel generalizing bs ts with
  | zero => cases h
  | succ f ih =>
    unfold parseTransforms at h
    split at h
    · cases h; rfl
    · rename_i m r1 l0 l1 tt r2 i0 i1 rest
      dsimp only at h
      peel h with hres
      peel h with hlen
      peel h with hm
      split at h
      · rename_i t ts' hpa hpt
        cases h
        obtain ⟨hea, htt, htid⟩ := encodeAttr_parse _ _ _ _ hpa
        have hl0 := l0.toNat_lt
        have hl1 := l1.toNat_lt
        generalize hL : l0.toNat * 256 + l1.toNat = L at *
        have hsz : L - 8 ≤ rest.length ∧ ¬ 8 + (L - 8) > 65535 ∧ 8 + (L - 8) = L := by omega
        have htl : (rest.take (L - 8)).length = L - 8 := List.length_take_of_le hsz.1
        have hrec := ih _ _ hpt
        have hmk : (if (emitC ts').isEmpty = true then (0 : UInt8) else 3) = m := by
          simp only [Decidable.not_not.mp hm, List.isEmpty_iff, encodeTransforms_nil_iff _ _ hrec, drop_eq_nil_iff_length_eq rest _ hsz.1]
        simp only [not_or, Decidable.not_not] at hres
        obtain ⟨rfl, rfl⟩ := hres
        simp only [emitC, List.map_cons, encodeTransforms]
        simp only [emitC] at hrec
        rw [hrec]
        unfold encodeTransform
        rw [hea]
        simp only [Res.bind_ok]
        rw [htl, if_neg hsz.2.1, hsz.2.2, ← hL, put16_pair, htt, htid, put16_be16, hmk]
        simp only [Res.bind_ok, List.cons_append, List.nil_append, List.take_append_drop]
      · cases h
    · cases h

theorem ofType_append (k : UInt8) (a b : List Transform) : ofType k (a ++ b) = ofType k a ++ ofType k b := by
  unfold ofType; exact List.filter_append ..

theorem ofType_const (k j : UInt8) (ts : List Transform) (h : ∀ t ∈ ts, t.ttype = j) :
    ofType k ts = if j = k then ts else [] := by
  unfold ofType
  by_cases hjk : j = k
  · rw [if_pos hjk, List.filter_eq_self]
    intro t ht
    rw [h t ht, hjk]; exact beq_self_eq_true k
  · rw [if_neg hjk, List.filter_eq_nil_iff]
    intro t ht
    rw [h t ht]; exact fun hc => hjk (eq_of_beq hc)

/-- the transforms of a proposal of the domain, emitted canonically, file back by type -/
theorem ofType_canonical (p : Proposal) (hd : p.Dom) :
    ofType 1 (p.encr ++ p.prf ++ p.integ ++ p.dh ++ p.esn) = p.encr ∧
    ofType 2 (p.encr ++ p.prf ++ p.integ ++ p.dh ++ p.esn) = p.prf ∧
    ofType 3 (p.encr ++ p.prf ++ p.integ ++ p.dh ++ p.esn) = p.integ ∧
    ofType 4 (p.encr ++ p.prf ++ p.integ ++ p.dh ++ p.esn) = p.dh ∧
    ofType 5 (p.encr ++ p.prf ++ p.integ ++ p.dh ++ p.esn) = p.esn := by
  obtain ⟨h1, h2, h3, h4, h5⟩ := hd
  simp (decide := true) only [ofType_append, ofType_const _ 1 _ fun t ht => (h1 t ht).1,
    ofType_const _ 2 _ fun t ht => (h2 t ht).1, ofType_const _ 3 _ fun t ht => (h3 t ht).1,
    ofType_const _ 4 _ fun t ht => (h4 t ht).1, ofType_const _ 5 _ fun t ht => (h5 t ht).1,
    if_true, if_false, List.append_nil, List.nil_append, and_self]

/-- one well-framed proposal in front of `tl`: SPI of the announced size, transforms `td` that parse to `ts`
with the announced count, in type order -/
theorem parseProposals_step (fuel : Nat) (m l0 l1 num proto ss nt : UInt8) (spi td tl : Bytes)
    (ts : List Transform) (ps : List Proposal)
    (hss : ss.toNat = spi.length) (hl : l0.toNat * 256 + l1.toNat = 8 + spi.length + td.length)
    (hm : m = if tl = [] then 0 else 2)
    (ht : parseTransforms ((spi ++ td ++ tl).length + 1) td = some ts)
    (hnt : ts.length = nt.toNat) (hnt0 : nt ≠ 0)
    (hsorted : ofType 1 ts ++ ofType 2 ts ++ ofType 3 ts ++ ofType 4 ts ++ ofType 5 ts = ts)
    (hp : parseProposals fuel tl = some ps) :
    parseProposals (fuel + 1) (m :: 0 :: l0 :: l1 :: num :: proto :: ss :: nt :: (spi ++ td ++ tl)) =
      some (⟨num, proto, spi, ofType 1 ts, ofType 2 ts, ofType 3 ts, ofType 4 ts, ofType 5 ts⟩ :: ps) := by
  rw [Nat.add_assoc, ← List.length_append] at hl
  rw [parseProposals]
  simp only [hl, hss, frame_last]
  rw [if_neg (not_not_intro rfl), if_neg (by simp only [List.length_append]; omega), take_frame, drop_frame,
    if_neg (not_not_intro hm), List.drop_left' rfl, List.take_left' rfl, ht, hp]
  simp only
  rw [if_neg (by simp [hnt, hnt0]), if_neg (not_not_intro hsorted)]

theorem encodeProposals_nil_cons (p : Proposal) (rest : List Proposal) :
    encodeProposals [] (p :: rest) = (do
      let h ← encodeProposal (PLib.canonical p) rest.isEmpty p
      let tl ← encodeProposals [] rest
      .ok (h ++ tl)) := rfl

theorem proposal_transforms_dom {p : Proposal} (hd : p.Dom) : ∀ t ∈ p.encr ++ p.prf ++ p.integ ++ p.dh ++ p.esn, t.Dom := by
  obtain ⟨h1, h2, h3, h4, h5⟩ := hd
  intro t ht
  simp only [List.mem_append] at ht
  rcases ht with (((ht | ht) | ht) | ht) | ht
  · exact (h1 t ht).2
  · exact (h2 t ht).2
  · exact (h3 t ht).2
  · exact (h4 t ht).2
  · exact (h5 t ht).2

theorem parseProposals_encode (ps : List Proposal) (hd : ∀ p ∈ ps, p.Dom) (bs : Bytes)
    (h : encodeProposals [] ps = .ok bs) (fuel : Nat) (hf : bs.length < fuel) :
    parseProposals fuel bs = some ps := by
  induction ps generalizing bs fuel with
  | nil =>
    cases h
    obtain ⟨f, rfl⟩ := Nat.exists_eq_add_one_of_ne_zero (Nat.ne_zero_of_lt hf)
    rfl
  | cons p rest ih =>
    rw [encodeProposals_nil_cons] at h
    obtain ⟨hb, hh, h⟩ := Res.bind_eq_ok h
    obtain ⟨tl, hr, h⟩ := Res.bind_eq_ok h
    cases h
    obtain ⟨hspi, hh⟩ := Res.ite_err_eq_ok hh
    obtain ⟨hne, hh⟩ := Res.ite_err_eq_ok hh
    obtain ⟨h255, hh⟩ := Res.ite_err_eq_ok hh
    obtain ⟨td, hts, hh⟩ := Res.bind_eq_ok hh
    obtain ⟨hlen, hh⟩ := Res.ite_err_eq_ok hh
    cases hh
    have hpd := hd p List.mem_cons_self
    obtain ⟨f, rfl⟩ := Nat.exists_eq_add_one_of_ne_zero (Nat.ne_zero_of_lt hf)
    have hrec := ih (fun q hq => hd q (List.mem_cons_of_mem _ hq)) tl hr f
      (by simp only [List.length_append, List.length_cons] at hf; omega)
    obtain ⟨o1, o2, o3, o4, o5⟩ := ofType_canonical p hpd
    have hem : (PLib.canonical p).emitted.length = (p.encr ++ p.prf ++ p.integ ++ p.dh ++ p.esn).length :=
      List.length_map _
    have hstep := parseProposals_step f (if rest.isEmpty = true then 0 else 2) _ _ p.num p.proto _
      (UInt8.ofNat (PLib.canonical p).emitted.length)
      p.spi td tl (p.encr ++ p.prf ++ p.integ ++ p.dh ++ p.esn) rest
      (toNat_ofNat_u8 _ (Nat.le_of_not_lt hspi))
      (octets16_toNat (8 + p.spi.length + td.length) (Nat.le_of_not_lt hlen))
      (by simp only [List.isEmpty_iff, encodeProposals_nil_iff _ _ _ hr])
      (parseTransforms_encode _ (proposal_transforms_dom hpd) td hts _ (by simp only [List.length_append]; omega))
      (by rw [toNat_ofNat_u8 _ (Nat.le_of_not_lt h255)]; exact hem.symm)
      (fun hc => hne (by rw [← toNat_ofNat_u8 _ (Nat.le_of_not_lt h255), hc]; rfl))
      (by rw [o1, o2, o3, o4, o5]) hrec
    rw [o1, o2, o3, o4, o5] at hstep
    rw [put16_ofNat _ (by omega)]
    simp only [PLib.canonical, List.cons_append, List.nil_append] at hstep ⊢
    exact hstep

theorem encodeProposals_parse (fuel : Nat) (bs : Bytes) (ps : List Proposal)
    (h : parseProposals fuel bs = some ps) : encodeProposals [] ps = .ok bs := by
  induction fuel generalizing bs ps with
  | zero => cases h
  | succ f ih =>
    unfold parseProposals at h
    split at h
    · cases h; rfl
    · rename_i m r l0 l1 num proto ss nt rest
      dsimp only at h
      peel h with hres
      peel h with hlen
      peel h with hm
      split at h
      · rename_i ts ps' hpt hpp
        peel h with hcnt
        peel h with hsorted
        cases h
        obtain rfl : r = 0 := Decidable.not_not.mp hres
        have hl0 := l0.toNat_lt
        have hl1 := l1.toNat_lt
        have hss := ss.toNat_lt
        have hntlt := nt.toNat_lt
        obtain ⟨hnt, hnt0⟩ := count_accept hcnt
        -- the proposal body: `n` octets, SPI ‖ transforms
        obtain ⟨n, hL⟩ : ∃ n, l0.toNat * 256 + l1.toNat = 8 + n :=
          Nat.exists_eq_add_of_le (Nat.le_trans (Nat.le_add_right 8 _) (Nat.le_of_not_lt fun hc => hlen (Or.inl hc)))
        simp only [hL, Nat.add_sub_cancel_left] at hlen hm hpt hpp ⊢
        have hsz : n ≤ rest.length ∧ min n rest.length = n ∧ min ss.toNat n = ss.toNat ∧
            8 + ss.toNat + (n - ss.toNat) = 8 + n ∧ ¬ ss.toNat > 255 ∧ ¬ nt.toNat > 255 ∧ ¬ 8 + n > 65535 := by omega
        clear hlen hcnt hl0 hl1 hss hntlt
        obtain ⟨hn, e1, e2, e3, b1, b2, b3⟩ := hsz
        have hbody : (rest.take n).length = n := by rw [List.length_take, e1]
        have hspi : ((rest.take n).take ss.toNat).length = ss.toNat := by rw [List.length_take, hbody, e2]
        have htd : 8 + ss.toNat + ((rest.take n).drop ss.toNat).length = 8 + n := by rw [List.length_drop, hbody, e3]
        have hrec := ih _ _ hpp
        have hmk : (if ps'.isEmpty = true then (0 : UInt8) else 2) = m := by
          simp only [Decidable.not_not.mp hm, List.isEmpty_iff, encodeProposals_nil_iff _ _ _ hrec, drop_eq_nil_iff_length_eq rest _ hn]
        have hcan : PLib.canonical ⟨num, proto, (rest.take n).take ss.toNat, ofType 1 ts, ofType 2 ts, ofType 3 ts,
            ofType 4 ts, ofType 5 ts⟩ = ⟨0, emitC ts⟩ := by
          simp only [PLib.canonical, Decidable.not_not.mp hsorted]
        rw [encodeProposals_nil_cons, hrec, hcan]
        unfold encodeProposal
        simp only [hspi, List.length_map, hnt]
        rw [if_neg b1, if_neg hnt0, if_neg b2, encodeTransforms_parse _ _ _ hpt]
        simp only [Res.bind_ok]
        rw [htd, if_neg b3, ← hL, put16_pair, UInt8.ofNat_toNat, UInt8.ofNat_toNat, hmk]
        simp only [Res.bind_ok, List.cons_append, List.nil_append, List.take_append_drop]
      · cases h
    · cases h

theorem parseSelectors_step (fuel alen : Nat) (t p l0 l1 s0 s1 e0 e1 : UInt8) (sa ea tl : Bytes) (ts : List TSel)
    (halen : alen = if t = 7 then 4 else if t = 8 then 16 else 0) (h0 : alen ≠ 0)
    (hl : l0.toNat * 256 + l1.toNat = 8 + 2 * alen) (hsa : sa.length = alen) (hea : ea.length = alen)
    (hp : parseSelectors fuel tl = some ts) :
    parseSelectors (fuel + 1) (t :: p :: l0 :: l1 :: s0 :: s1 :: e0 :: e1 :: (sa ++ (ea ++ tl))) =
      some (⟨t, p, be16 s0 s1, be16 e0 e1, sa, ea⟩ :: ts) := by
  unfold parseSelectors
  simp only [← halen, hl]
  rw [if_neg h0, if_neg (not_not_intro rfl), if_neg (by simp only [List.length_append, hsa, hea]; omega),
    List.take_left' hsa, List.drop_left' hsa, List.take_left' hea, ← List.append_assoc,
    List.drop_left' (by rw [List.length_append, hsa, hea, Nat.two_mul]), hp]

/-- the address length of a selector type (4 for type 7, 16 for type 8, 0 for any other) is at most 16 -/
theorem alen_le (t : UInt8) : (if t = 7 then 4 else if t = 8 then 16 else 0) ≤ 16 := by
  split
  · decide
  · split <;> decide

theorem parseSelectors_encode (l : List TSel) (bs : Bytes) (h : encodeSelectors l = .ok bs)
    (fuel : Nat) (hf : bs.length < fuel) : parseSelectors fuel bs = some l := by
  induction l generalizing bs fuel with
  | nil =>
    cases h
    obtain ⟨f, rfl⟩ := Nat.exists_eq_add_one_of_ne_zero (Nat.ne_zero_of_lt hf)
    rfl
  | cons t rest ih =>
    obtain ⟨hb, hh, h⟩ := Res.bind_eq_ok h
    obtain ⟨tl, hr, h⟩ := Res.bind_eq_ok h
    cases h
    unfold encodeSelector at hh
    generalize hA : (if t.tstype = 7 then 4 else if t.tstype = 8 then 16 else 0) = alen at hh
    have hal : alen ≤ 16 := hA ▸ alen_le t.tstype
    obtain ⟨h0, hh⟩ := Res.ite_err_eq_ok hh
    obtain ⟨hsa, hh⟩ := Res.ite_err_eq_ok hh
    obtain ⟨hea, hh⟩ := Res.ite_err_eq_ok hh
    cases hh
    obtain ⟨f, rfl⟩ := Nat.exists_eq_add_one_of_ne_zero (Nat.ne_zero_of_lt hf)
    have hsa := Decidable.not_not.mp hsa
    have hea := Decidable.not_not.mp hea
    rw [put16_ofNat _ (by omega)]
    simp only [put16, List.cons_append, List.nil_append, List.append_assoc]
    refine (parseSelectors_step f alen _ _ _ _ _ _ _ _ _ _ tl rest hA.symm h0 ?_ hsa hea
      (ih tl hr f (by simp only [List.length_append, List.length_cons] at hf; omega))).trans ?_
    · rw [octets16_toNat (8 + t.saddr.length + t.eaddr.length) (by omega), hsa, hea]; omega
    · rw [be16_put, be16_put]

theorem parseSelectors_nonempty (fuel : Nat) (b : Bytes) (ts : List TSel)
    (h : parseSelectors fuel b = some ts) : ts.length ≤ b.length := by
  induction fuel generalizing b ts with
  | zero => cases h
  | succ f ih =>
    unfold parseSelectors at h
    split at h
    · cases h; exact Nat.le_refl _
    · dsimp only at h
      peel h with h0
      peel h with h1
      peel h with h2
      split at h
      · rename_i ts' hp
        cases h
        have := ih _ _ hp
        rw [List.length_drop] at this
        simp only [List.length_cons]
        omega
      · cases h
    · cases h

theorem encodeSelectors_parse (fuel : Nat) (bs : Bytes) (l : List TSel)
    (h : parseSelectors fuel bs = some l) : encodeSelectors l = .ok bs := by
  induction fuel generalizing bs l with
  | zero => cases h
  | succ f ih =>
    unfold parseSelectors at h
    split at h
    · cases h; rfl
    · rename_i t p l0 l1 s0 s1 e0 e1 rest
      dsimp only at h
      generalize hA : (if t = 7 then 4 else if t = 8 then 16 else 0) = alen at h
      have hal : alen ≤ 16 := hA ▸ alen_le t
      peel h with h0
      peel h with hl
      peel h with hlen
      split at h
      · rename_i ts' hp
        cases h
        have hsz : min alen rest.length = alen ∧ min alen (rest.length - alen) = alen ∧
            8 + alen + alen = l0.toNat * 256 + l1.toNat := by omega
        have hsa : (rest.take alen).length = alen := by rw [List.length_take, hsz.1]
        have hea : ((rest.drop alen).take alen).length = alen := by rw [List.length_take, List.length_drop, hsz.2.1]
        have hsplit : rest.take alen ++ ((rest.drop alen).take alen ++ rest.drop (2 * alen)) = rest := by
          rw [Nat.two_mul, ← List.drop_drop, List.take_append_drop, List.take_append_drop]
        simp only [encodeSelectors]
        rw [ih _ _ hp]
        unfold encodeSelector
        simp only [hA, hsa, hea]
        rw [if_neg h0, if_neg (not_not_intro rfl), if_neg (not_not_intro rfl),
          hsz.2.2, put16_pair, put16_be16, put16_be16]
        simp only [Res.bind_ok, List.cons_append, List.nil_append, List.append_assoc, hsplit]
      · cases h
    · cases h

theorem parseTS_encode (mk : List TSel → Payload) (l : List TSel) (bs : Bytes) (h : encodeTS 0 0 0 l = .ok bs) :
    parseTS mk bs = some (mk l) := by
  obtain ⟨h0, h⟩ := Res.ite_err_eq_ok h
  obtain ⟨h255, h⟩ := Res.ite_err_eq_ok h
  obtain ⟨body, hs, h⟩ := Res.bind_eq_ok h
  cases h
  simp only [List.cons_append, List.nil_append, parseTS]
  rw [if_neg (by simp), parseSelectors_encode l body hs _ (Nat.lt_succ_self _)]
  simp only
  have hn := toNat_ofNat_u8 _ (Nat.le_of_not_lt h255)
  rw [if_neg fun hc => hc.elim (fun hc => hc hn.symm) fun hc => h0 (by rw [← hn, hc]; rfl)]

theorem encodeTS_parse (mk : List TSel → Payload) (c : UInt8)
    (hmk : ∀ l, encodeBody {} (mk l) = encodeTS 0 0 0 l ∧ payloadType (mk l) = c) (bs : Bytes) (p : Payload)
    (h : parseTS mk bs = some p) : encodeBody {} p = .ok bs ∧ payloadType p = c := by
  unfold parseTS at h
  split at h
  · rename_i n r0 r1 r2 rest
    peel h with hres
    simp only [not_or, Decidable.not_not] at hres
    obtain ⟨rfl, rfl, rfl⟩ := hres
    split at h
    · rename_i ts hp
      peel h with hcnt
      cases h
      obtain ⟨hnt, hn0⟩ := count_accept hcnt
      have hn := n.toNat_lt
      refine ⟨(hmk ts).1.trans ?_, (hmk ts).2⟩
      unfold encodeTS
      rw [if_neg (by omega), if_neg (by omega), encodeSelectors_parse _ _ _ hp, hnt, UInt8.ofNat_toNat]
      rfl
    · cases h
  · cases h

theorem encodeCPAttrs_nil_cons (a : CPAttr) (rest : List CPAttr) :
    encodeCPAttrs [] (a :: rest) =
      (if a.atype.toNat ≥ 32768 then .err else
       if a.value.length > 65535 then .err else
         encodeCPAttrs [] rest >>= fun tl =>
         .ok (put16 (UInt16.ofNat (0 + a.atype.toNat)) ++ put16 (UInt16.ofNat a.value.length) ++ a.value ++ tl)) := rfl

theorem parseCPAttrs_encode (l : List CPAttr) (bs : Bytes) (h : encodeCPAttrs [] l = .ok bs)
    (fuel : Nat) (hf : bs.length < fuel) : parseCPAttrs fuel bs = some l := by
  induction l generalizing bs fuel with
  | nil =>
    cases h
    obtain ⟨f, rfl⟩ := Nat.exists_eq_add_one_of_ne_zero (Nat.ne_zero_of_lt hf)
    rfl
  | cons a rest ih =>
    rw [encodeCPAttrs_nil_cons] at h
    obtain ⟨hty, h⟩ := Res.ite_err_eq_ok h
    obtain ⟨hv, h⟩ := Res.ite_err_eq_ok h
    obtain ⟨tl, hr, h⟩ := Res.bind_eq_ok h
    cases h
    obtain ⟨f, rfl⟩ := Nat.exists_eq_add_one_of_ne_zero (Nat.ne_zero_of_lt hf)
    have hrec := ih tl hr f (by simp only [List.length_append, put16_length] at hf; omega)
    have hv' : a.value.length ≤ 65535 := Nat.le_of_not_lt hv
    rw [Nat.zero_add, put16_ofNat _ (by omega), put16_ofNat _ hv']
    simp only [List.cons_append, List.nil_append]
    unfold parseCPAttrs
    simp only [octets16_toNat a.value.length hv']
    rw [if_neg (by rw [toNat_ofNat_u8 _ (by omega)]; omega), if_neg (by rw [List.length_append]; omega),
      List.drop_left, hrec, List.take_left, be16_put]

theorem encodeCPAttrs_parse (fuel : Nat) (bs : Bytes) (l : List CPAttr)
    (h : parseCPAttrs fuel bs = some l) : encodeCPAttrs [] l = .ok bs := by
  induction fuel generalizing bs l with
  | zero => cases h
  | succ f ih =>
    unfold parseCPAttrs at h
    split at h
    · cases h; rfl
    · rename_i a0 a1 l0 l1 rest
      dsimp only at h
      peel h with h128
      peel h with hlen
      split at h
      · rename_i as hp
        cases h
        have ha1 := a1.toNat_lt
        have hl0 := l0.toNat_lt
        have hl1 := l1.toNat_lt
        have hv : (rest.take (l0.toNat * 256 + l1.toNat)).length = l0.toNat * 256 + l1.toNat :=
          List.length_take_of_le (Nat.le_of_not_lt hlen)
        rw [encodeCPAttrs_nil_cons, ih _ _ hp]
        simp only [be16_toNat, hv, Nat.zero_add]
        rw [if_neg (by omega), if_neg (by omega), put16_pair, put16_pair]
        simp only [Res.bind_ok, List.cons_append, List.nil_append, List.take_append_drop]
      · cases h
    · cases h

theorem parseCP_encode (ct : UInt8) (l : List CPAttr) (bs : Bytes) (h : encodeCP 0 0 0 [] ct l = .ok bs) :
    parseCP bs = some (.cp ct l) := by
  obtain ⟨body, hs, h⟩ := Res.bind_eq_ok h
  cases h
  simp only [List.cons_append, List.nil_append, parseCP]
  rw [if_neg (by simp), parseCPAttrs_encode l body hs _ (Nat.lt_succ_self _)]

theorem encodeCP_parse (bs : Bytes) (p : Payload) (h : parseCP bs = some p) :
    encodeBody {} p = .ok bs ∧ payloadType p = 47 := by
  unfold parseCP at h
  split at h
  · rename_i ct r0 r1 r2 rest
    peel h with hres
    simp only [not_or, Decidable.not_not] at hres
    obtain ⟨rfl, rfl, rfl⟩ := hres
    split at h
    · rename_i as hp
      cases h
      refine ⟨?_, rfl⟩
      show encodeCP 0 0 0 [] ct as = _
      unfold encodeCP
      rw [encodeCPAttrs_parse _ _ _ hp]
      rfl
    · cases h
  · cases h

theorem parseKE_encode (g : UInt16) (d : Bytes) : parseKE (encodeKE 0 0 g d) = some (.ke g d) := by
  simp only [encodeKE, put16, List.cons_append, List.nil_append, parseKE]
  rw [if_neg (by simp), be16_put]

theorem encodeKE_parse (bs : Bytes) (p : Payload) (h : parseKE bs = some p) :
    encodeBody {} p = .ok bs ∧ payloadType p = 34 := by
  unfold parseKE at h
  split at h
  · rename_i g0 g1 r0 r1 d
    peel h with hres
    cases h
    simp only [not_or, Decidable.not_not] at hres
    obtain ⟨rfl, rfl⟩ := hres
    refine ⟨?_, rfl⟩
    simp only [encodeBody, encodeKE, put16_be16, List.cons_append, List.nil_append]
  · cases h

theorem parseTypeRes3_encode (mk : UInt8 → Bytes → Payload) (t : UInt8) (d : Bytes) :
    parseTypeRes3 mk (encodeTypeRes3 0 0 0 t d) = some (mk t d) := by
  simp only [encodeTypeRes3, List.cons_append, List.nil_append, parseTypeRes3]
  rw [if_neg (by simp)]

theorem encodeTypeRes3_parse (mk : UInt8 → Bytes → Payload) (c : UInt8)
    (hmk : ∀ t d, encodeBody {} (mk t d) = .ok (encodeTypeRes3 0 0 0 t d) ∧ payloadType (mk t d) = c)
    (bs : Bytes) (p : Payload) (h : parseTypeRes3 mk bs = some p) : encodeBody {} p = .ok bs ∧ payloadType p = c := by
  unfold parseTypeRes3 at h
  split at h
  · rename_i t r0 r1 r2 d
    peel h with hres
    simp only [not_or, Decidable.not_not] at hres
    obtain ⟨rfl, rfl, rfl⟩ := hres
    cases h
    exact hmk t d
  · cases h

theorem parseCert_encode (mk : UInt8 → Bytes → Payload) (e : UInt8) (d : Bytes) :
    parseCert mk (encodeCert e d) = some (mk e d) := rfl

theorem encodeCert_parse (mk : UInt8 → Bytes → Payload) (c : UInt8)
    (hmk : ∀ e d, encodeBody {} (mk e d) = .ok (encodeCert e d) ∧ payloadType (mk e d) = c)
    (bs : Bytes) (p : Payload) (h : parseCert mk bs = some p) : encodeBody {} p = .ok bs ∧ payloadType p = c := by
  unfold parseCert at h
  split at h
  · rename_i e d
    cases h
    exact hmk e d
  · cases h

theorem parseNotify_encode (pr : UInt8) (nt : UInt16) (spi d : Bytes) (bs : Bytes)
    (h : encodeNotify pr nt spi d = .ok bs) : parseNotify bs = some (.notify pr nt spi d) := by
  obtain ⟨hspi, h⟩ := Res.ite_err_eq_ok h
  cases h
  simp only [put16, List.cons_append, List.nil_append, parseNotify]
  rw [toNat_ofNat_u8 _ (Nat.le_of_not_lt hspi), if_neg (by rw [List.length_append]; omega), be16_put, List.take_left,
    List.drop_left]

theorem encodeNotify_parse (bs : Bytes) (p : Payload) (h : parseNotify bs = some p) :
    encodeBody {} p = .ok bs ∧ payloadType p = 41 := by
  unfold parseNotify at h
  split at h
  · rename_i pr ss t0 t1 rest
    peel h with hlen
    cases h
    refine ⟨?_, rfl⟩
    have hss := ss.toNat_lt
    show encodeNotify _ _ _ _ = _
    unfold encodeNotify
    rw [List.length_take_of_le (Nat.le_of_not_lt hlen), if_neg (by omega), UInt8.ofNat_toNat, put16_be16]
    simp only [List.cons_append, List.nil_append, List.take_append_drop]
  · cases h

theorem read32s_flatten (spis : List UInt32) : read32s ((spis.map put32).flatten) = spis := by
  induction spis with
  | nil => rfl
  | cons v rest ih =>
    simp only [List.map_cons, List.flatten_cons, put32, List.cons_append, List.nil_append, read32s]
    rw [ih, be32_put]

/-- `4 * n` octets are read as `n` values, and writing these gives the octets again -/
theorem flatten_read32s (n : Nat) (b : Bytes) (h : b.length = 4 * n) :
    (read32s b).length = n ∧ ((read32s b).map put32).flatten = b := by
  induction n generalizing b with
  | zero =>
    have : b = [] := List.eq_nil_of_length_eq_zero (by omega)
    subst this
    exact ⟨rfl, rfl⟩
  | succ k ih =>
    match b, h with
    | a :: b1 :: c :: d :: rest, h =>
      have hr : rest.length = 4 * k := by simp only [List.length_cons] at h; omega
      obtain ⟨h1, h2⟩ := ih rest hr
      simp only [read32s, List.length_cons, List.map_cons, List.flatten_cons, put32_be32, h1, h2]
      exact ⟨trivial, rfl⟩
    | [], h | [_], h | [_, _], h | [_, _, _], h => simp only [List.length_cons, List.length_nil] at h; omega

theorem length_flatten_put32 (spis : List UInt32) : ((spis.map put32).flatten).length = 4 * spis.length := by
  induction spis with
  | nil => rfl
  | cons v rest ih =>
    rw [List.map_cons, List.flatten_cons, List.length_append, ih, List.length_cons, Nat.mul_succ, Nat.add_comm]
    rfl

theorem parseDelete_encode (pr ss : UInt8) (n : UInt16) (spis : List UInt32) (bs : Bytes)
    (h : encodeDelete pr ss n spis = .ok bs) : parseDelete bs = some (.delete pr ss n spis) := by
  obtain ⟨hn, h⟩ := Res.ite_err_eq_ok h
  obtain ⟨hs, h⟩ := Res.ite_err_eq_ok h
  cases h
  have hn := Decidable.not_not.mp hn
  have hnl := n.toNat_lt
  simp only [put16, List.cons_append, List.nil_append, parseDelete]
  rw [octets16_toNat n.toNat (by omega), if_neg (not_not_intro (by rw [length_flatten_put32, hn])), if_neg, be16_put,
    read32s_flatten]
  exact fun hc => hs ⟨fun he => hc.1 (by rw [hn, he]; rfl), hc.2⟩

theorem encodeDelete_parse (bs : Bytes) (p : Payload) (h : parseDelete bs = some p) :
    encodeBody {} p = .ok bs ∧ payloadType p = 42 := by
  unfold parseDelete at h
  split at h
  · rename_i pr ss n0 n1 rest
    dsimp only at h
    peel h with hlen
    peel h with hss
    cases h
    refine ⟨?_, rfl⟩
    obtain ⟨h1, h2⟩ := flatten_read32s _ rest (Decidable.not_not.mp hlen)
    show encodeDelete _ _ _ _ = _
    unfold encodeDelete
    rw [be16_toNat, h1, if_neg (not_not_intro rfl), if_neg, h2, put16_be16]
    · rfl
    · exact fun hc => hss ⟨fun h0 => hc.1 (List.eq_nil_of_length_eq_zero (h1.trans h0)), hc.2⟩
  · cases h

theorem parseEAP_encode (e : Eap) (hd : DomEap e) (bs : Bytes) (h : marshalEap e = .ok bs) :
    parseEAP bs = some (.eap e) := by
  unfold parseEAP
  rw [rt_eap_payload e bs hd h]
  simp only
  rw [if_pos h]

theorem encodeEAP_parse (bs : Bytes) (p : Payload) (h : parseEAP bs = some p) :
    ∃ e, p = .eap e ∧ marshalEap e = .ok bs := by
  unfold parseEAP at h
  split at h
  · rename_i e he
    split at h
    · rename_i hm
      cases h
      exact ⟨e, rfl, hm⟩
    · cases h
  · cases h

theorem parseBody_encode (p : Payload) (hd : p.Dom) (b : Bytes) (h : encodeBody {} p = .ok b) :
    parseBody (payloadType p) b = some p := by
  cases p with
  | sa ps =>
    show (parseProposals (b.length + 1) b).map Payload.sa = _
    rw [parseProposals_encode ps hd b h _ (Nat.lt_succ_self _)]
    rfl
  | ke g d => cases h; exact parseKE_encode g d
  | idi t d => cases h; exact parseTypeRes3_encode .idi t d
  | idr t d => cases h; exact parseTypeRes3_encode .idr t d
  | cert t d => cases h; rfl
  | certreq t d => cases h; rfl
  | auth t d => cases h; exact parseTypeRes3_encode .auth t d
  | nonce d => cases h; rfl
  | notify pr nt spi d => exact parseNotify_encode pr nt spi d b h
  | delete pr s n spis => exact parseDelete_encode pr s n spis b h
  | vendor d => cases h; rfl
  | tsi l => exact parseTS_encode .tsi l b h
  | tsr l => exact parseTS_encode .tsr l b h
  | sk n d => cases h
  | cp ct attrs => exact parseCP_encode ct attrs b h
  | eap e => exact parseEAP_encode e hd b h

/-- one row of the §3.2 table of payload types: either this row's parser produced `p`, or look further down -/
theorem parseBody_row {t c : UInt8} {x y : Option Payload} {p : Payload} {b : Bytes}
    (h : (if t = c then x else y) = some p)
    (hx : x = some p → encodeBody {} p = .ok b ∧ payloadType p = c)
    (hy : y = some p → encodeBody {} p = .ok b ∧ payloadType p = t) :
    encodeBody {} p = .ok b ∧ payloadType p = t := by
  by_cases hc : t = c
  · rw [if_pos hc] at h; exact hc ▸ hx h
  · rw [if_neg hc] at h; exact hy h

theorem encodeBody_parse (t : UInt8) (b : Bytes) (p : Payload) (h : parseBody t b = some p) :
    encodeBody {} p = .ok b ∧ payloadType p = t := by
  unfold parseBody at h
  refine parseBody_row h (fun h => ?_) fun h => ?_
  · obtain ⟨ps, hp, rfl⟩ := Option.map_eq_some_iff.mp h
    exact ⟨encodeProposals_parse _ _ _ hp, rfl⟩
  refine parseBody_row h (encodeKE_parse b p) fun h => ?_
  refine parseBody_row h (encodeTypeRes3_parse .idi 35 (fun _ _ => ⟨rfl, rfl⟩) b p) fun h => ?_
  refine parseBody_row h (encodeTypeRes3_parse .idr 36 (fun _ _ => ⟨rfl, rfl⟩) b p) fun h => ?_
  refine parseBody_row h (encodeCert_parse .cert 37 (fun _ _ => ⟨rfl, rfl⟩) b p) fun h => ?_
  refine parseBody_row h (encodeCert_parse .certreq 38 (fun _ _ => ⟨rfl, rfl⟩) b p) fun h => ?_
  refine parseBody_row h (encodeTypeRes3_parse .auth 39 (fun _ _ => ⟨rfl, rfl⟩) b p) fun h => ?_
  refine parseBody_row h (fun h => by cases h; exact ⟨rfl, rfl⟩) fun h => ?_
  refine parseBody_row h (encodeNotify_parse b p) fun h => ?_
  refine parseBody_row h (encodeDelete_parse b p) fun h => ?_
  refine parseBody_row h (fun h => by cases h; exact ⟨rfl, rfl⟩) fun h => ?_
  refine parseBody_row h (encodeTS_parse .tsi 44 (fun _ => ⟨rfl, rfl⟩) b p) fun h => ?_
  refine parseBody_row h (encodeTS_parse .tsr 45 (fun _ => ⟨rfl, rfl⟩) b p) fun h => ?_
  refine parseBody_row h (encodeCP_parse b p) fun h => ?_
  refine parseBody_row h (fun h => ?_) fun h => nomatch h
  obtain ⟨e, rfl, he⟩ := encodeEAP_parse b p h
  exact ⟨he, rfl⟩

theorem encodePayloads_nil_cons (p : Payload) (rest : List Payload) :
    encodePayloads [] (p :: rest) =
      (encodeBody {} p >>= fun body =>
        if 4 + body.length > 65535 then .err else
          encodePayloads [] rest >>= fun tl =>
          .ok ([firstPayloadType rest, 0] ++ put16 (UInt16.ofNat (4 + body.length)) ++ body ++ tl)) := rfl

theorem parseChain_encode (ps : List Payload) (hd : ∀ p ∈ ps, p.Dom) (bs : Bytes)
    (h : encodePayloads [] ps = .ok bs) (fuel : Nat) (hf : bs.length < fuel) :
    parseChain fuel (firstPayloadType ps) bs = some ps := by
  induction ps generalizing bs fuel with
  | nil =>
    cases h
    obtain ⟨f, rfl⟩ := Nat.exists_eq_add_one_of_ne_zero (Nat.ne_zero_of_lt hf)
    rfl
  | cons p rest ih =>
    rw [encodePayloads_nil_cons] at h
    obtain ⟨body, hb, h⟩ := Res.bind_eq_ok h
    obtain ⟨hlen, h⟩ := Res.ite_err_eq_ok h
    obtain ⟨tl, hr, h⟩ := Res.bind_eq_ok h
    cases h
    obtain ⟨f, rfl⟩ := Nat.exists_eq_add_one_of_ne_zero (Nat.ne_zero_of_lt hf)
    have hrec := ih (fun q hq => hd q (List.mem_cons_of_mem _ hq)) tl hr f
      (by simp only [List.length_append, put16_length] at hf; omega)
    have hlen' : 4 + body.length ≤ 65535 := Nat.le_of_not_lt hlen
    rw [put16_ofNat _ hlen']
    show parseChain (f + 1) (payloadType p) _ = _
    simp only [List.cons_append, List.nil_append]
    unfold parseChain
    rw [if_neg (payloadType_ne_zero p)]
    simp only [octets16_toNat (4 + body.length) hlen']
    rw [if_neg (not_not_intro rfl), if_neg (by rw [List.length_append]; omega), take_frame, drop_frame,
      parseBody_encode p (hd p List.mem_cons_self) body hb, hrec]

theorem encodePayloads_parse (fuel : Nat) (t : UInt8) (bs : Bytes) (ps : List Payload)
    (h : parseChain fuel t bs = some ps) : encodePayloads [] ps = .ok bs ∧ firstPayloadType ps = t := by
  induction fuel generalizing t bs ps with
  | zero => cases h
  | succ f ih =>
    unfold parseChain at h
    by_cases ht : t = 0
    · rw [if_pos ht] at h
      by_cases hb : bs = []
      · rw [if_pos hb] at h
        cases h
        exact ⟨hb ▸ rfl, ht.symm⟩
      · rw [if_neg hb] at h; cases h
    · rw [if_neg ht] at h
      split at h
      · rename_i nx fl l0 l1 rest
        dsimp only at h
        peel h with hfl
        peel h with hlen
        obtain rfl : fl = 0 := Decidable.not_not.mp hfl
        split at h
        · rename_i p ps' hpb hpc
          cases h
          obtain ⟨hrec, hnx⟩ := ih _ _ _ hpc
          obtain ⟨hbody, hty⟩ := encodeBody_parse _ _ _ hpb
          have hl0 := l0.toNat_lt
          have hl1 := l1.toNat_lt
          have hbl : (rest.take (l0.toNat * 256 + l1.toNat - 4)).length = l0.toNat * 256 + l1.toNat - 4 :=
            List.length_take_of_le (Nat.le_of_not_lt fun hc => hlen (Or.inr hc))
          refine ⟨?_, hty⟩
          rw [encodePayloads_nil_cons, hbody, hrec]
          simp only [Res.bind_ok, hbl]
          rw [show 4 + (l0.toNat * 256 + l1.toNat - 4) = l0.toNat * 256 + l1.toNat by omega, if_neg (by omega),
            put16_pair, hnx]
          simp only [List.cons_append, List.nil_append, List.take_append_drop]
        · cases h
      · cases h

/-- a datagram of at least 28 octets, cut along the fields of the header figure -/
theorem header_cut (b : Bytes) (h : 28 ≤ b.length) :
    b = b.take 8 ++ (b.drop 8).take 8 ++ [byteAt b 16, byteAt b 17, byteAt b 18, byteAt b 19] ++
      (b.drop 20).take 4 ++ (b.drop 24).take 4 ++ b.drop 28 := by
  have e2 : b.drop 8 = (b.drop 8).take 8 ++ b.drop 16 := drop_eq_take_append b 8 8
  have e3 : b.drop 16 = _ ++ b.drop 20 := (drop_eq_take_append b 16 4).trans (by rw [take4_drop b 16 (by omega)])
  have e4 : b.drop 20 = (b.drop 20).take 4 ++ b.drop 24 := drop_eq_take_append b 20 4
  have e5 : b.drop 24 = (b.drop 24).take 4 ++ b.drop 28 := drop_eq_take_append b 24 4
  simp only [List.append_assoc]
  rw [← e5, ← e4, ← e3, ← e2, List.take_append_drop]

theorem readHeader_version (b : Bytes) : (readHeader b).major.toNat < 16 ∧ (readHeader b).minor.toNat < 16 := by
  have hv : (byteAt b 17).toNat < 16 * 16 := (byteAt b 17).toNat_lt
  constructor
  · show (UInt8.ofNat ((byteAt b 17).toNat / 16)).toNat < 16
    rw [UInt8.toNat_ofNat']
    exact Nat.lt_of_le_of_lt (Nat.mod_le _ _) (Nat.div_lt_of_lt_mul hv)
  · show (UInt8.ofNat ((byteAt b 17).toNat % 16)).toNat < 16
    rw [UInt8.toNat_ofNat']
    exact Nat.lt_of_le_of_lt (Nat.mod_le _ _) (Nat.mod_lt _ (by decide))

/-- the header reader on the octets of the header figure followed by anything -/
theorem readHeader_fields (i r : UInt64) (n v e f : UInt8) (mid L : UInt32) (rest : Bytes) :
    readHeader (put64 i ++ put64 r ++ [n, v, e, f] ++ put32 mid ++ put32 L ++ rest) =
      { ispi := i, rspi := r, major := UInt8.ofNat (v.toNat / 16), minor := UInt8.ofNat (v.toNat % 16),
        exch := e, flags := f, mid := mid, next := n, payloadBytes := rest } ∧
    beNat ((List.drop 24 (put64 i ++ put64 r ++ [n, v, e, f] ++ put32 mid ++ put32 L ++ rest)).take 4) = L.toNat := by
  simp only [List.append_assoc, List.cons_append, List.nil_append]
  generalize hb : put64 i ++ (put64 r ++ (n :: v :: e :: f :: (put32 mid ++ (put32 L ++ rest)))) = b
  have d8 : b.drop 8 = _ := hb ▸ drop_prefix_eq (put64 i) _ 8 rfl
  have d16 : b.drop 16 = _ := drop_add d8 (drop_prefix_eq (put64 r) _ 8 rfl)
  have d20 : b.drop 20 = put32 mid ++ (put32 L ++ rest) := drop_add (k := 4) d16 rfl
  have d24 : b.drop 24 = _ := drop_add d20 (drop_prefix_eq (put32 mid) _ 4 rfl)
  have d28 : b.drop 28 = _ := drop_add d24 (drop_prefix_eq (put32 L) _ 4 rfl)
  simp only [readHeader, d8, d20, d24, d28]
  rw [← hb, be64_put64, be64_put64, take_prefix_eq (put32 mid) _ 4 rfl, take_prefix_eq (put32 L) _ 4 rfl, beNat_put32,
    beNat_put32, UInt32.ofNat_toNat]
  exact ⟨rfl, rfl⟩

theorem readHeader_encodeHeader (h : Header) (first : UInt8) (hb rest : Bytes)
    (he : encodeHeader h first rest.length = .ok hb) :
    readHeader (hb ++ rest) = { h with next := first, payloadBytes := rest } ∧
    beNat (((hb ++ rest).drop 24).take 4) = (hb ++ rest).length ∧ 28 ≤ (hb ++ rest).length := by
  obtain ⟨hmaj, he⟩ := Res.ite_err_eq_ok he
  obtain ⟨hmin, he⟩ := Res.ite_err_eq_ok he
  obtain ⟨hlen, he⟩ := Res.ite_err_eq_ok he
  cases he
  obtain ⟨hvmaj, hvmin⟩ := version_nibbles h.major h.minor (by omega) (by omega)
  obtain ⟨hr, hL⟩ := readHeader_fields h.ispi h.rspi first (UInt8.ofNat (16 * h.major.toNat + h.minor.toNat)) h.exch
    h.flags h.mid (UInt32.ofNat (28 + rest.length)) rest
  have hl : (put64 h.ispi ++ put64 h.rspi ++ [first, UInt8.ofNat (16 * h.major.toNat + h.minor.toNat), h.exch, h.flags] ++
      put32 h.mid ++ put32 (UInt32.ofNat (28 + rest.length)) ++ rest).length = 28 + rest.length := by
    simp only [List.length_append, put64_length, put32_length, List.length_cons, List.length_nil]
  rw [hr, hL, hl, hvmaj, hvmin, toNat_ofNat_u32 _ (by omega)]
  exact ⟨rfl, rfl, Nat.le_add_right _ _⟩

theorem encodeHeader_readHeader (b : Bytes) (h28 : 28 ≤ b.length) (hL : beNat ((b.drop 24).take 4) = b.length) :
    ∃ hb, encodeHeader (readHeader b) (byteAt b 16) (b.drop 28).length = .ok hb ∧ hb ++ b.drop 28 = b := by
  have hv : (byteAt b 17).toNat < 16 * 16 := (byteAt b 17).toNat_lt
  have h4 : ((b.drop 24).take 4).length = 4 := by rw [take4_drop b 24 h28]; rfl
  have h4' : ((b.drop 20).take 4).length = 4 := by rw [take4_drop b 20 (Nat.le_trans (by decide) h28)]; rfl
  obtain ⟨hmaj, hmin⟩ := readHeader_version b
  refine ⟨_, ?_, (header_cut b h28).symm⟩
  unfold encodeHeader
  rw [if_neg (Nat.not_le_of_lt hmaj), if_neg (Nat.not_le_of_lt hmin), List.length_drop, Nat.add_sub_cancel' h28, ← hL,
    if_neg (Nat.not_le_of_lt (beNat_lt4 _ h4))]
  simp only [readHeader]
  rw [toNat_ofNat_u8 _ (by omega), toNat_ofNat_u8 _ (by omega), Nat.div_add_mod, UInt8.ofNat_toNat, put32_beNat _ h4,
    put32_beNat _ h4', put64_be64 _ (Nat.le_trans (by decide) h28),
    put64_be64 _ (by rw [List.length_drop]; omega)]

/-- `Spec.parse` unfolded: size and Length checks, the header record (which is `readHeader b`), the chain.
That parser and encoder are inverse is `parse_encode` / `encode_parse`. -/
theorem parse_eq_some_iff (b : Bytes) (m : Msg) :
    Spec.parse b = some m ↔
      28 ≤ b.length ∧ beNat ((b.drop 24).take 4) = b.length ∧ m.hdr = readHeader b ∧
      parseChain (b.length + 1) (byteAt b 16) (b.drop 28) = some m.payloads := by
  unfold Spec.parse
  constructor
  · intro h
    peel h with h28
    peel h with hL
    cases hc : parseChain (b.length + 1) (byteAt b 16) (b.drop 28) with
    | none => rw [hc] at h; cases h
    | some ps =>
      rw [hc] at h
      cases h
      exact ⟨Nat.le_of_not_lt h28, Decidable.not_not.mp hL, rfl, rfl⟩
  · rintro ⟨h28, hL, hh, hc⟩
    rw [if_neg (Nat.not_lt_of_le h28), if_neg (not_not_intro hL), hc]
    cases m
    cases hh
    rfl

theorem parse_encode (m : Msg) (hd : m.Dom) (bs : Bytes) (h : Spec.encode [] m = .ok bs) :
    Spec.parse bs = some ⟨{ m.hdr with next := firstPayloadType m.payloads, payloadBytes := bs.drop 28 }, m.payloads⟩ := by
  obtain ⟨chain, hc, h⟩ := Res.bind_eq_ok h
  obtain ⟨hb, he, h⟩ := Res.bind_eq_ok h
  cases h
  obtain ⟨hr, hL, h28⟩ := readHeader_encodeHeader m.hdr _ hb chain he
  have hpb : (hb ++ chain).drop 28 = chain := congrArg Header.payloadBytes hr
  have hnx : byteAt (hb ++ chain) 16 = firstPayloadType m.payloads := congrArg Header.next hr
  rw [parse_eq_some_iff, hpb, hnx]
  exact ⟨h28, hL, hr.symm, parseChain_encode m.payloads hd.2.2 chain hc _ (by rw [List.length_append]; omega)⟩

theorem encode_parse (bs : Bytes) (m : Msg) (h : Spec.parse bs = some m) : Spec.encode [] m = .ok bs := by
  obtain ⟨h28, hL, hh, hc⟩ := (parse_eq_some_iff bs m).mp h
  obtain ⟨hchain, hfirst⟩ := encodePayloads_parse _ _ _ _ hc
  obtain ⟨hb, he, hcut⟩ := encodeHeader_readHeader bs h28 hL
  unfold Spec.encode
  rw [hchain, Res.bind_ok, hfirst, hh, he, Res.bind_ok, hcut]

end Ike.ParseLemmas
