import IkeProofs.Lemmas.NoFault
import IkeProofs.Lemmas.RoundTrip
import IkeProofs.Lemmas.Cbc

/-! The protected (SK) path.  `protect`, `unprotect` and `decryptMsg` each get their closed form
(`_eq`, `_spec`) or what a success implies (`_inv`) once, over a ciphertext and signed octets left
as variables; the RFC 7296 §3.14 message enters through `marshalHeader_skTail` only.  History
independence (C17) is one lemma `_sim` per operation: protect, unprotect, child-key derivation.

Defined here, not in IkeModel: the per-direction views `SAKey.integObj` / `setInteg` / `encrObj`,
the relation `SAKey.Sim` (`≈ₛ`), `unprotectDecoded`, `Msg.firstIsSK`, the parts `Spec.skCt`,
`skTotal`, `skSigned`, `skIcv`, `skEnc`, `skHeader` of `Spec.skMessage` (IkeModel/Spec/Sk.lean;
`Spec.skMessage_eq` ties them to it), `SAKey.skParams`, and the sample values `SkEx.*`. -/

namespace Ike

/-- the integrity object `calculateIntegrity(…, role, …)` uses: `Integ_i` for the initiator -/
def SAKey.integObj (sa : SAKey) (role : Bool) : HashObj := if role then sa.integ_i else sa.integ_r

def SAKey.setInteg (sa : SAKey) (role : Bool) (h : HashObj) : SAKey :=
  if role then { sa with integ_i := h } else { sa with integ_r := h }

/-- the cipher object `encryptPayload(…, role, …)` uses: `Encr_i` for the initiator -/
def SAKey.encrObj (sa : SAKey) (role : Bool) : CipherObj := if role then sa.encr_i else sa.encr_r

/-- Reset, then Write: the object of direction `role` ends up holding exactly `d`, and the result
is the truncated MAC of `d` alone, whatever the buffer held before. -/
theorem calcIntegrity_eq (P : Prims) (sa : SAKey) (role : Bool) (d : Bytes) :
    calcIntegrity P sa role d =
      (sa.setInteg role ⟨(sa.integObj role).alg, (sa.integObj role).key, d⟩,
       goTo (P.mac (sa.integObj role).alg (sa.integObj role).key d) sa.integInfo.outLen) := by
  cases role <;>
    simp [calcIntegrity, SAKey.setInteg, SAKey.integObj, HashObj.reset, HashObj.write, HashObj.sum]

theorem WF_integObj (P : Prims) (sa : SAKey) (hw : sa.WF P) (role : Bool) :
    sa.integInfo.outLen ≤ P.macLen (sa.integObj role).alg := by
  cases role
  · exact hw.2
  · exact hw.1

/-- under well-formedness the truncation never faults -/
theorem calcIntegrity_ok (P : Prims) (hP : P.Lawful) (sa : SAKey) (hw : sa.WF P) (role : Bool) (d : Bytes) :
    calcIntegrity P sa role d =
      (sa.setInteg role ⟨(sa.integObj role).alg, (sa.integObj role).key, d⟩,
       .ok ((P.mac (sa.integObj role).alg (sa.integObj role).key d).take sa.integInfo.outLen)) := by
  rw [calcIntegrity_eq, goTo_ok]
  rw [hP.mac_len]; exact WF_integObj P sa hw role

@[simp] theorem setInteg_integInfo (sa : SAKey) (role : Bool) (h : HashObj) :
    (sa.setInteg role h).integInfo = sa.integInfo := by cases role <;> rfl
@[simp] theorem setInteg_encr_i (sa : SAKey) (role : Bool) (h : HashObj) :
    (sa.setInteg role h).encr_i = sa.encr_i := by cases role <;> rfl
@[simp] theorem setInteg_encr_r (sa : SAKey) (role : Bool) (h : HashObj) :
    (sa.setInteg role h).encr_r = sa.encr_r := by cases role <;> rfl

@[simp] theorem setInteg_encrObj (sa : SAKey) (role r2 : Bool) (h : HashObj) :
    (sa.setInteg role h).encrObj r2 = sa.encrObj r2 := by cases role <;> rfl

theorem decryptPayload_eq (P : Prims) (sa : SAKey) (role : Bool) (ct : Bytes) :
    decryptPayload P sa role ct = cbcDecrypt P (sa.encrObj (!role)) ct := by
  cases role <;> rfl

theorem encryptPayload_eq (P : Prims) (sa : SAKey) (role : Bool) (r : Rand) (pl : Bytes) :
    encryptPayload P sa role r pl = cbcEncrypt P (sa.encrObj role) r pl := by
  cases role <;> rfl

/-! `DecodeDecrypt` decomposed; `unprotectDecoded` and `Msg.firstIsSK` are the vocabulary of C02. -/

/-- the datagram as `DecodeDecrypt` decodes it before looking at any key -/
def unprotectDecoded (hdr : Option Header) (msg : Bytes) : Res Msg :=
  match hdr with
  | none => decodeMsg msg
  | some h => do
    let body ← goFrom msg Facts.ikeHeaderLen
    let ps ← decodeChain h.next body
    .ok ⟨h, ps⟩

/-- does the decoded message present an Encrypted payload first? (then `unprotect` enters `decryptMsg`) -/
def Msg.firstIsSK (m : Msg) : Bool :=
  match m.payloads with
  | [] => false
  | p :: _ => p.typeCode == Facts.typeSK

theorem unprotect_eq (P : Prims) (sa : Option SAKey) (role : Bool) (hdr : Option Header) (msg : Bytes) :
    unprotect P sa role hdr msg =
      match unprotectDecoded hdr msg with
      | .err => (sa, 0, .err)
      | .fault => (sa, 0, .fault)
      | .ok m =>
        if m.firstIsSK then
          match sa with
          | none => (none, 0, .err)
          | some k =>
            (some (decryptMsg P k role msg m).1, (decryptMsg P k role msg m).2.1, (decryptMsg P k role msg m).2.2)
        else if m.payloads = [] ∧ m.hdr.next = Facts.typeSK then (sa, 0, .err)
        else (sa, 0, .ok m) := by
  unfold unprotect
  show (match unprotectDecoded hdr msg with | .err => _ | .fault => _ | .ok m => _) = _
  cases unprotectDecoded hdr msg with
  | err => rfl
  | fault => rfl
  | ok m =>
    obtain ⟨hd, ps⟩ := m
    cases ps with
    | nil => simp [Msg.firstIsSK]
    | cons p rest =>
      simp only
      by_cases hp : (p.typeCode == Facts.typeSK) = true
      · rw [if_pos hp, if_pos (show Msg.firstIsSK ⟨hd, p :: rest⟩ = true from hp)]
        cases sa <;> rfl
      · rw [if_neg hp, if_neg (show ¬ Msg.firstIsSK ⟨hd, p :: rest⟩ = true from hp), if_neg (by simp)]

theorem unprotect_sk (P : Prims) (k : SAKey) (role : Bool) (hdr : Option Header) (msg : Bytes) (d : Msg)
    (hd : unprotectDecoded hdr msg = .ok d) (hsk : d.firstIsSK = true) :
    unprotect P (some k) role hdr msg =
      (some (decryptMsg P k role msg d).1, (decryptMsg P k role msg d).2.1, (decryptMsg P k role msg d).2.2) := by
  rw [unprotect_eq, hd]; simp only; rw [if_pos hsk]

theorem unprotect_not_sk (P : Prims) (sa : Option SAKey) (role : Bool) (hdr : Option Header) (msg : Bytes) (d : Msg)
    (hd : unprotectDecoded hdr msg = .ok d) (hsk : d.firstIsSK = false) :
    unprotect P sa role hdr msg =
      (sa, 0, if d.payloads = [] ∧ d.hdr.next = Facts.typeSK then .err else .ok d) := by
  rw [unprotect_eq, hd]; simp only; rw [if_neg (by simp [hsk])]
  split <;> rfl

theorem unprotect_undecodable (P : Prims) (sa : Option SAKey) (role : Bool) (hdr : Option Header) (msg : Bytes)
    (hd : ∀ d, unprotectDecoded hdr msg ≠ .ok d) :
    (unprotect P sa role hdr msg).1 = sa ∧ (unprotect P sa role hdr msg).2.1 = 0 ∧
      ∀ m, (unprotect P sa role hdr msg).2.2 ≠ .ok m := by
  rw [unprotect_eq]
  cases h : unprotectDecoded hdr msg with
  | err => simp
  | fault => simp
  | ok d => exact absurd h (hd d)

theorem lastSK_firstIsSK (hd : Header) (ps : List Payload) (x : UInt8 × Bytes)
    (h : lastSK ps none = .ok (some x)) : Msg.firstIsSK ⟨hd, ps⟩ = true := by
  cases ps with
  | nil => simp [lastSK] at h
  | cons p rest => cases p <;> simp [lastSK] at h <;> rfl

theorem unprotectDecoded_hdr (msg : Bytes) (h : Header) (hh : parseHeader msg = .ok h) :
    unprotectDecoded (some h) msg = unprotectDecoded none msg := by
  obtain ⟨e1, e2⟩ := parseHeader_inv _ _ hh
  unfold unprotectDecoded
  simp only
  unfold decodeMsg
  rw [hh, show Facts.ikeHeaderLen = 28 from rfl, goFrom_ok (by omega)]
  simp only [Res.bind_ok, e1]

/-! History independence.  For each operation `f` one lemma `f_sim`: on related states the outputs
are equal, and the successor stays in the class of the state it started from.  That the two
successors are related to each other (the form of `calcIntegrity_sim` and `C17_step`) follows by
symmetry and transitivity. -/

/-- two hash objects made by `hmac.New` with the same hash and key; write buffers arbitrary -/
def HashObj.Sim (a b : HashObj) : Prop := a.alg = b.alg ∧ a.key = b.key

/-- `sa ≈ sb`: same descriptors, same seven keys, cipher objects equal, each hash
object has the same algorithm and key — the write buffers of the five hash
objects are unconstrained. -/
structure SAKey.Sim (a b : SAKey) : Prop where
  encrInfo  : a.encrInfo = b.encrInfo
  integInfo : a.integInfo = b.integInfo
  prfInfo   : a.prfInfo = b.prfInfo
  prf_d   : a.prf_d.Sim b.prf_d
  integ_i : a.integ_i.Sim b.integ_i
  integ_r : a.integ_r.Sim b.integ_r
  encr_i  : a.encr_i = b.encr_i
  encr_r  : a.encr_r = b.encr_r
  prf_i   : a.prf_i.Sim b.prf_i
  prf_r   : a.prf_r.Sim b.prf_r
  sk_d  : a.sk_d = b.sk_d
  sk_ai : a.sk_ai = b.sk_ai
  sk_ar : a.sk_ar = b.sk_ar
  sk_ei : a.sk_ei = b.sk_ei
  sk_er : a.sk_er = b.sk_er
  sk_pi : a.sk_pi = b.sk_pi
  sk_pr : a.sk_pr = b.sk_pr

infix:50 " ≈ₛ " => SAKey.Sim

theorem HashObj.Sim.refl (a : HashObj) : a.Sim a := ⟨rfl, rfl⟩
theorem HashObj.Sim.symm {a b : HashObj} (h : a.Sim b) : b.Sim a := ⟨h.1.symm, h.2.symm⟩
theorem HashObj.Sim.trans {a b c : HashObj} (h : a.Sim b) (g : b.Sim c) : a.Sim c :=
  ⟨h.1.trans g.1, h.2.trans g.2⟩

theorem SAKey.Sim.refl (a : SAKey) : a ≈ₛ a :=
  ⟨rfl, rfl, rfl, .refl _, .refl _, .refl _, rfl, rfl, .refl _, .refl _, rfl, rfl, rfl, rfl, rfl, rfl, rfl⟩

theorem SAKey.Sim.symm {a b : SAKey} (h : a ≈ₛ b) : b ≈ₛ a :=
  ⟨h.encrInfo.symm, h.integInfo.symm, h.prfInfo.symm, h.prf_d.symm, h.integ_i.symm, h.integ_r.symm,
   h.encr_i.symm, h.encr_r.symm, h.prf_i.symm, h.prf_r.symm, h.sk_d.symm, h.sk_ai.symm, h.sk_ar.symm,
   h.sk_ei.symm, h.sk_er.symm, h.sk_pi.symm, h.sk_pr.symm⟩

theorem SAKey.Sim.trans {a b c : SAKey} (h : a ≈ₛ b) (g : b ≈ₛ c) : a ≈ₛ c :=
  ⟨h.encrInfo.trans g.encrInfo, h.integInfo.trans g.integInfo, h.prfInfo.trans g.prfInfo,
   h.prf_d.trans g.prf_d, h.integ_i.trans g.integ_i, h.integ_r.trans g.integ_r,
   h.encr_i.trans g.encr_i, h.encr_r.trans g.encr_r, h.prf_i.trans g.prf_i, h.prf_r.trans g.prf_r,
   h.sk_d.trans g.sk_d, h.sk_ai.trans g.sk_ai, h.sk_ar.trans g.sk_ar, h.sk_ei.trans g.sk_ei,
   h.sk_er.trans g.sk_er, h.sk_pi.trans g.sk_pi, h.sk_pr.trans g.sk_pr⟩

theorem SAKey.Sim.integObj {a b : SAKey} (h : a ≈ₛ b) (role : Bool) : (a.integObj role).Sim (b.integObj role) := by
  cases role
  · exact h.integ_r
  · exact h.integ_i

theorem SAKey.Sim.encrObj {a b : SAKey} (h : a ≈ₛ b) (role : Bool) : a.encrObj role = b.encrObj role := by
  cases role
  · exact h.encr_r
  · exact h.encr_i

theorem SAKey.Sim.setInteg_self (a : SAKey) (role : Bool) (x : HashObj) (hx : x.Sim (a.integObj role)) :
    a.setInteg role x ≈ₛ a := by
  cases role
  · exact { SAKey.Sim.refl a with integ_r := hx }
  · exact { SAKey.Sim.refl a with integ_i := hx }

theorem calcIntegrity_sim_self (P : Prims) (a : SAKey) (role : Bool) (d : Bytes) :
    (calcIntegrity P a role d).1 ≈ₛ a := by
  rw [calcIntegrity_eq]
  exact SAKey.Sim.setInteg_self a role _ ⟨rfl, rfl⟩

theorem calcIntegrity_sim (P : Prims) {a b : SAKey} (h : a ≈ₛ b) (role : Bool) (d : Bytes) :
    (calcIntegrity P a role d).2 = (calcIntegrity P b role d).2 ∧
    (calcIntegrity P a role d).1 ≈ₛ (calcIntegrity P b role d).1 := by
  refine ⟨?_, (calcIntegrity_sim_self P a role d).trans (h.trans (calcIntegrity_sim_self P b role d).symm)⟩
  rw [calcIntegrity_eq, calcIntegrity_eq, (h.integObj role).1, (h.integObj role).2, h.integInfo]

theorem protect_sim (P : Prims) {a b : SAKey} (h : a ≈ₛ b) (role : Bool) (r : Rand) (m : Msg) :
    (protect P a role r m).2 = (protect P b role r m).2 ∧ (protect P a role r m).1 ≈ₛ a := by
  unfold protect
  simp only [calcIntegrity_eq, encryptPayload_eq, h.encrObj, h.integInfo]
  obtain ⟨e1, e2⟩ := h.integObj role
  rw [e1, e2]
  -- after these rewrites the two sides differ only in the state they return: `a` / `b` untouched, or with the
  -- integrity object `calculateIntegrity` left
  have hs : ∀ d, a.setInteg role ⟨(b.integObj role).alg, (b.integObj role).key, d⟩ ≈ₛ a :=
    fun d => SAKey.Sim.setInteg_self a role _ ⟨e1.symm, e2.symm⟩
  cases encodeChain m.payloads with
  | err => exact ⟨rfl, .refl a⟩
  | fault => exact ⟨rfl, .refl a⟩
  | ok plain =>
    simp only
    cases cbcEncrypt P (b.encrObj role) r plain with
    | mk r1 res =>
      cases res with
      | err => exact ⟨rfl, .refl a⟩
      | fault => exact ⟨rfl, .refl a⟩
      | ok ct =>
        simp only
        cases encodeMsg { hdr := m.hdr, payloads := [Payload.sk (firstType m.payloads) (ct ++ zeros b.integInfo.outLen)] } with
        | err => exact ⟨rfl, .refl a⟩
        | fault => exact ⟨rfl, .refl a⟩
        | ok dh =>
          obtain ⟨data, h1⟩ := dh
          simp only
          by_cases hl : data.length < b.integInfo.outLen
          · rw [if_pos hl, if_pos hl]; exact ⟨rfl, .refl a⟩
          · rw [if_neg hl, if_neg hl]
            cases goTo (P.mac (b.integObj role).alg (b.integObj role).key
                      (List.take (List.length data - b.integInfo.outLen) data)) b.integInfo.outLen with
            | err => exact ⟨rfl, hs _⟩
            | fault => exact ⟨rfl, hs _⟩
            | ok checksum =>
              simp only
              cases encodeMsg { hdr := h1, payloads := [Payload.sk (firstType m.payloads)
                  (setTail (ct ++ zeros b.integInfo.outLen) b.integInfo.outLen checksum)] } with
              | err => exact ⟨rfl, hs _⟩
              | fault => exact ⟨rfl, hs _⟩
              | ok oh => exact ⟨rfl, hs _⟩

theorem protect_sim_self (P : Prims) (a : SAKey) (role : Bool) (r : Rand) (m : Msg) :
    (protect P a role r m).1 ≈ₛ a :=
  (protect_sim P (.refl a) role r m).2

theorem decryptMsg_sim (P : Prims) {a b : SAKey} (h : a ≈ₛ b) (role : Bool) (msg : Bytes) (m : Msg) :
    (decryptMsg P a role msg m).2 = (decryptMsg P b role msg m).2 ∧ (decryptMsg P a role msg m).1 ≈ₛ a := by
  unfold decryptMsg
  simp only [calcIntegrity_eq, h.integInfo]
  obtain ⟨e1, e2⟩ := h.integObj (!role)
  rw [e1, e2]
  have hs : ∀ d, a.setInteg (!role) ⟨(b.integObj (!role)).alg, (b.integObj (!role)).key, d⟩ ≈ₛ a :=
    fun d => SAKey.Sim.setInteg_self a (!role) _ ⟨e1.symm, e2.symm⟩
  cases lastSK m.payloads none with
  | err => exact ⟨rfl, .refl a⟩
  | fault => exact ⟨rfl, .refl a⟩
  | ok o =>
    cases o with
    | none => exact ⟨rfl, .refl a⟩
    | some x =>
      obtain ⟨next, encData⟩ := x
      simp only
      by_cases h1 : encData.length < b.integInfo.outLen
      · rw [if_pos h1, if_pos h1]; exact ⟨rfl, .refl a⟩
      · rw [if_neg h1, if_neg h1]
        by_cases h2 : msg.length < b.integInfo.outLen
        · rw [if_pos h2, if_pos h2]; exact ⟨rfl, .refl a⟩
        · rw [if_neg h2, if_neg h2]
          cases goTo (P.mac (b.integObj (!role)).alg (b.integObj (!role)).key
                      (List.take (msg.length - b.integInfo.outLen) msg)) b.integInfo.outLen with
          | err => exact ⟨rfl, hs _⟩
          | fault => exact ⟨rfl, hs _⟩
          | ok expect =>
            simp only [decryptPayload_eq, setInteg_encrObj, h.encrObj]
            split
            · exact ⟨rfl, hs _⟩
            · cases cbcDecrypt P (b.encrObj (!role)) _ with
              | err => exact ⟨rfl, hs _⟩
              | fault => exact ⟨rfl, hs _⟩
              | ok plain =>
                simp only
                cases decodeChain next plain with
                | err => exact ⟨rfl, hs _⟩
                | fault => exact ⟨rfl, hs _⟩
                | ok ps => exact ⟨rfl, hs _⟩

theorem unprotect_sim (P : Prims) {a b : SAKey} (h : a ≈ₛ b) (role : Bool) (hdr : Option Header) (msg : Bytes) :
    ∃ a' b' n r, unprotect P (some a) role hdr msg = (some a', n, r) ∧
      unprotect P (some b) role hdr msg = (some b', n, r) ∧ a' ≈ₛ a := by
  rw [unprotect_eq, unprotect_eq]
  cases unprotectDecoded hdr msg with
  | err => exact ⟨a, b, 0, .err, rfl, rfl, .refl a⟩
  | fault => exact ⟨a, b, 0, .fault, rfl, rfl, .refl a⟩
  | ok m =>
    simp only
    split
    · obtain ⟨e, s⟩ := decryptMsg_sim P h role msg m
      exact ⟨_, _, _, _, rfl, by rw [e], s⟩
    · split
      · exact ⟨a, b, 0, .err, rfl, rfl, .refl a⟩
      · exact ⟨a, b, 0, .ok m, rfl, rfl, .refl a⟩

theorem HashObj.Sim.reset_write {x y : HashObj} (h : x.Sim y) (d : Bytes) :
    (x.reset).write d = (y.reset).write d := by
  obtain ⟨ax, kx, bx⟩ := x
  obtain ⟨ay, ky, b_y⟩ := y
  obtain ⟨e1, e2⟩ := h
  simp only at e1 e2
  subst e1 e2
  rfl

theorem prfPlusLoop_sim (P : Prims) (s : Bytes) (n : Nat) (fuel : Nat) (x y : HashObj) (h : x.Sim y)
    (i : Nat) (stream block : Bytes) :
    (prfPlusLoop P s n fuel x i stream block).2 = (prfPlusLoop P s n fuel y i stream block).2 ∧
    (prfPlusLoop P s n fuel x i stream block).1.Sim x := by
  induction fuel generalizing x y i stream block with
  | zero => exact ⟨rfl, .refl x⟩
  | succ f ih =>
    unfold prfPlusLoop
    by_cases hc : stream.length < n
    · rw [if_pos hc, if_pos hc]
      simp only
      rw [← h.reset_write]
      exact ⟨rfl, (ih _ _ (.refl _) _ _ _).2.trans ⟨rfl, rfl⟩⟩
    · rw [if_neg hc, if_neg hc]
      exact ⟨rfl, .refl x⟩

theorem prfPlus_sim (P : Prims) (x y : HashObj) (h : x.Sim y) (s : Bytes) (n : Nat) :
    (prfPlus P x s n).2 = (prfPlus P y s n).2 ∧ (prfPlus P x s n).1.Sim x := by
  unfold prfPlus
  obtain ⟨e, g⟩ := prfPlusLoop_sim P s n (n + 1) x y h 1 [] []
  simp only
  exact ⟨by rw [e], g⟩

theorem SAKey.Sim.setPrfD_self (a : SAKey) (x : HashObj) (hx : x.Sim a.prf_d) :
    { a with prf_d := x } ≈ₛ a :=
  { SAKey.Sim.refl a with prf_d := hx }

theorem childKeys_sim (P : Prims) {a b : SAKey} (h : a ≈ₛ b) (el il : Nat) (nonce : Bytes) :
    (childKeys P a el il nonce).2 = (childKeys P b el il nonce).2 ∧ (childKeys P a el il nonce).1 ≈ₛ a := by
  unfold childKeys
  obtain ⟨e, g⟩ := prfPlus_sim P a.prf_d b.prf_d h.prf_d nonce ((el + il) * 2)
  simp only
  generalize prfPlus P a.prf_d nonce _ = pa at e g ⊢
  generalize prfPlus P b.prf_d nonce _ = pb at e ⊢
  obtain ⟨xa, ra⟩ := pa
  obtain ⟨xb, rb⟩ := pb
  cases e
  have hs := SAKey.Sim.setPrfD_self a xa g
  cases ra with
  | err => exact ⟨rfl, hs⟩
  | fault => exact ⟨rfl, hs⟩
  | ok ks =>
    simp only
    split
    · exact ⟨rfl, hs⟩
    · exact ⟨rfl, hs⟩

/-- the model's Child SA derivation: the keys depend on `prf_d`'s key and hash only -/
theorem genKeyForChildSA_out_sim (P : Prims) (a b : SAKey) (h : a.prf_d.Sim b.prf_d) (c : ChildSAKey) (nonce : Bytes) :
    (genKeyForChildSA P a c nonce).2 = (genKeyForChildSA P b c nonce).2 := by
  unfold genKeyForChildSA
  dsimp only
  have e := (prfPlus_sim P a.prf_d b.prf_d h nonce
    ((c.encrKeyLen + (match c.integKeyLen with | some n => n | none => 0)) * 2)).1
  generalize prfPlus P a.prf_d nonce _ = p1 at e ⊢
  generalize prfPlus P b.prf_d nonce _ = p2 at e ⊢
  obtain ⟨g1, s1⟩ := p1
  obtain ⟨g2, s2⟩ := p2
  cases e
  cases s1 with
  | ok ks => by_cases hE : ks.isEmpty = true <;> simp [hE]
  | err => rfl
  | fault => rfl

theorem saStep_protect (P : Prims) (sa : SAKey) (role : Bool) (rnd : Bytes) (m : Msg) :
    saStep P sa (.protect role rnd m) =
      ((protect P sa role { buf := rnd } m).1, (protect P sa role { buf := rnd } m).2.2.map (fun o => .bytes o.1)) := by
  simp only [saStep]
  rcases protect P sa role { buf := rnd } m with ⟨sa', r', ⟨out, mo⟩ | _ | _⟩ <;> rfl

/-- with `withHdr`, a datagram whose header does not parse is refused before the SA object is
looked at: the outer `match` -/
theorem saStep_unprotect (P : Prims) (sa : SAKey) (role withHdr : Bool) (bs : Bytes) :
    saStep P sa (.unprotect role withHdr bs) =
      match (if withHdr then (parseHeader bs).map some else .ok none) with
      | .ok hdr => (((unprotect P (some sa) role hdr bs).1).getD sa, (unprotect P (some sa) role hdr bs).2.2.map .msg)
      | .err => (sa, .err)
      | .fault => (sa, .fault) := by
  have run : ∀ hdr, (match unprotect P (some sa) role hdr bs with
        | (some sa', _, .ok m) => (sa', Res.ok (SaOut.msg m))
        | (some sa', _, .err) => (sa', .err)
        | (some sa', _, .fault) => (sa', .fault)
        | (none, _, .ok m) => (sa, .ok (.msg m))
        | (none, _, .err) => (sa, .err)
        | (none, _, .fault) => (sa, .fault)) =
      (((unprotect P (some sa) role hdr bs).1).getD sa, (unprotect P (some sa) role hdr bs).2.2.map .msg) := by
    intro hdr
    rcases unprotect P (some sa) role hdr bs with ⟨_ | _, _, _ | _ | _⟩ <;> rfl
  simp only [saStep]
  cases withHdr with
  | false => exact run none
  | true =>
    simp only [if_true]
    cases parseHeader bs with
    | ok hd => exact run (some hd)
    | err => rfl
    | fault => rfl

theorem saStep_child (P : Prims) (sa : SAKey) (el il : Nat) (nonce : Bytes) :
    saStep P sa (.child el il nonce) =
      ((childKeys P sa el il nonce).1, (childKeys P sa el il nonce).2.map .keys) := by
  simp only [saStep]
  rcases childKeys P sa el il nonce with ⟨sa', _ | _ | _⟩ <;> rfl

theorem saStep_sim (P : Prims) {a b : SAKey} (h : a ≈ₛ b) (op : SaOp) :
    (saStep P a op).2 = (saStep P b op).2 ∧ (saStep P a op).1 ≈ₛ a := by
  cases op with
  | protect role rnd m =>
    obtain ⟨e, s⟩ := protect_sim P h role { buf := rnd } m
    rw [saStep_protect, saStep_protect, e]
    exact ⟨rfl, s⟩
  | unprotect role withHdr bs =>
    rw [saStep_unprotect, saStep_unprotect]
    cases (if withHdr then (parseHeader bs).map some else .ok none) with
    | ok hdr =>
      obtain ⟨a', b', n, r, ea, eb, s⟩ := unprotect_sim P h role hdr bs
      simp only
      rw [ea, eb]
      exact ⟨rfl, s⟩
    | err => exact ⟨rfl, .refl a⟩
    | fault => exact ⟨rfl, .refl a⟩
  | child el il nonce =>
    obtain ⟨e, s⟩ := childKeys_sim P h el il nonce
    rw [saStep_child, saStep_child, e]
    exact ⟨rfl, s⟩

theorem saStep_sim_self (P : Prims) (a : SAKey) (op : SaOp) : (saStep P a op).1 ≈ₛ a :=
  (saStep_sim P (.refl a) op).2

/-- The integrity object of the PEER's direction (`!role`) is left holding the signed octets; the
cipher is called (count 1) exactly when the received tail equals the truncated MAC, under the
peer-direction key, of every octet before the checksum (the last `sa.integInfo.outLen`). -/
theorem decryptMsg_eq (P : Prims) (hP : P.Lawful) (sa : SAKey) (hw : sa.WF P) (role : Bool)
    (msg : Bytes) (m : Msg) (next : UInt8) (encData : Bytes)
    (hl : lastSK m.payloads none = .ok (some (next, encData)))
    (h1 : sa.integInfo.outLen ≤ encData.length) (h2 : sa.integInfo.outLen ≤ msg.length) :
    decryptMsg P sa role msg m =
      (sa.setInteg (!role) ⟨(sa.integObj (!role)).alg, (sa.integObj (!role)).key,
          msg.take (msg.length - sa.integInfo.outLen)⟩,
       if encData.drop (encData.length - sa.integInfo.outLen) =
           (P.mac (sa.integObj (!role)).alg (sa.integObj (!role)).key
              (msg.take (msg.length - sa.integInfo.outLen))).take sa.integInfo.outLen
       then (1, do
          let plain ← cbcDecrypt P (sa.encrObj (!role)) (encData.take (encData.length - sa.integInfo.outLen))
          let ps ← decodeChain next plain
          .ok ⟨m.hdr, ps⟩)
       else (0, .err)) := by
  unfold decryptMsg
  rw [hl]
  simp only
  rw [if_neg (Nat.not_lt.2 h1), if_neg (Nat.not_lt.2 h2), calcIntegrity_ok P hP sa hw]
  simp only
  by_cases hc : encData.drop (encData.length - sa.integInfo.outLen) =
           (P.mac (sa.integObj (!role)).alg (sa.integObj (!role)).key
              (msg.take (msg.length - sa.integInfo.outLen))).take sa.integInfo.outLen
  · rw [if_pos hc, if_neg (by rw [(bytesEq_iff _ _).mpr hc]; simp), decryptPayload_eq, setInteg_encrObj]
    cases cbcDecrypt P (sa.encrObj (!role)) (encData.take (encData.length - sa.integInfo.outLen)) with
    | err => rfl
    | fault => rfl
    | ok plain =>
      simp only [Res.bind_ok]
      cases decodeChain next plain <;> rfl
  · rw [if_neg hc, if_pos (by
      rw [Bool.not_eq_true', Bool.eq_false_iff]; exact fun hb => hc ((bytesEq_iff _ _).1 hb))]

/-- every way `decryptMsg` can call the cipher or succeed goes through the checksum comparison -/
theorem decryptMsg_inv (P : Prims) (hP : P.Lawful) (sa : SAKey) (hw : sa.WF P) (role : Bool)
    (msg : Bytes) (m : Msg)
    (h : (decryptMsg P sa role msg m).2.1 ≠ 0 ∨ ∃ m', (decryptMsg P sa role msg m).2.2 = .ok m') :
    ∃ next encData, lastSK m.payloads none = .ok (some (next, encData)) ∧
      sa.integInfo.outLen ≤ encData.length ∧ sa.integInfo.outLen ≤ msg.length ∧
      encData.drop (encData.length - sa.integInfo.outLen) =
           (P.mac (sa.integObj (!role)).alg (sa.integObj (!role)).key
              (msg.take (msg.length - sa.integInfo.outLen))).take sa.integInfo.outLen ∧
      (decryptMsg P sa role msg m).2.1 = 1 := by
  cases hl : lastSK m.payloads none with
  | err => unfold decryptMsg at h; rw [hl] at h; simp at h
  | fault => unfold decryptMsg at h; rw [hl] at h; simp at h
  | ok o =>
    cases o with
    | none => unfold decryptMsg at h; rw [hl] at h; simp at h
    | some x =>
      obtain ⟨next, encData⟩ := x
      by_cases h1 : encData.length < sa.integInfo.outLen
      · unfold decryptMsg at h; rw [hl] at h; simp only at h; rw [if_pos h1] at h; simp at h
      · by_cases h2 : msg.length < sa.integInfo.outLen
        · unfold decryptMsg at h; rw [hl] at h; simp only at h; rw [if_neg h1, if_pos h2] at h; simp at h
        · rw [decryptMsg_eq P hP sa hw role msg m next encData hl (Nat.le_of_not_lt h1) (Nat.le_of_not_lt h2)] at h ⊢
          refine ⟨next, encData, rfl, Nat.le_of_not_lt h1, Nat.le_of_not_lt h2, ?_⟩
          simp only at h ⊢
          split at h
          · rename_i hm; exact ⟨hm, by rw [if_pos hm]⟩
          · simp at h

theorem decodeChain_sk (ft : UInt8) (enc : Bytes) (hlen : 4 + enc.length ≤ 0xFFFF) :
    decodeChain Facts.typeSK ([ft, 0] ++ put16 (UInt16.ofNat (4 + enc.length)) ++ enc) = .ok [.sk ft enc] := by
  have hnil : decodeChain ft [] = .ok [] := by rw [decodeChain, dif_pos (show ([] : Bytes).length = 0 from rfl)]
  have h := decodeChain_frame Facts.typeSK ft 0 enc [] hlen
  rw [List.append_nil, if_pos (by decide), if_neg (by simp), hnil] at h
  exact h

/-- the header `IKEMessage.Encode` leaves in a message holding the single Encrypted payload
`.sk ft enc`: first payload SK, payload octets = generic header ‖ `enc` -/
def skFrame (h : Header) (ft : UInt8) (enc : Bytes) : Header :=
  { h with next := Facts.typeSK, payloadBytes := [ft, 0] ++ put16 (UInt16.ofNat (4 + enc.length)) ++ enc }

theorem skFrame_skFrame (h : Header) (ft ft' : UInt8) (enc enc' : Bytes) :
    skFrame (skFrame h ft enc) ft' enc' = skFrame h ft' enc' := rfl

theorem encodeMsg_sk (h : Header) (ft : UInt8) (enc : Bytes) (hne : enc.length ≠ 0) :
    encodeMsg ⟨h, [.sk ft enc]⟩ =
      if 4 + enc.length ≤ 0xFFFF then
        (do let bs ← marshalHeader (skFrame h ft enc)
            .ok (bs, skFrame h ft enc))
      else .err := by
  unfold encodeMsg skFrame
  simp only [encodeChain, marshalPayload, marshalSK, if_neg hne, Res.bind_ok, nextField, firstType, Payload.typeCode]
  by_cases hfit : 4 + enc.length ≤ 0xFFFF
  · rw [if_neg (Nat.not_lt.2 hfit), if_pos hfit]
    simp only [Res.bind_ok, List.append_nil]
  · rw [if_pos (Nat.lt_of_not_le hfit), if_neg hfit]
    rfl

theorem decodeMsg_skFrame (h : Header) (ft : UInt8) (enc bs : Bytes)
    (hmaj : h.major.toNat < 16) (hmin : h.minor.toNat < 16) (hfit : 4 + enc.length ≤ 0xFFFF)
    (hm : marshalHeader (skFrame h ft enc) = .ok bs) :
    decodeMsg bs = .ok ⟨skFrame h ft enc, [.sk ft enc]⟩ := by
  unfold decodeMsg
  rw [rt_header (skFrame h ft enc) bs hmaj hmin hm]
  simp only [Res.bind_ok]
  show (decodeChain Facts.typeSK ([ft, 0] ++ put16 (UInt16.ofNat (4 + enc.length)) ++ enc) >>= _) = _
  rw [decodeChain_sk ft _ hfit]
  rfl

/-- `copy(checksumField, checksum)` over a placeholder of the checksum's length -/
theorem setTail_append (ct z c : Bytes) (hz : z.length = c.length) :
    setTail (ct ++ z) c.length c = ct ++ c := by
  unfold setTail
  have e1 : (ct ++ z).length - c.length = ct.length := by simp; omega
  rw [e1, List.take_of_length_le (Nat.le_refl _)]
  simp [hz]

/-- a successful `EncodeEncrypt` met the hypotheses of `protect_spec`, which then says what it returned -/
theorem protect_ok_inv (P : Prims) (hP : P.Lawful) (sa sa' : SAKey) (role : Bool) (r r' : Rand) (m : Msg)
    (out : Bytes × Msg) (h : protect P sa role r m = (sa', r', .ok out)) :
    ∃ inner drawn iv r1 r2, encodeChain m.payloads = .ok inner ∧
      r.draw (padLen inner) = (r1, .ok drawn) ∧ r1.draw 16 = (r2, .ok iv) ∧
      4 + (16 + (inner.length + padLen inner) + sa.integInfo.outLen) ≤ 0xFFFF := by
  unfold protect at h
  cases henc : encodeChain m.payloads with
  | err => rw [henc] at h; cases h
  | fault => rw [henc] at h; cases h
  | ok inner =>
    rw [henc] at h
    simp only at h
    cases hct : encryptPayload P sa role r inner with
    | mk r2 res =>
      rw [hct] at h
      cases res with
      | err => cases h
      | fault => cases h
      | ok ct =>
        rw [encryptPayload_eq] at hct
        obtain ⟨r1, drawn, iv, hd1, hd2⟩ := cbcEncrypt_ok_draws P _ r r2 inner ct hct
        obtain ⟨_, _, hlen, _⟩ := cbcEncrypt_ok_plain P hP _ r inner ct (by rw [hct])
        refine ⟨inner, drawn, iv, r1, r2, rfl, hd1, hd2, Decidable.byContradiction fun hfit => ?_⟩
        simp only at h
        rw [encodeMsg_sk _ _ _ (by rw [List.length_append, hlen]; omega),
          if_neg (by rw [List.length_append, zeros_length, hlen]; omega)] at h
        cases h

/-- `EncodeEncrypt` once the inner payloads are encoded and the cipher has returned `ct`: frame
`ct ‖ 0…0`, MAC what precedes the placeholder, patch it in, frame again.  `S` stands for the octets
in front of the checksum; `hm` fixes it for every checksum-sized tail. -/
theorem protect_of_ct (P : Prims) (hP : P.Lawful) (sa : SAKey) (hw : sa.WF P) (role : Bool)
    (r r2 : Rand) (m : Msg) (inner ct S : Bytes)
    (henc : encodeChain m.payloads = .ok inner)
    (hct : encryptPayload P sa role r inner = (r2, .ok ct)) (hne : ct.length ≠ 0)
    (hfit : 4 + (ct.length + sa.integInfo.outLen) ≤ 0xFFFF)
    (hm : ∀ tail : Bytes, tail.length = sa.integInfo.outLen →
      marshalHeader (skFrame m.hdr (firstType m.payloads) (ct ++ tail)) = .ok (S ++ tail)) :
    protect P sa role r m =
      (sa.setInteg role ⟨(sa.integObj role).alg, (sa.integObj role).key, S⟩, r2,
       .ok (S ++ (P.mac (sa.integObj role).alg (sa.integObj role).key S).take sa.integInfo.outLen,
            ⟨skFrame m.hdr (firstType m.payloads)
                (ct ++ (P.mac (sa.integObj role).alg (sa.integObj role).key S).take sa.integInfo.outLen),
             [.sk (firstType m.payloads)
                (ct ++ (P.mac (sa.integObj role).alg (sa.integObj role).key S).take sa.integInfo.outLen)]⟩)) := by
  generalize hI : (P.mac (sa.integObj role).alg (sa.integObj role).key S).take sa.integInfo.outLen = icv
  have hil : icv.length = sa.integInfo.outLen := by
    rw [← hI, List.length_take, hP.mac_len]; exact Nat.min_eq_left (WF_integObj P sa hw role)
  have hz : (zeros sa.integInfo.outLen).length = sa.integInfo.outLen := zeros_length _
  unfold protect
  rw [henc]
  simp only
  rw [hct]
  simp only
  rw [encodeMsg_sk _ _ _ (by rw [List.length_append]; omega), if_pos (by rw [List.length_append, hz]; exact hfit),
    hm _ hz]
  simp only [Res.bind_ok]
  rw [if_neg (by rw [List.length_append, hz]; omega),
    take_prefix_eq S _ _ (by rw [List.length_append, hz, Nat.add_sub_cancel]),
    calcIntegrity_ok P hP sa hw, hI]
  simp only
  have eS := setTail_append ct (zeros sa.integInfo.outLen) icv (by rw [hz, hil])
  rw [hil] at eS
  rw [eS, encodeMsg_sk _ _ _ (by rw [List.length_append]; omega), if_pos (by rw [List.length_append, hil]; exact hfit),
    skFrame_skFrame, hm _ hil]
  rfl

/-- `DecodeDecrypt` on a datagram `S ‖ tail` whose single Encrypted payload is `ct ‖ tail`: the
cipher is called — once — exactly when `tail` is the truncated MAC of `S`. -/
theorem unprotect_framed (P : Prims) (hP : P.Lawful) (sb : SAKey) (hw : sb.WF P) (rr : Bool)
    (hdr : Option Header) (H : Header) (ft : UInt8) (ct tail S : Bytes)
    (htl : tail.length = sb.integInfo.outLen)
    (hdec : unprotectDecoded hdr (S ++ tail) = .ok ⟨H, [.sk ft (ct ++ tail)]⟩) :
    unprotect P (some sb) rr hdr (S ++ tail) =
      (some (sb.setInteg (!rr) ⟨(sb.integObj (!rr)).alg, (sb.integObj (!rr)).key, S⟩),
       if tail = (P.mac (sb.integObj (!rr)).alg (sb.integObj (!rr)).key S).take sb.integInfo.outLen then
         (1, do
            let plain ← cbcDecrypt P (sb.encrObj (!rr)) ct
            let ps ← decodeChain ft plain
            .ok ⟨H, ps⟩)
       else (0, .err)) := by
  rw [unprotect_sk P sb rr hdr _ _ hdec rfl,
    decryptMsg_eq P hP sb hw rr _ _ ft (ct ++ tail) rfl (by rw [List.length_append]; omega)
      (by rw [List.length_append]; omega),
    ← htl, List.length_append, List.length_append, Nat.add_sub_cancel, Nat.add_sub_cancel,
    drop_prefix_eq ct tail _ rfl, take_prefix_eq ct tail _ rfl, take_prefix_eq S tail _ rfl]

namespace Spec

/-- the ciphertext blocks of the RFC message -/
def skCt (P : Prims) (k : SkParams) (inner iv pad : Bytes) : Bytes :=
  cbcEnc (P.enc k.ke) iv (inner ++ pad ++ [UInt8.ofNat pad.length])

/-- the total length the RFC message states in its header -/
def skTotal (P : Prims) (k : SkParams) (inner iv pad : Bytes) : Nat :=
  28 + 4 + iv.length + (skCt P k inner iv pad).length + k.icvLen

/-- everything before the checksum -/
def skSigned (P : Prims) (k : SkParams) (h : Header) (ft : UInt8) (inner iv pad : Bytes) : Bytes :=
  (put64 h.ispi ++ put64 h.rspi ++
    [Facts.typeSK, (h.major <<< 4) ||| (h.minor &&& 0x0F), h.exch, h.flags] ++ put32 h.mid ++
    put32 (UInt32.ofNat (skTotal P k inner iv pad))) ++
  ([ft, 0] ++ put16 (UInt16.ofNat (skTotal P k inner iv pad - 28))) ++ iv ++ skCt P k inner iv pad

/-- the checksum of the RFC message -/
def skIcv (P : Prims) (k : SkParams) (h : Header) (ft : UInt8) (inner iv pad : Bytes) : Bytes :=
  (P.mac k.hash k.ka (skSigned P k h ft inner iv pad)).take k.icvLen

theorem skMessage_eq (P : Prims) (k : SkParams) (h : Header) (ft : UInt8) (inner iv pad : Bytes) :
    skMessage P k h ft inner iv pad = skSigned P k h ft inner iv pad ++ skIcv P k h ft inner iv pad := rfl

theorem skCt_length (P : Prims) (hP : P.Lawful) (k : SkParams) (inner iv pad : Bytes)
    (hiv : iv.length = 16) (hal : (inner.length + pad.length + 1) % 16 = 0) :
    (skCt P k inner iv pad).length = inner.length + pad.length + 1 := by
  have hl : (inner ++ pad ++ [UInt8.ofNat pad.length]).length = inner.length + pad.length + 1 := by
    rw [List.length_append, List.length_append]; rfl
  unfold skCt
  rw [cbcEnc_length _ (hP.enc_len k.ke) iv _ hiv (by rw [hl]; exact hal), hl]

theorem skIcv_length (P : Prims) (hP : P.Lawful) (k : SkParams) (h : Header) (ft : UInt8) (inner iv pad : Bytes)
    (hicv : k.icvLen ≤ P.macLen k.hash) : (skIcv P k h ft inner iv pad).length = k.icvLen := by
  unfold skIcv
  rw [List.length_take, hP.mac_len]; exact Nat.min_eq_left hicv

/-- the body of the Encrypted payload: `IV ‖ ciphertext ‖ checksum` -/
def skEnc (P : Prims) (k : SkParams) (h : Header) (ft : UInt8) (inner iv pad : Bytes) : Bytes :=
  iv ++ skCt P k inner iv pad ++ skIcv P k h ft inner iv pad

/-- the header a receiver parses from the RFC message -/
def skHeader (P : Prims) (k : SkParams) (h : Header) (ft : UInt8) (inner iv pad : Bytes) : Header :=
  { h with
    next := Facts.typeSK
    payloadBytes := [ft, 0] ++ put16 (UInt16.ofNat (4 + (skEnc P k h ft inner iv pad).length)) ++ skEnc P k h ft inner iv pad }

end Spec

open Spec

/-- The one place where the §3.14 layout is compared with the library's header marshalling; `tail`
is the genuine checksum, the zero placeholder `protect` frames first, or an attacker's octets. -/
theorem marshalHeader_skTail (P : Prims) (k : SkParams) (h : Header) (ft : UInt8)
    (inner iv pad tail : Bytes) (htl : tail.length = k.icvLen)
    (htot : skTotal P k inner iv pad ≤ 0xFFFFFFFF) :
    marshalHeader (skFrame h ft (iv ++ skCt P k inner iv pad ++ tail)) = .ok (skSigned P k h ft inner iv pad ++ tail) := by
  have e1 : 4 + (iv ++ skCt P k inner iv pad ++ tail).length = skTotal P k inner iv pad - 28 := by
    simp only [List.length_append, htl, skTotal]; omega
  unfold marshalHeader skFrame
  simp only
  rw [e1]
  have e2 : Facts.ikeHeaderLen + ([ft, 0] ++ put16 (UInt16.ofNat (skTotal P k inner iv pad - 28)) ++
      (iv ++ skCt P k inner iv pad ++ tail)).length = skTotal P k inner iv pad := by
    have : Facts.ikeHeaderLen = 28 := rfl
    simp only [List.length_append, htl, skTotal, this, put16_length, List.length_cons, List.length_nil]; omega
  rw [e2, if_neg (by omega)]
  unfold skSigned
  simp only [List.append_assoc]

theorem skMessage_marshal (P : Prims) (hP : P.Lawful) (k : SkParams) (h : Header) (ft : UInt8)
    (inner iv pad : Bytes) (hicv : k.icvLen ≤ P.macLen k.hash)
    (htot : skTotal P k inner iv pad ≤ 0xFFFFFFFF) :
    marshalHeader (skHeader P k h ft inner iv pad) = .ok (skMessage P k h ft inner iv pad) :=
  marshalHeader_skTail P k h ft inner iv pad _ (skIcv_length P hP k h ft inner iv pad hicv) htot

theorem skMessage_parseHeader (P : Prims) (hP : P.Lawful) (k : SkParams) (h : Header) (ft : UInt8)
    (inner iv pad : Bytes) (hicv : k.icvLen ≤ P.macLen k.hash)
    (hmaj : h.major.toNat < 16) (hmin : h.minor.toNat < 16)
    (htot : skTotal P k inner iv pad ≤ 0xFFFFFFFF) :
    parseHeader (skMessage P k h ft inner iv pad) = .ok (skHeader P k h ft inner iv pad) :=
  rt_header _ _ hmaj hmin (skMessage_marshal P hP k h ft inner iv pad hicv htot)

/-- the parameters of the RFC message a sender `sa` acting as `role` uses: its own direction's
cipher key, integrity key and hash, and the SA's checksum length -/
def SAKey.skParams (sa : SAKey) (role : Bool) : SkParams :=
  ⟨(sa.encrObj role).key, (sa.integObj role).key, (sa.integObj role).alg, sa.integInfo.outLen⟩

/-- `EncodeEncrypt` returns the RFC 7296 §3.14 message, pad = the first `padLen − 1` octets drawn,
and leaves the sender-direction integrity object holding the signed octets. -/
theorem protect_spec (P : Prims) (hP : P.Lawful) (sa : SAKey) (hw : sa.WF P) (role : Bool)
    (r r1 r2 : Rand) (m : Msg) (inner drawn iv : Bytes)
    (henc : encodeChain m.payloads = .ok inner)
    (hd1 : r.draw (padLen inner) = (r1, .ok drawn)) (hd2 : r1.draw 16 = (r2, .ok iv))
    (hfit : 4 + (16 + (inner.length + padLen inner) + sa.integInfo.outLen) ≤ 0xFFFF) :
    protect P sa role r m =
      (sa.setInteg role ⟨(sa.integObj role).alg, (sa.integObj role).key,
          skSigned P (sa.skParams role) m.hdr (firstType m.payloads) inner iv (drawn.take (padLen inner - 1))⟩,
       r2,
       .ok (skMessage P (sa.skParams role) m.hdr (firstType m.payloads) inner iv (drawn.take (padLen inner - 1)),
            ⟨skHeader P (sa.skParams role) m.hdr (firstType m.payloads) inner iv (drawn.take (padLen inner - 1)),
             [.sk (firstType m.payloads)
                (skEnc P (sa.skParams role) m.hdr (firstType m.payloads) inner iv (drawn.take (padLen inner - 1)))]⟩)) := by
  have hpl : (drawn.take (padLen inner - 1)).length = padLen inner - 1 := by
    rw [List.length_take, Rand.draw_ok_length hd1]; exact Nat.min_eq_left (Nat.sub_le _ _)
  have hiv := Rand.draw_ok_length hd2
  obtain ⟨hp1, -, hal⟩ := padLen_bounds inner
  have hctl : (skCt P (sa.skParams role) inner iv (drawn.take (padLen inner - 1))).length = inner.length + padLen inner := by
    rw [skCt_length P hP _ inner iv _ hiv (by rw [hpl, Nat.add_assoc, Nat.sub_add_cancel hp1]; exact hal), hpl,
      Nat.add_assoc, Nat.sub_add_cancel hp1]
  have hcl : (sa.skParams role).icvLen = sa.integInfo.outLen := rfl
  clear hal
  -- what the cipher returned, in the RFC's terms
  have hct : encryptPayload P sa role r inner =
      (r2, .ok (iv ++ skCt P (sa.skParams role) inner iv (drawn.take (padLen inner - 1)))) := by
    rw [encryptPayload_eq]
    unfold cbcEncrypt pkcs7Pad skCt
    simp only [show 16 - inner.length % 16 = padLen inner from rfl, hd1, hd2, hpl]
    rfl
  exact protect_of_ct P hP sa hw role r r2 m inner _ _ henc hct
    (by rw [List.length_append, hiv]; omega) (by rw [List.length_append, hiv, hctl]; exact hfit)
    (fun tail htl => marshalHeader_skTail P (sa.skParams role) m.hdr _ inner iv _ tail htl
      (by simp only [skTotal, hctl, hiv, hcl]; omega))

/-- `DecodeDecrypt` on the RFC message with ANY `tail` of checksum length in place of its checksum,
either header mode: `tail` is compared with the genuine checksum BEFORE the cipher is called. -/
theorem unprotect_skTail (P : Prims) (hP : P.Lawful) (sb : SAKey) (hw : sb.WF P) (rr : Bool) (k : SkParams)
    (hcl : sb.integInfo.outLen = k.icvLen) (halg : (sb.integObj (!rr)).alg = k.hash)
    (hka : (sb.integObj (!rr)).key = k.ka)
    (h : Header) (hmaj : h.major.toNat < 16) (hmin : h.minor.toNat < 16) (ft : UInt8)
    (inner iv pad : Bytes) (hiv : iv.length = 16)
    (hal : (inner.length + pad.length + 1) % 16 = 0)
    (hfit : 4 + 16 + (inner.length + pad.length + 1) + k.icvLen ≤ 0xFFFF)
    (tail : Bytes) (htl : tail.length = k.icvLen) (hdr : Option Header)
    (hhdr : hdr = none ∨ ∃ hd, hdr = some hd ∧ parseHeader (skSigned P k h ft inner iv pad ++ tail) = .ok hd) :
    unprotect P (some sb) rr hdr (skSigned P k h ft inner iv pad ++ tail) =
      (some (sb.setInteg (!rr) ⟨k.hash, k.ka, skSigned P k h ft inner iv pad⟩),
       if tail = skIcv P k h ft inner iv pad then
         (1, do
            let plain ← cbcDecrypt P (sb.encrObj (!rr)) (iv ++ skCt P k inner iv pad)
            let ps ← decodeChain ft plain
            .ok ⟨skFrame h ft (iv ++ skCt P k inner iv pad ++ tail), ps⟩)
       else (0, .err)) := by
  have hctl := skCt_length P hP k inner iv pad hiv hal
  have hdm := decodeMsg_skFrame h ft _ _ hmaj hmin
    (by simp only [List.length_append, htl, hctl, hiv]; omega)
    (marshalHeader_skTail P k h ft inner iv pad tail htl (by simp only [skTotal, hctl, hiv]; omega))
  have hdec : unprotectDecoded hdr (skSigned P k h ft inner iv pad ++ tail) =
      .ok ⟨skFrame h ft (iv ++ skCt P k inner iv pad ++ tail), [.sk ft (iv ++ skCt P k inner iv pad ++ tail)]⟩ := by
    rcases hhdr with rfl | ⟨hd, rfl, hp⟩
    · exact hdm
    · rw [unprotectDecoded_hdr _ _ hp]; exact hdm
  rw [unprotect_framed P hP sb hw rr hdr _ ft _ tail _ (htl.trans hcl.symm) hdec, hcl, halg, hka]
  rfl

/-! concrete values for the non-vacuity examples of C01 / C02 / C06 -/

/-- a toy lawful instance of the primitives (examples only) -/
def Prims.skToy : Prims where
  mac _ k m := (k ++ m ++ List.replicate 12 0).take 12
  macLen _ := 12
  enc _ b := b.reverse
  dec _ b := b.reverse

theorem Prims.skToy_lawful : Prims.skToy.Lawful :=
  ⟨by intro h k m; simp [Prims.skToy]; omega, by intro k b h; simp [Prims.skToy, h],
   by intro k b h; simp [Prims.skToy, h], by intro k b h; simp [Prims.skToy]⟩

namespace SkEx

/-- ENCR_AES_CBC (transform 12) with a 16-octet key, AUTH_HMAC_SHA1_96 (transform 2: key 20, checksum 12,
hash number 1 = SHA-1), PRF_HMAC_SHA1 (transform 2: key 20, output 20); the seven keys `[1]` … `[7]` -/
def sa : SAKey := SAKey.fresh ⟨12, 16⟩ ⟨2, 20, 12, 1⟩ ⟨2, 20, 20, 1⟩ [1] [2] [3] [4] [5] [6] [7]
/-- a holder of other keys -/
def sb : SAKey := SAKey.fresh ⟨12, 16⟩ ⟨2, 20, 12, 1⟩ ⟨2, 20, 20, 1⟩ [11] [12] [13] [14] [15] [16] [17]
def msg : Msg :=
  ⟨{ ispi := 1, rspi := 2, major := 2, minor := 0, exch := 37, flags := 8, mid := 5 }, [.nonce [1, 2, 3], .vendor [9]]⟩
def rnd : Rand := { buf := [7, 8, 9] }

/-- `protect Prims.skToy sa true rnd msg` (initiator → responder) -/
def bs : Bytes :=
  [0, 0, 0, 0, 0, 0, 0, 1, 0, 0, 0, 0, 0, 0, 0, 2, 46, 32, 37, 8, 0, 0, 0, 5, 0, 0, 0, 76, 40, 0, 0, 48, 8, 9, 7, 8, 9,
   7, 8, 9, 7, 8, 9, 7, 8, 9, 7, 8, 11, 14, 1, 15, 14, 12, 8, 7, 9, 11, 5, 8, 15, 7, 9, 35, 2, 0, 0, 0, 0, 0, 0, 0, 1,
   0, 0, 0]

/-- the body of its Encrypted payload -/
def enc : Bytes := bs.drop 32

/-- the decoded form of `bs` before any key is applied -/
def dec : Msg :=
  ⟨{ ispi := 1, rspi := 2, major := 2, minor := 0, exch := 37, flags := 8, mid := 5, next := 46, payloadBytes := bs.drop 28 },
   [.sk 40 enc]⟩

theorem sa_wf : sa.WF Prims.skToy := by unfold SAKey.WF; decide
theorem sb_wf : sb.WF Prims.skToy := by unfold SAKey.WF; decide

theorem msg_rt : ∀ p ∈ msg.payloads, PayloadRT p ∧ p.isSK = false := by
  intro p hp
  simp only [msg, List.mem_cons, List.not_mem_nil, or_false] at hp
  rcases hp with rfl | rfl <;> refine ⟨?_, rfl⟩ <;> intro b nx h <;>
    simp only [marshalPayload, marshalRaw, Res.ok.injEq] at h <;> subst h <;> rfl

theorem protect_bs_full : ∃ sa' r' mo, protect Prims.skToy sa true rnd msg = (sa', r', .ok (bs, mo)) := by
  have hp : (protect Prims.skToy sa true rnd msg).2.2.map Prod.fst = .ok bs := by decide +kernel
  cases h : protect Prims.skToy sa true rnd msg with
  | mk sa' x =>
    obtain ⟨r', res⟩ := x
    rw [h] at hp
    cases res with
    | err => cases hp
    | fault => cases hp
    | ok o =>
      obtain ⟨b, mo⟩ := o
      have hb : b = bs := by cases hp; rfl
      subst hb
      exact ⟨sa', r', mo, rfl⟩

theorem decoded_bs : unprotectDecoded none bs = .ok dec := by decide +kernel

theorem accepted_bs : (unprotect Prims.skToy (some sa) false none bs).2.2 = .ok ⟨dec.hdr, msg.payloads⟩ := by
  decide +kernel

end SkEx

end Ike
