import IkeProofs.Lemmas.RoundTrip

/-! Lemmas about the algorithm registry model (`Ike.Registry`): what the
transforms built by the `ToTransform` functions look like on the wire (singly
and as a proposal), and the decode functions as table search.  Nothing here
inspects the contents of the generated tables; of the generated constants the proofs use the value of
`Facts.attrFormatTV` (`mk_tv`, `marshal_tv`) and of the four identifiers in `decodeDh_cases`, `decodeEsn_cases`.
`SurvivesWire` is defined here. -/

namespace Ike

namespace Registry

/-- the transform is in the encodable domain, `marshalTransform` accepts it in
either position with at most 12 octets (no variable-length attribute), and
`parseTransform` reads it back unchanged whatever octets follow it.  `WireRoundTrip dec t a` of C11.lean is
this together with `dec t = some a` (`wireRoundTrip_of`). -/
def SurvivesWire (t : Transform) : Prop :=
  t.Dom ∧ ∀ (last : Bool) (rest : Bytes),
    ∃ h, marshalTransform last t = .ok h ∧ h.length ≤ 12 ∧ parseTransform (h ++ rest) = .ok (t, h.length)

theorem survives_of_marshal (t : Transform) (hd : t.Dom)
    (hm : ∀ last, ∃ h, marshalTransform last t = .ok h ∧ h.length ≤ 12) : SurvivesWire t := by
  refine ⟨hd, fun last rest => ?_⟩
  obtain ⟨h, hh, hl⟩ := hm last
  exact ⟨h, hh, hl, (parseTransform_marshal t last h rest hd hh).1⟩

theorem mk_noAttr (tt : UInt8) (tid : UInt16) :
    mkTransform tt tid noAttr = ⟨tt, tid, false, 0, 0, 0, []⟩ := by
  simp [mkTransform, noAttr]

/-- octet 0 of a transform: 3 when another transform follows, 0 for the last -/
theorem marshal_noAttr (last : Bool) (tt : UInt8) (tid : UInt16) :
    marshalTransform last (mkTransform tt tid noAttr)
      = .ok ([if last then 0 else 3, 0] ++ put16 8 ++ [tt, 0] ++ put16 tid) := by
  rw [mk_noAttr]
  simp [marshalTransform, marshalAttr]

theorem survives_noAttr (tt : UInt8) (tid : UInt16) : SurvivesWire (mkTransform tt tid noAttr) :=
  survives_of_marshal _ (by rw [mk_noAttr]; left; simp) (fun last => ⟨_, marshal_noAttr last tt tid, by simp⟩)

theorem mk_tv (tt : UInt8) (tid aty av : UInt16) :
    mkTransform tt tid (true, aty, av, none) = ⟨tt, tid, true, 1, aty, av, []⟩ := by
  simp [mkTransform, Facts.attrFormatTV]

/-- `0x8000` is the AF bit (fixed-length attribute) in front of the 15-bit attribute type -/
theorem marshal_tv (last : Bool) (tt : UInt8) (tid aty av : UInt16) :
    marshalTransform last (mkTransform tt tid (true, aty, av, none))
      = .ok ([if last then 0 else 3, 0] ++ put16 12 ++ [tt, 0] ++ put16 tid ++
             (put16 ((0x8000 : UInt16) ||| aty) ++ put16 av)) := by
  rw [mk_tv]
  have h1 : ((1 : UInt8) == 0) = false := by decide
  simp [marshalTransform, marshalAttr, h1]
  rfl

theorem survives_tv (tt : UInt8) (tid aty av : UInt16) (h : aty.toNat < 32768) :
    SurvivesWire (mkTransform tt tid (true, aty, av, none)) :=
  survives_of_marshal _ (by rw [mk_tv]; right; left; simp [h])
    (fun last => ⟨_, marshal_tv last tt tid aty av, by simp⟩)

theorem marshalTransforms_ok (ts : List Transform) (hs : ∀ t ∈ ts, SurvivesWire t) :
    ∃ td, marshalTransforms ts = .ok td ∧ td.length ≤ 12 * ts.length := by
  induction ts with
  | nil => exact ⟨[], rfl, Nat.le_refl _⟩
  | cons t rest ih =>
    obtain ⟨h, hm, hl, -⟩ := (hs t (List.mem_cons_self ..)).2 rest.isEmpty []
    obtain ⟨td, htd, hle⟩ := ih fun u hu => hs u (List.mem_cons_of_mem _ hu)
    refine ⟨h ++ td, by rw [marshalTransforms, hm, htd]; rfl, ?_⟩
    rw [List.length_append, List.length_cons]; omega

theorem survives_singleton {c : UInt8} {t : Transform} (ht : t.ttype = c) (hs : SurvivesWire t) :
    ∀ u ∈ [t], u.ttype = c ∧ SurvivesWire u := by
  simp only [List.mem_singleton, forall_eq]; exact ⟨ht, hs⟩

/-- A proposal without SPI whose transforms (between 1 and 255 of them), each filed under its type,
survive the wire: it is in the encodable domain, accepted by the SA encoder and returned unchanged by
the SA decoder. -/
theorem survives_proposal (p : Proposal) (hspi : p.spi = [])
    (h1 : ∀ t ∈ p.encr, t.ttype = Facts.ttEncr ∧ SurvivesWire t)
    (h2 : ∀ t ∈ p.prf, t.ttype = Facts.ttPrf ∧ SurvivesWire t)
    (h3 : ∀ t ∈ p.integ, t.ttype = Facts.ttInteg ∧ SurvivesWire t)
    (h4 : ∀ t ∈ p.dh, t.ttype = Facts.ttDh ∧ SurvivesWire t)
    (h5 : ∀ t ∈ p.esn, t.ttype = Facts.ttEsn ∧ SurvivesWire t)
    (h0 : p.transforms ≠ []) (h255 : p.transforms.length ≤ 255) :
    p.Dom ∧ ∃ bs, marshalSA [p] = .ok bs ∧ unmarshalSA bs = .ok (.sa [p]) := by
  have hd : p.Dom := ⟨fun t h => ⟨(h1 t h).1, (h1 t h).2.1⟩, fun t h => ⟨(h2 t h).1, (h2 t h).2.1⟩,
    fun t h => ⟨(h3 t h).1, (h3 t h).2.1⟩, fun t h => ⟨(h4 t h).1, (h4 t h).2.1⟩,
    fun t h => ⟨(h5 t h).1, (h5 t h).2.1⟩⟩
  have hs : ∀ t ∈ p.transforms, SurvivesWire t := by
    intro t ht
    simp only [Proposal.transforms, List.mem_append] at ht
    rcases ht with (((h | h) | h) | h) | h
    · exact (h1 t h).2
    · exact (h2 t h).2
    · exact (h3 t h).2
    · exact (h4 t h).2
    · exact (h5 t h).2
  obtain ⟨td, htd, hle⟩ := marshalTransforms_ok _ hs
  have hm : ∃ bs, marshalSA [p] = .ok bs := by
    unfold marshalSA marshalProposals marshalProposal
    rw [hspi, if_neg (by simp), if_neg (by simpa using h0), if_neg (by omega)]
    simp only [htd, Res.bind_ok, List.length_nil]
    rw [if_neg (by omega)]
    exact ⟨_, rfl⟩
  obtain ⟨bs, hbs⟩ := hm
  exact ⟨hd, bs, hbs, rt_SA _ bs (by simpa using hd) hbs⟩

/-- a transform read from the wire whose format bit says "variable length"
(or that has no attribute at all) carries the fixed-length value 0; without an
attribute the attribute type is 0 as well -/
theorem parseTransform_aval_zero (td : Bytes) (t : Transform) (n : Nat) (h : parseTransform td = .ok (t, n)) :
    (t.fmt = 0 → t.aval = 0) ∧ (t.present = false → t.atype = 0 ∧ t.aval = 0) := by
  unfold parseTransform at h
  obtain ⟨tl, -, h⟩ := Res.bind_eq_ok h
  obtain ⟨tt, -, h⟩ := Res.bind_eq_ok (Res.ite_err_eq_ok (Res.ite_err_eq_ok h).2).2
  obtain ⟨tid, -, h⟩ := Res.bind_eq_ok h
  -- the three places where a transform is returned: TLV attribute, TV attribute, no attribute
  by_cases h8 : tl > 8
  · rw [if_pos h8] at h
    obtain ⟨b8, -, h⟩ := Res.bind_eq_ok (Res.ite_err_eq_ok h).2
    obtain ⟨ft, -, h⟩ := Res.bind_eq_ok h
    by_cases hf : ((b8 &&& 0x80) >>> 7 == 0) = true
    · rw [if_pos hf] at h
      obtain ⟨al, -, h⟩ := Res.bind_eq_ok h
      obtain ⟨v, -, h⟩ := Res.bind_eq_ok (Res.ite_err_eq_ok h).2
      cases h
      simp
    · rw [if_neg hf] at h
      obtain ⟨av, -, h⟩ := Res.bind_eq_ok h
      cases h
      simp only [beq_iff_eq] at hf
      simp [hf]
  · rw [if_neg h8] at h
    cases h
    simp

theorem findId_some {tbl : List (UInt16 × Nat × Nat × Nat)} {id : UInt16} {r : UInt16 × Nat × Nat × Nat}
    (h : findId tbl id = some r) : r.1 = id ∧ r ∈ tbl := by
  unfold findId at h
  have h1 := List.find?_some h
  have h2 := List.mem_of_find?_eq_some h
  simp only [beq_iff_eq] at h1
  exact ⟨h1, h2⟩

theorem findId_isSome_iff (tbl : List (UInt16 × Nat × Nat × Nat)) (id : UInt16) :
    (findId tbl id).isSome ↔ ∃ r ∈ tbl, r.1 = id := by
  rw [findId, List.find?_isSome]
  simp only [beq_iff_eq]

theorem aesCbcRow_some {tbl : List (UInt16 × Nat)} {aty av : UInt16} {r : UInt16 × Nat}
    (h : aesCbcRow tbl aty av = some r) :
    aty = Facts.attrTypeKeyLength ∧ r.2 * 8 = av.toNat ∧ r ∈ tbl := by
  unfold aesCbcRow at h
  split at h
  · rename_i hty
    have h1 := List.find?_some h
    have h2 := List.mem_of_find?_eq_some h
    simp only [beq_iff_eq] at h1 hty
    exact ⟨hty, h1, h2⟩
  · simp at h

theorem decodeEncrRow_some {tbl : List (UInt16 × Nat)} {t : Transform} {r : UInt16 × Nat}
    (h : decodeEncrRow tbl t = some r) :
    t.tid = Facts.encrAesCbcId ∧ t.atype = Facts.attrTypeKeyLength ∧ r.2 * 8 = t.aval.toNat ∧ r ∈ tbl := by
  unfold decodeEncrRow at h
  split at h
  · rename_i hid
    simp only [beq_iff_eq] at hid
    exact ⟨hid, aesCbcRow_some h⟩
  · simp at h

theorem decodeEncrRow_isSome_iff {tbl : List (UInt16 × Nat)} {t : Transform} :
    (decodeEncrRow tbl t).isSome ↔
      t.tid = Facts.encrAesCbcId ∧ t.atype = Facts.attrTypeKeyLength ∧ ∃ r ∈ tbl, r.2 * 8 = t.aval.toNat := by
  unfold decodeEncrRow aesCbcRow
  by_cases h1 : t.tid = Facts.encrAesCbcId
  · rw [if_pos (beq_iff_eq.mpr h1)]
    by_cases h2 : t.atype = Facts.attrTypeKeyLength
    · rw [if_pos (beq_iff_eq.mpr h2), List.find?_isSome]
      simp only [beq_iff_eq, h1, h2, true_and]
    · rw [if_neg fun h => h2 (beq_iff_eq.mp h)]
      exact ⟨nofun, fun h => absurd h.2.1 h2⟩
  · rw [if_neg fun h => h1 (beq_iff_eq.mp h)]
    exact ⟨nofun, fun h => absurd h.1 h1⟩

/-! each table decoder is a table search followed by packing the row into the descriptor record -/

theorem decodeEncr_eq (t : Transform) :
    decodeEncr t = (decodeEncrRow Facts.encrTable t).map fun r => ⟨r.1, r.2⟩ := by
  unfold decodeEncr; cases decodeEncrRow Facts.encrTable t <;> rfl

theorem decodeEncrChild_eq (t : Transform) :
    decodeEncrChild t = (decodeEncrRow Facts.encrChildTable t).map fun r => ⟨r.1, r.2⟩ := by
  unfold decodeEncrChild; cases decodeEncrRow Facts.encrChildTable t <;> rfl

theorem decodeInteg_eq (t : Transform) :
    decodeInteg t = (findId Facts.integTable t.tid).map fun r => ⟨r.1, r.2.1, r.2.2.1, r.2.2.2⟩ := by
  unfold decodeInteg; cases findId Facts.integTable t.tid <;> rfl

theorem decodeIntegChild_eq (t : Transform) :
    decodeIntegChild t = (findId Facts.integChildTable t.tid).map fun r => ⟨r.1, r.2.1⟩ := by
  unfold decodeIntegChild; cases findId Facts.integChildTable t.tid <;> rfl

theorem decodePrf_eq (t : Transform) :
    decodePrf t = (findId Facts.prfTable t.tid).map fun r => ⟨r.1, r.2.1, r.2.2.1, r.2.2.2⟩ := by
  unfold decodePrf; cases findId Facts.prfTable t.tid <;> rfl

/-- the identifiers are the generated `Facts.group2Id` … , which unfold to the literals of the statements -/
theorem decodeDh_cases (t : Transform) :
    (t.tid = 2 ∧ decodeDh t = some group2) ∨ (t.tid = 14 ∧ decodeDh t = some group14) ∨
    (t.tid ≠ 2 ∧ t.tid ≠ 14 ∧ decodeDh t = none) :=
  ite2_cases t.tid Facts.group2Id Facts.group14Id _ _ _

theorem decodeEsn_cases (t : Transform) :
    (t.tid = 1 ∧ decodeEsn t = .ok ⟨true⟩) ∨ (t.tid = 0 ∧ decodeEsn t = .ok ⟨false⟩) ∨
    (t.tid ≠ 1 ∧ t.tid ≠ 0 ∧ decodeEsn t = .err) :=
  ite2_cases t.tid Facts.esnEnableId Facts.esnDisableId _ _ _

end Registry
end Ike
