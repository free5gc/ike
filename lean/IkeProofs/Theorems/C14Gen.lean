import IkeProofs.RefineEap.Glue
import IkeProofs.Theorems.C14

/-! # C14 over the code as translated from the current source (`tools/go2lean`, package `eap`)

The generated codec is the model's (`RefineEap/Glue.lean`), so the round trip and encodability of `C14` hold of it
on `GenAbs.repEap e`; what the generated attribute map needs besides, its invariant `GenAbs.AkaWF`, is kept by the API. -/

namespace Ike
open Ike.RefineEap Ike.Gen.eap

/-- the generated `EAP.Unmarshal` / `EAP.Marshal` / `SetAttr` / `GetAttr` are the model's, on every input -/
theorem C14_gen_codec_is_model :
    (∀ b : Bytes, (EAP.Unmarshal {} b).map GenAbs.absEap = unmarshalEap b) ∧
    (∀ e : Gen.eap.EAP, EapWF e → EAP.Marshal e = marshalEap (GenAbs.absEap e)) ∧
    (∀ (g : Gen.eap.EapAkaPrime), GenAbs.AkaWF g → ∀ (t : UInt8) (v : Bytes),
        (EapAkaPrime.SetAttr g t v).map GenAbs.absAka = akaSetAttr (GenAbs.absAka g) t v) ∧
    (∀ (g : Gen.eap.EapAkaPrime), GenAbs.AkaWF g → ∀ (t : UInt8),
        (EapAkaPrime.GetAttr g t).map (fun a => a.value) = akaGetAttr (GenAbs.absAka g) t) :=
  ⟨Gen_EAP_Unmarshal, Gen_EAP_Marshal, SetAttr_refines, GetAttr_refines⟩

/-- round trip through the generated encoder and decoder, for every packet of the domain -/
theorem C14_gen_roundtrip (e : Eap) (bs : Bytes) (hd : DomEap e) (h : EAP.Marshal (GenAbs.repEap e) = .ok bs) :
    (EAP.Unmarshal {} bs).map GenAbs.absEap = .ok e := by
  rw [Gen_EAP_Marshal_rep e (domEap_sorted e hd)] at h
  rw [Gen_EAP_Unmarshal]
  exact C14_roundtrip e bs hd h

/-- every packet of the domain is encoded by the generated encoder -/
theorem C14_gen_encodable (e : Eap) (hd : DomEap e) : ∃ bs, EAP.Marshal (GenAbs.repEap e) = .ok bs := by
  obtain ⟨bs, h⟩ := C14_encodable e hd
  exact ⟨bs, by rw [Gen_EAP_Marshal_rep e (domEap_sorted e hd)]; exact h⟩

/-- the attribute-map invariant is preserved by everything the API offers -/
theorem C14_gen_map_invariant :
    (∀ st g, NewEapAkaPrime st = .ok g → GenAbs.AkaWF g) ∧
    (∀ g, GenAbs.AkaWF g → ∀ t v g', EapAkaPrime.SetAttr g t v = .ok g' → GenAbs.AkaWF g') ∧
    (∀ raw g, EapAkaPrime.Unmarshal {} raw = .ok g → GenAbs.AkaWF g) :=
  ⟨NewEapAkaPrime_wf, SetAttr_wf, EapAkaPrime_Unmarshal_wf⟩

end Ike
