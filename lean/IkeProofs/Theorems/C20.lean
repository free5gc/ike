import IkeModel.Mem
import IkeModel.Generated.Footprint
import IkeModel.Ike

/-!
# C20 — decoded messages own their data; encoding is pure and deterministic (partial)

(i)  Ownership.  `Mem.lean` gives Go's slice/append semantics over a store of
     backing arrays.  `C20_no_alias`: a decoder whose stores into slice-typed
     fields are all of class `copyAppend` or `fresh` returns fields that read
     the same whatever is later written into the input's array.
     `C20_generated`: in the footprint regenerated from the current source by
     `tools/extract`, every store into a slice-typed field, in every function of
     the library (so also in every `Unmarshal` / `Decode` / `DecodeDecrypt` /
     `decryptMsg`), is `copyAppend`, `fresh` or a view of a local buffer, except
     the documented views (header bookkeeping `PayloadBytes`, constructor / builder
     arguments).  Turning one `append(x.f, src...)` into `x.f = src[a:b]` changes
     the generated data and the theorem fails.
(ii) Purity in the functional model (where every function is deterministic by
     construction): `encodeMsg` keeps the seven header fields it is given and
     encoding the returned header with the same payloads gives the same octets, and
     `protect` changes nothing but the payload list (one SK payload) and the two
     derived header fields.

Not exhibited by the model: real pointer identity — the footprint abstraction is
syntactic; the scribble-after-decode oracle of the harness validates it on the
implementation.
-/

namespace Ike

open Mem

theorem read_scribble_other (st : Store) (v : View) (id : Nat) (f : Bytes → Bytes) (h : v.arr ≠ id) :
    read (scribble st id f) v = read st v := by
  simp [Mem.read, Mem.scribble, h]

/-- a copied / fresh field lives in an array that did not exist before the store was executed -/
theorem exec_owned (st : Store) (input : View) (c : Class) (a b : Nat) (hc : c ≠ .alias) :
    (exec st input c a b).2.arr = st.next ∧ (exec st input c a b).1.next = st.next + 1 := by
  cases c with
  | copyAppend => exact ⟨rfl, rfl⟩
  | fresh => exact ⟨rfl, rfl⟩
  | alias => exact absurd rfl hc

/-- all views produced by a footprint without `alias` stores point at arrays allocated after `st.next` -/
theorem execAll_owned (st : Store) (input : View) (prog : List (Class × Nat × Nat))
    (h : ∀ s ∈ prog, s.1 ≠ .alias) :
    (∀ v ∈ (execAll st input prog).2, st.next ≤ v.arr) ∧ st.next ≤ (execAll st input prog).1.next := by
  induction prog generalizing st with
  | nil => simp [Mem.execAll]
  | cons s rest ih =>
    obtain ⟨c, a, b⟩ := s
    have hc := h (c, a, b) (by simp)
    obtain ⟨e1, e2⟩ := exec_owned st input c a b hc
    have ihr := ih (exec st input c a b).1 (fun s hs => h s (by simp [hs]))
    simp only [Mem.execAll]
    constructor
    · intro v hv
      simp at hv
      rcases hv with rfl | hv
      · omega
      · have := ihr.1 v hv; omega
    · have := ihr.2; omega

/-- **no field aliases the input**: after decoding with a footprint free of `alias` stores, overwriting
the receive buffer (any array that existed before decoding, in any way) leaves every field unchanged. -/
theorem C20_no_alias (st : Store) (input : View) (prog : List (Class × Nat × Nat))
    (h : ∀ s ∈ prog, s.1 ≠ .alias) (hin : input.arr < st.next) (f : Bytes → Bytes) :
    ∀ v ∈ (execAll st input prog).2,
      read (scribble (execAll st input prog).1 input.arr f) v = read (execAll st input prog).1 v := by
  intro v hv
  apply read_scribble_other
  have := (execAll_owned st input prog h).1 v hv
  omega

/-- conversely an `alias` store does share the input's array (the theorem above is not vacuous:
its premise is what rules this out) -/
theorem C20_alias_shares (st : Store) (input : View) (a b : Nat) :
    (exec st input .alias a b).2.arr = input.arr := rfl

open Footprint

/-- the documented places where a slice-typed field is made a view of a slice parameter:
`ParseHeader` keeps the payload octets as a view of the datagram in the header's bookkeeping field `PayloadBytes`
(not a payload field; the payload container copies out of it); the constructors `NewHeader` / `NewMessage` and the
builder `BuildDeletePayload` take ownership of their arguments (constructors, not decoders) -/
def c20DocumentedViews : List (String × String × String × String) :=
  [("ParseHeader", "lit.PayloadBytes", "alias", "param"),
   ("NewHeader", "lit.PayloadBytes", "alias", "param"),
   ("NewMessage", "lit.Payloads", "alias", "param"),
   ("IKEPayloadContainer.BuildDeletePayload", "deletePayload.SPIs", "alias", "param")]

/-- in the current source every store into a slice-typed field — in EVERY function of the library, so that moving
decoding code into a helper cannot take it out of sight — copies (`append(dst, src...)`), allocates (`make`,
literal, call result) or stores a view of a local buffer that is not derived from a slice parameter; the only views
of a parameter are the four documented ones, none of which is a payload field of a decoded message -/
theorem C20_generated :
    ∀ s ∈ sliceStores, s.2.2.1 = "copyAppend" ∨ s.2.2.1 = "fresh" ∨ s.2.2.1 = "local" ∨ s ∈ c20DocumentedViews := by
  decide +kernel

/-- plain encoding keeps the seven header fields of the message (it sets only next-payload and the payload
octets), and encoding the returned header with the same payloads gives the same result again -/
theorem C20_encode_pure (m : Msg) (bs : Bytes) (h : Header) (hm : encodeMsg m = .ok (bs, h)) :
    h.ispi = m.hdr.ispi ∧ h.rspi = m.hdr.rspi ∧ h.major = m.hdr.major ∧ h.minor = m.hdr.minor ∧
    h.exch = m.hdr.exch ∧ h.flags = m.hdr.flags ∧ h.mid = m.hdr.mid ∧
    encodeMsg ⟨h, m.payloads⟩ = .ok (bs, h) := by
  unfold encodeMsg at hm ⊢
  cases hc : encodeChain m.payloads with
  | err => simp [hc] at hm
  | fault => simp [hc] at hm
  | ok pb =>
    simp only [hc, Res.bind_ok] at hm ⊢
    cases hh : marshalHeader { m.hdr with next := firstType m.payloads, payloadBytes := pb } with
    | err => simp [hh] at hm
    | fault => simp [hh] at hm
    | ok out =>
      simp [hh] at hm
      obtain ⟨rfl, rfl⟩ := hm
      simp [hh]

/-- protecting a message leaves exactly one Encrypted payload in its payload list and does not touch the
header fields other than the two derived ones -/
theorem C20_protect_effect (P : Prims) (sa : SAKey) (role : Bool) (r : Rand) (m : Msg)
    (sa' : SAKey) (r' : Rand) (bs : Bytes) (m' : Msg)
    (h : protect P sa role r m = (sa', r', .ok (bs, m'))) :
    (∃ n d, m'.payloads = [.sk n d]) ∧
    m'.hdr.ispi = m.hdr.ispi ∧ m'.hdr.rspi = m.hdr.rspi ∧ m'.hdr.major = m.hdr.major ∧
    m'.hdr.minor = m.hdr.minor ∧ m'.hdr.exch = m.hdr.exch ∧ m'.hdr.flags = m.hdr.flags ∧
    m'.hdr.mid = m.hdr.mid := by
  -- follow `protect`: payload chain, encryption, first `encodeMsg` (zero checksum), MAC, second `encodeMsg`;
  -- every failing branch contradicts `h`; the header fields come from `C20_encode_pure`, twice
  unfold protect at h
  cases hc : encodeChain m.payloads with
  | err => simp [hc] at h
  | fault => simp [hc] at h
  | ok plain =>
    simp only [hc] at h
    cases he : encryptPayload P sa role r plain with
    | mk r1 res =>
      cases res with
      | err => simp [he] at h
      | fault => simp [he] at h
      | ok ct =>
        simp only [he] at h
        cases hm1 : encodeMsg ⟨m.hdr, [.sk (firstType m.payloads) (ct ++ zeros sa.integInfo.outLen)]⟩ with
        | err => simp [hm1] at h
        | fault => simp [hm1] at h
        | ok dh =>
          obtain ⟨data, h1⟩ := dh
          simp only [hm1] at h
          have f1 := C20_encode_pure _ _ _ hm1
          split at h
          · simp at h
          · cases hci : calcIntegrity P sa role (List.take (data.length - sa.integInfo.outLen) data) with
            | mk sa1 cres =>
              cases cres with
              | err => simp [hci] at h
              | fault => simp [hci] at h
              | ok checksum =>
                simp only [hci] at h
                cases hm2 : encodeMsg ⟨h1, [.sk (firstType m.payloads)
                    (setTail (ct ++ zeros sa.integInfo.outLen) sa.integInfo.outLen checksum)]⟩ with
                | err => simp [hm2] at h
                | fault => simp [hm2] at h
                | ok oh =>
                  obtain ⟨out, h2⟩ := oh
                  simp [hm2] at h
                  obtain ⟨_, _, _, rfl⟩ := h
                  have f2 := C20_encode_pure _ _ _ hm2
                  simp only at f1 f2
                  refine ⟨⟨_, _, rfl⟩, ?_⟩
                  simp only
                  obtain ⟨a1, a2, a3, a4, a5, a6, a7, _⟩ := f1
                  obtain ⟨b1, b2, b3, b4, b5, b6, b7, _⟩ := f2
                  exact ⟨b1.trans a1, b2.trans a2, b3.trans a3, b4.trans a4, b5.trans a5, b6.trans a6, b7.trans a7⟩

/-! non-vacuity -/
example : (execAll ⟨fun _ => [1, 2, 3, 4], 1⟩ ⟨0, 0, 4⟩ [(.copyAppend, 1, 3), (.fresh, 0, 2)]).2.map
    (read (scribble (execAll ⟨fun _ => [1, 2, 3, 4], 1⟩ ⟨0, 0, 4⟩ [(.copyAppend, 1, 3), (.fresh, 0, 2)]).1 0 (fun _ => [9, 9, 9, 9])))
    = [[2, 3], [1, 2]] := by decide
example : read (scribble ⟨fun _ => [1, 2, 3, 4], 1⟩ 0 (fun _ => [9, 9, 9, 9])) (exec ⟨fun _ => [1, 2, 3, 4], 1⟩ ⟨0, 0, 4⟩ .alias 1 3).2
    = [9, 9] := by decide

end Ike
