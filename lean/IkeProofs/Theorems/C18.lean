import IkeModel.Conc
import IkeModel.Generated.Footprint

/-!
# C18 — independent SAs and messages can be processed concurrently (partial)

What is logic is proved; what lives in the Go runtime is named.

(i)  Over the footprint regenerated from /repo's current source by
     `tools/extract` on every run: the library keeps no mutable state outside
     the objects passed in — every write to (or escape of) a package-level
     variable happens in an `init` function (or in a `sync.Once` initialiser, or
     is the use of a lock: see `C18_globals_init_only`), except two reviewed read-only
     escapes, and no method of a shared registry descriptor writes through its
     receiver.  These are `decide` over generated data: a change of the code
     that adds a package-level write, a shared scratch buffer, a cache, or
     mutable state in a descriptor changes the data and the theorem fails.

(ii) `C18_noninterference`: in the interleaving model (threads own disjoint
     states; operations are functions of read-only environment, own state and
     their own random draws), for EVERY schedule the state and outputs of each
     thread are those of the thread running alone for as many steps as it was
     scheduled — by induction over the schedule, no bound on threads or steps.

Not exhibited by any model here (trusted): the Go memory model, the scheduler,
the thread-safety of crypto/rand, hmac.New, aes.NewCipher and read-only
math/big use.  The `-race` harness run is the supporting oracle for that part.
-/

namespace Ike

open Footprint

/-- escapes of package-level variables outside `init` that were reviewed as read-only:
`rand.Int(rand.Reader, &randomNumberMaximum)` and `number.Cmp(&randomNumberMinimum)` -/
def c18ReadOnlyEscapes : List (String × String × String × String) :=
  [("security", "randomNumberMaximum", "GenerateRandomNumber", "addr"),
   ("security", "randomNumberMinimum", "GenerateRandomNumber", "addr")]

/-- An entry `u` of `Footprint.globalUses` is (package, variable, enclosing function, kind of use): `u.2.2.1` is the
function, `u.2.2.2` the kind.  (The `Cxx_no_state_outside_objects` theorems of the `CxxState.lean` files repeat this
statement.)
Every write to, address-of, slicing of, pointer-method call on, or reference-passing of a
package-level variable occurs in an `init` function, or is one of the two reviewed read-only escapes.
Also admitted (neither occurs on the pinned tree): a write inside the function literal handed to
`Do` of a package-level `sync.Once` (`"once-init"`: executed once, before any reader gets past the
Once — race-free lazy initialisation of a table), and the use of a package-level `sync.Once` /
`sync.Mutex` / `sync.RWMutex` itself (`"sync-primitive"`: a lock holds no data; what it protects is
still subject to this theorem). -/
theorem C18_globals_init_only :
    ∀ u ∈ globalUses, u.2.2.1 = "init" ∨ u.2.2.1 = "once-init" ∨ u.2.2.2 = "sync-primitive" ∨ u ∈ c18ReadOnlyEscapes := by
  decide +kernel

/-- no method of a type whose values sit in the shared registries writes through its receiver -/
theorem C18_descriptors_immutable : descriptorWrites = [] := by decide

open Conc

theorem System.step_other {σ ω : Type} (sys : System σ ω) (i j : Nat) (h : j ≠ i) :
    (sys.step i) j = sys j := by simp [System.step, h]

theorem System.step_self {σ ω : Type} (sys : System σ ω) (i : Nat) :
    (sys.step i) i = (sys i).step := by simp [System.step]

theorem Thread.steps_succ {σ ω : Type} (t : Thread σ ω) (n : Nat) :
    t.steps (n + 1) = (t.steps n).step := by
  induction n generalizing t with
  | zero => rfl
  | succ n ih => rw [Thread.steps, ih]; rfl

/-- **schedule non-interference**: whatever the schedule, thread `j` ends in the state, with the
outputs, it reaches running alone for as many steps as the schedule gave it. -/
theorem C18_noninterference {σ ω : Type} (sys : System σ ω) (sched : List Nat) (j : Nat) :
    (sys.run sched) j = (sys j).steps (sched.count j) := by
  induction sched generalizing sys with
  | nil => rfl
  | cons i rest ih =>
    show (System.run (sys.step i) rest) j = _
    rw [ih]
    by_cases h : j = i
    · subst h
      rw [System.step_self, List.count_cons_self]
      rfl
    · rw [System.step_other _ _ _ h, List.count_cons_of_ne (fun e => h e.symm)]

/-- in particular two schedules that give a thread the same number of steps cannot be told apart by it -/
theorem C18_schedule_irrelevant {σ ω : Type} (sys : System σ ω) (s1 s2 : List Nat) (j : Nat)
    (h : s1.count j = s2.count j) : (sys.run s1) j = (sys.run s2) j := by
  rw [C18_noninterference, C18_noninterference, h]

/-- two threads with counters, for the samples below -/
def c18Sys : System Nat Nat := fun i =>
  ⟨i * 100, [fun s => (s + 1, s), fun s => (s + 2, s), fun s => (s * 2, s)], []⟩

example : ((c18Sys.run [0, 1, 1, 0, 1, 0]) 1).done = [100, 101, 103] := by decide
example : ((c18Sys.run [1, 1, 1]) 1).done = [100, 101, 103] := by decide

end Ike
