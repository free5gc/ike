import IkeProofs.RefineSa.RandNum
import IkeProofs.RefineEap.Crypto
import IkeProofs.Theorems.C07
import IkeProofs.RefineSa.Transfer

/-! C07 over the translated `lib.PrfPlus`, `GenerateKeyForIKESA` and `NewIKESAKey`.  `C07_gen_keygen_is_model` and
`C07_gen_refusals` restate theorems of `RefineSa/Keys.lean` under the name the check looks for; the others are proved here
from the model's C07 and the refinements. -/

namespace Ike
open Ike.RefineEap

/-- the generated `lib.PrfPlus` computes the RFC 7296 §2.13 stream for any state the PRF object is handed over in -/
theorem C07_gen_prfplus (P : Prims) (hP : P.Lawful) (prf : Go.Mac) (s : Bytes) (n : Nat) (hL : 0 < P.macLen prf.h) :
    (Gen.lib.PrfPlus P prf s (n : Int)).map (·.2) = .ok (Spec.prfPlusN (P.mac prf.h) (P.macLen prf.h) prf.key s n) := by
  have h := PrfPlus_refines_lawful P hP prf s n
  obtain ⟨h1, _, _⟩ := C07_prfplus P hP (absMac prf) s n hL
  cases hp : prfPlus P (absMac prf) s n with
  | mk h' r =>
    rw [hp] at h h1
    simp only at h1
    subst h1
    obtain ⟨v, hg, hv⟩ := RefineSa.map_eq_ok h
    rw [hg]
    exact congrArg Res.ok (Prod.mk.inj hv).2

open Ike.RefineSa Ike.GenAbsSa in
/-- the translated `GenerateKeyForIKESA` IS the model's `genKeyForIKESA`, for every object whose descriptors are
registered ones, every nonce, shared secret and SPI pair -/
theorem C07_gen_keygen_is_model (P : Prims) (hP : P.Lawful) (k : Gen.security.IKESAKey) (hk : SaRegistered k)
    (nonce secret : Bytes) (si sr : UInt64) :
    (Gen.security.IKESAKey.GenerateKeyForIKESA P (some k) nonce secret si sr).map absSa =
      (match genKeyForIKESA P (absSa k) nonce secret si sr with
       | (sa', .ok ()) => .ok sa' | (_, .err) => .err | (_, .fault) => .fault) :=
  GenerateKeyForIKESA_refines P hP k hk nonce secret si sr

open Ike.RefineSa Ike.GenAbsSa in
/-- C07 (b), (c) over the translated code: SKEYSEED = prf(Ni|Nr, g^ir), the seven keys are the consecutive slices
of prf+(SKEYSEED, Ni|Nr|SPIi|SPIr) with the registered lengths.  The call succeeds and the object it returns is —
through the abstraction — the freshly keyed object `SAKey.fresh` over the key set `ikeKeysG` (which is
`Spec.ikeKeys`, RFC 7296 §2.14, when the PRF's key length is its output length, `ikeKeysG_eq_spec`): the seven
keys, the three PRF objects, the two integrity objects and the two cipher objects keyed with them, all buffers
empty, nothing of the object's previous contents left; and it is well-formed for `ike.go` (`SaWF`). -/
theorem C07_gen_keys (P : Prims) (hP : P.Lawful) (k : Gen.security.IKESAKey) (hk : SaRegistered k)
    (nonce secret : Bytes) (si sr : UInt64)
    (hL : 0 < P.macLen (absSa k).prfInfo.hash) (hn : nonce.length ≠ 0) (hs : secret.length ≠ 0)
    (ht : 0 < (absSa k).keyTotal) :
    ∃ k', Gen.security.IKESAKey.GenerateKeyForIKESA P (some k) nonce secret si sr = .ok k' ∧ SaWF k' ∧
      SaRegistered k' ∧
      let ks := ikeKeysG (P.mac (absSa k).prfInfo.hash) (P.macLen (absSa k).prfInfo.hash) (absSa k).prfInfo.keyLen
        (absSa k).integInfo.keyLen (absSa k).encrInfo.keyLen nonce secret si sr
      absSa k' = SAKey.fresh (absSa k).encrInfo (absSa k).integInfo (absSa k).prfInfo
        ks.d ks.ai ks.ar ks.ei ks.er ks.pi ks.pr := by
  have hr := GenerateKeyForIKESA_refines P hP k hk nonce secret si sr
  obtain ⟨h0, h1, h2, h3, h4, h5, h6, h7⟩ := C07_keys P hP (absSa k) nonce secret si sr hL hn hs ht
  obtain ⟨o0, _⟩ := C07_objects P hP (absSa k) nonce secret si sr hL hn hs ht
  rw [h1, h2, h3, h4, h5, h6, h7] at o0
  cases hg : genKeyForIKESA P (absSa k) nonce secret si sr with
  | mk sa' res =>
    rw [hg] at hr h0 o0
    simp only at h0 o0
    subst h0
    obtain ⟨k', hk', ha⟩ := map_eq_ok hr
    exact ⟨k', hk', (GenerateKeyForIKESA_wf P k hk nonce secret si sr k' hk').1,
      GenerateKeyForIKESA_registered P k hk nonce secret si sr k' hk', by rw [ha]; exact o0⟩

open Ike.RefineSa Ike.GenAbsSa in
/-- refusals of the translated `GenerateKeyForIKESA`: a nil object, a missing descriptor, an empty nonce string or
an empty shared secret — an error, never a fault, nothing derived -/
theorem C07_gen_refusals (P : Prims) (k : Gen.security.IKESAKey) (nonce secret : Bytes) (si sr : UInt64) :
    Gen.security.IKESAKey.GenerateKeyForIKESA P none nonce secret si sr = .err ∧
    ((k.EncrInfo = .nil_ ∨ k.IntegInfo = .nil_ ∨ k.PrfInfo = .nil_ ∨ k.DhInfo = .nil_) →
      Gen.security.IKESAKey.GenerateKeyForIKESA P (some k) nonce secret si sr = .err) ∧
    ((nonce = [] ∨ secret = []) → Gen.security.IKESAKey.GenerateKeyForIKESA P (some k) nonce secret si sr = .err) :=
  ⟨GenerateKeyForIKESA_nil P nonce secret si sr, fun h => GenerateKeyForIKESA_missing P k h nonce secret si sr,
   fun h => GenerateKeyForIKESA_empty P (some k) nonce secret h si sr⟩

open Ike.RefineSa Ike.GenAbsSa in
/-- the responder's entry point as translated: whatever `security.NewIKESAKey` returns without an error was keyed by
`GenerateKeyForIKESA` — i.e. by the model's derivation (`C07_keys`: the RFC 7296 §2.14 key set) — from the nonces,
the SPIs and the shared secret `peer^x mod p` of the proposal's group, for the exponent `x ∈ [2^128, 2^2048−1)` drawn
in this call; the public value handed back is `g^x mod p` -/
theorem C07_gen_newIkeSa_keys (P : Prims) (hP : P.Lawful) (r r' : Rand) (p : Proposal)
    (td te ti tp : Transform) (hd : p.dh.head? = some td) (he : p.encr.head? = some te)
    (hi : p.integ.head? = some ti) (hp : p.prf.head? = some tp)
    (ke nonce : Bytes) (si sr : UInt64) (k' : Gen.security.IKESAKey) (pub : Bytes)
    (h : Gen.security.NewIKESAKey P secG RefineReg.dhG RefineReg.encrG RefineReg.integG RefineReg.prfG r (some p)
        ke nonce si sr = .ok (r', k', pub)) :
    ∃ x : Nat, 2 ^ 128 ≤ x ∧ x < 2 ^ 2048 - 1 ∧
      pub = dhPubFixed (RefineReg.absGroup (decDh td)) x ∧
      genKeyForIKESA P (absSa (saOfTransforms td te ti tp)) nonce
        (dhSharedFixed (RefineReg.absGroup (decDh td)) x (beNat ke)) si sr = (absSa k', .ok ()) := by
  obtain ⟨_, _, _, _, _, _, _, _, x, _, h1, h2, _, h4, _, _, h7⟩ :=
    NewIKESAKey_ok_wf P hP r r' p td te ti tp hd he hi hp ke nonce si sr k' pub h
  exact ⟨x, h1, h2, h4, h7⟩

end Ike
