import IkeProofs.RefineEap.Crypto
import IkeProofs.Theorems.C15

/-! # C15 over the code as translated from the current source (`eap.(*EAP).CalcEapAkaPrimeAtMAC`)

The generated function is the model's `calcEapAkaPrimeAtMAC` (`RefineEap/Crypto.lean`); `C15_def` read through that. -/

namespace Ike
open Ike.RefineEap

/-- the generated `CalcEapAkaPrimeAtMAC` is the model's, for every primitive whose SHA-256 HMAC has at
least the 16 octets the code slices off (every lawful `P` with `16 ≤ macLen 2`, in particular `Prims.real`) -/
theorem C15_gen_mac_is_model (P : Prims) (hP : P.Lawful) (h16 : 16 ≤ P.macLen 2)
    (e : Gen.eap.EAP) (hwf : EapWF e) (key : Bytes) :
    (Gen.eap.EAP.CalcEapAkaPrimeAtMAC P e key).map (fun r => (GenAbs.absEap r.1, r.2)) =
      (match calcEapAkaPrimeAtMAC P (GenAbs.absEap e) key with
       | (e', .ok m) => Res.ok (e', m) | (_, .err) => Res.err | (_, .fault) => Res.fault) :=
  CalcEapAkaPrimeAtMAC_refines_lawful P hP h16 e hwf key

/-- the packet after the call keeps the attribute-map invariant -/
theorem C15_gen_mac_keeps_invariant (P : Prims) (e : Gen.eap.EAP) (hwf : EapWF e) (key : Bytes) (e' : Gen.eap.EAP) (m : Bytes)
    (h : Gen.eap.EAP.CalcEapAkaPrimeAtMAC P e key = .ok (e', m)) : EapWF e' :=
  CalcEapAkaPrimeAtMAC_wf P e hwf key e' m h

/-- definition of the code on a generated EAP-AKA' packet: HMAC-SHA-256 over the packet with AT_MAC zeroed, first 16 octets -/
theorem C15_gen_def (P : Prims) (hP : P.Lawful) (h16 : 16 ≤ P.macLen 2) (e : Gen.eap.EAP) (hwf : EapWF e)
    (a : Aka) (key : Bytes) (h : (GenAbs.absEap e).data = .aka a) :
    ∃ a0 bs, akaSetAttr a Facts.atMac (zeros 16) = .ok a0 ∧
      marshalEap { GenAbs.absEap e with data := .aka a0 } = .ok bs ∧
      (Gen.eap.EAP.CalcEapAkaPrimeAtMAC P e key).map (fun r => (GenAbs.absEap r.1, r.2)) =
        .ok ({ GenAbs.absEap e with data := .aka a0 }, (P.mac 2 key bs).take 16) := by
  obtain ⟨a0, bs, h1, _, _, h4, h5⟩ := C15_def P (GenAbs.absEap e) a key h
  refine ⟨a0, bs, h1, h4, ?_⟩
  rw [C15_gen_mac_is_model P hP h16 e hwf key, h5]

end Ike
