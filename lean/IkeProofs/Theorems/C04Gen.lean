import IkeProofs.Refine.Transfer
import IkeProofs.RefineEap.Glue
import IkeProofs.RefineReg.Cbc
import IkeProofs.Theorems.C04

/-! # C04 over the code as translated from the current source

`Ike.Gen.message.*` is regenerated from /repo's `message/*.go` by `tools/go2lean` on every run; a
Go panic (index / slice out of range, wrong type assertion, nil interface) and a loop that does
not finish within the bound derived from its header are both `Res.fault` there.  These theorems
say that the generated decoders never produce it — for every byte string. -/

namespace Ike
open Ike.Refine Ike.Gen.message

/-- `message.(*IKEMessage).Decode` never panics and every loop in it terminates within its bound -/
theorem C04_gen_Decode_never_faults (b : Bytes) : IKEMessage.Decode {} b ≠ .fault := by
  have h : genDecode b ≠ .fault := by rw [genDecode_eq]; exact map_some_ne_fault (C04_no_fault_decodeMsg b)
  exact map_ne_fault h

/-- `message.ParseHeader` -/
theorem C04_gen_ParseHeader_never_faults (b : Bytes) : ParseHeader b ≠ .fault := by
  have h : (ParseHeader b).map GenAbs.absHeader ≠ .fault := by rw [Gen_ParseHeader]; exact C04_no_fault_parseHeader b
  exact map_ne_fault h

/-- `message.(*IKEPayloadContainer).Decode`, every first-payload type -/
theorem C04_gen_container_Decode_never_faults (t : UInt8) (b : Bytes) : IKEPayloadContainer.Decode [] t b ≠ .fault := by
  have h : genDecodeChain t b ≠ .fault := by rw [genDecodeChain_eq]; exact map_some_ne_fault (C04_no_fault_decodeChain t b)
  exact map_ne_fault h

/-- every payload body decoder, on the zero value the chain walker creates for its type -/
theorem C04_gen_payload_Unmarshal_never_faults (t nx : UInt8) (g : IKEPayload) (body : Bytes)
    (hg : newPayload t nx = some g) : IKEPayload.Unmarshal g body ≠ .fault := by
  have hk : knownType t = true := by rw [← newPayload_known t nx, hg]; rfl
  have h := IKEPayload_Unmarshal_new t nx body hk
  rw [hg] at h
  have : (IKEPayload.Unmarshal g body).map GenAbs.absPayload ≠ .fault := by
    rw [h]; exact map_some_ne_fault (C04_no_fault_unmarshalPayload t nx body)
  exact map_ne_fault this

/-- the generated decoder returns what the model returns: outcome class included -/
theorem C04_gen_Decode_is_model (b : Bytes) : genDecode b = (decodeMsg b).map some := genDecode_eq b

example : IKEMessage.Decode {} [] = .err := by decide
example : newPayload 41 0 = some (.Notification {}) := rfl

end Ike

/-! The decoders of package `eap` and CBC decryption of package `encr`, as translated. -/

namespace Ike
open Ike.RefineEap

/-- `eap.(*EAP).Unmarshal` never panics and its attribute loop terminates within its bound -/
theorem C04_gen_EAP_Unmarshal_never_faults (b : Bytes) : Gen.eap.EAP.Unmarshal {} b ≠ .fault := by
  have h : (Gen.eap.EAP.Unmarshal {} b).map GenAbs.absEap ≠ .fault := by
    rw [Gen_EAP_Unmarshal]; exact C04_no_fault_unmarshalEap b
  exact Ike.Refine.map_ne_fault h

/-- `eap.(*EapAkaPrime).Unmarshal` -/
theorem C04_gen_AKA_Unmarshal_never_faults (b : Bytes) : Gen.eap.EapAkaPrime.Unmarshal {} b ≠ .fault := by
  have h : (Gen.eap.EapAkaPrime.Unmarshal {} b).map GenAbs.absAka ≠ .fault := by
    rw [EapAkaPrime_Unmarshal_refines]; exact (C04_no_fault_eap_methods b).2.2
  exact Ike.Refine.map_ne_fault h

/-- `encr.(*EncrAesCbcCrypto).Decrypt` as translated from `security/encr/encr_aes_cbc.go`: no octet string and no
key makes it panic (the index `plainText[len-1]` and the final reslice are inside their bounds on every path) -/
theorem C04_gen_cbc_Decrypt_never_faults (P : Prims) (hP : P.Lawful) (c : Gen.encr.EncrAesCbcCrypto)
    (hi : c.Iv = []) (ct : Bytes) : Gen.encr.EncrAesCbcCrypto.Decrypt P c ct ≠ .fault := by
  rw [Ike.RefineReg.Decrypt_refines P hP c hi ct]; exact cbcDecrypt_ne_fault P hP _ ct

end Ike
