import IkeProofs.Lemmas.Sk

/-!
# C17 — SA key objects are reusable (history independence)

`sa ≈ₛ sb` (`SAKey.Sim`, Lemmas/Sk.lean): same descriptors and keys; the hash objects' write
buffers — the only thing any operation ever changes — are arbitrary.

Every operation of `SaOp` — `EncodeEncrypt` as either role, `DecodeDecrypt` on
ANY byte string (genuine, forged, truncated, garbage; both header modes),
`GenerateKeyForChildSA` — maps `≈ₛ`-related states to `≈ₛ`-related states and
returns equal outputs on them.  By induction over a history of arbitrary
length, every output of a history run on one object equals the output of the
same operation on the initial object.  No hypothesis on the primitives is
needed: the statements hold for every `P : Prims`.
-/

namespace Ike

/-- One operation, started in two related object states: the observable outcome (datagram /
decoded message / child keys / error / fault) is EQUAL and the successor states are again related. -/
theorem C17_step (P : Prims) (a b : SAKey) (h : a ≈ₛ b) (op : SaOp) :
    (saStep P a op).2 = (saStep P b op).2 ∧ (saStep P a op).1 ≈ₛ (saStep P b op).1 :=
  ⟨(saStep_sim P h op).1, (saStep_sim P h op).2.trans (h.trans (saStep_sim P h.symm op).2.symm)⟩

/-- No operation leaves the `≈ₛ` class of the state it started from. -/
theorem C17_step_invariant (P : Prims) (a : SAKey) (op : SaOp) : (saStep P a op).1 ≈ₛ a :=
  saStep_sim_self P a op

/-- History independence, relational form: a history run on ONE object that starts
in any state related to `s₀` yields, at every position, the output the same
operation yields on `s₀` itself.  Unbounded in the length of the history. -/
theorem C17_history_rel (P : Prims) (s s₀ : SAKey) (h : s ≈ₛ s₀) (ops : List SaOp) :
    saRun P s ops = saRunFresh P s₀ ops := by
  induction ops generalizing s with
  | nil => rfl
  | cons op rest ih =>
    obtain ⟨e, g⟩ := saStep_sim P h op
    simp only [saRun, saRunFresh, List.map_cons]
    rw [e, ih (saStep P s op).1 (g.trans h)]
    rfl

/-- C17: running `ops` on one SA object from `s₀` gives at every position the
output the same operation gives on the untouched `s₀`. -/
theorem C17_history (P : Prims) (s₀ : SAKey) (ops : List SaOp) :
    saRun P s₀ ops = saRunFresh P s₀ ops :=
  C17_history_rel P s₀ s₀ (SAKey.Sim.refl _) ops

/-- `C17_history`, position by position -/
theorem C17_history_at (P : Prims) (s₀ : SAKey) (ops : List SaOp) (i : Nat) :
    (saRun P s₀ ops)[i]? = (ops[i]?).map (fun op => (saStep P s₀ op).2) := by
  rw [C17_history, saRunFresh, List.getElem?_map]

/-- "a newly built SA object holding the same keys": whatever the history did to an
object whose descriptors and seven keys are those `SAKey.fresh` was given (its cipher
objects holding `ei`/`er`, its hash objects the respective keys), each output equals the
output on the freshly built object. -/
theorem C17_history_fresh (P : Prims) (e : EncrInfo) (i : IntegInfo) (p : PrfInfo)
    (d ai ar ei er pi pr : Bytes) (s : SAKey) (h : s ≈ₛ SAKey.fresh e i p d ai ar ei er pi pr)
    (ops : List SaOp) :
    saRun P s ops = saRunFresh P (SAKey.fresh e i p d ai ar ei er pi pr) ops :=
  C17_history_rel P s _ h ops

/-- the object after any history is still related to the initial one (so the theorem
applies again to any continuation) -/
theorem C17_final (P : Prims) (s₀ : SAKey) (ops : List SaOp) : saFinal P s₀ ops ≈ₛ s₀ := by
  suffices ∀ s, s ≈ₛ s₀ → saFinal P s ops ≈ₛ s₀ from this s₀ (SAKey.Sim.refl _)
  induction ops with
  | nil => intro s h; exact h
  | cons op rest ih =>
    intro s h
    exact ih _ ((C17_step_invariant P s op).trans h)

/-- a used object (non-empty buffers in all five hash objects) is related to the fresh one -/
example : ({ SAKey.fresh ⟨12, 16⟩ ⟨2, 20, 12, 1⟩ ⟨2, 20, 20, 1⟩ [1] [2] [3] [4] [5] [6] [7] with
              prf_d := ⟨1, [1], [9, 9]⟩, integ_i := ⟨1, [2], [8]⟩, integ_r := ⟨1, [3], [7, 7, 7]⟩,
              prf_i := ⟨1, [6], [5]⟩, prf_r := ⟨1, [7], [4]⟩ } : SAKey) ≈ₛ
          SAKey.fresh ⟨12, 16⟩ ⟨2, 20, 12, 1⟩ ⟨2, 20, 20, 1⟩ [1] [2] [3] [4] [5] [6] [7] :=
  ⟨rfl, rfl, rfl, ⟨rfl, rfl⟩, ⟨rfl, rfl⟩, ⟨rfl, rfl⟩, rfl, rfl, ⟨rfl, rfl⟩, ⟨rfl, rfl⟩, rfl, rfl, rfl, rfl, rfl, rfl, rfl⟩

/-- the operations do change the object: after one child-key derivation the state differs from
the initial one (so the relation is not just equality) — checked on a toy `Prims` -/
example :
    let P : Prims := ⟨fun _ _ m => m ++ List.replicate 12 0, fun _ => 12, fun _ b => b, fun _ b => b⟩
    let s := SAKey.fresh ⟨12, 16⟩ ⟨2, 20, 12, 1⟩ ⟨2, 20, 20, 1⟩ [1] [2] [3] [4] [5] [6] [7]
    (saStep P s (.child 1 1 [5])).1 ≠ s := by decide +kernel

/-- a concrete history on one object — genuine unprotect, garbage, protect, child derivation,
the genuine datagram again — has non-trivial outcomes, and (by `C17_history`) they are the
outcomes on the fresh object -/
example :
    (saRun Prims.skToy SkEx.sa [.unprotect false false SkEx.bs, .unprotect false true [1, 2, 3],
        .protect true [7, 8, 9] SkEx.msg, .child 1 1 [5], .unprotect false false SkEx.bs]).map Res.isOk
      = [true, false, true, true, true] := by
  rw [C17_history]; decide +kernel

end Ike
