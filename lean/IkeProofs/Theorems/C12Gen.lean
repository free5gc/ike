import IkeProofs.Refine.Transfer
import IkeProofs.RefineEap.Glue
import IkeProofs.Theorems.C12
import IkeProofs.Theorems.C12Canonical

/-! C12 for the code as translated from the current source (`tools/go2lean`): the statements of `Theorems/C12.lean`
and `C12Canonical.lean` carried over `genEncode_eq` / `genDecode_ok`, and the EAP packet codec of package `eap`. -/

namespace Ike
open Ike.Refine Ike.Gen.message

/-- decode, encode, decode with the generated functions: the second decode returns the fields of
the first, for EVERY datagram -/
theorem C12_gen_stable (bs bs' : Bytes) (m : Msg) (h' : Header)
    (hd : genDecode bs = .ok (some m)) (he : genEncode m = .ok (bs', h')) :
    ∃ m', genDecode bs' = .ok (some m') ∧ m'.payloads = m.payloads ∧
      m'.hdr.ispi = m.hdr.ispi ∧ m'.hdr.rspi = m.hdr.rspi ∧ m'.hdr.major = m.hdr.major ∧
      m'.hdr.minor = m.hdr.minor ∧ m'.hdr.exch = m.hdr.exch ∧ m'.hdr.flags = m.hdr.flags ∧
      m'.hdr.mid = m.hdr.mid := by
  rw [genEncode_eq] at he
  obtain ⟨m', k, rest⟩ := C12_stable bs bs' m h' (genDecode_ok.mp hd) he
  exact ⟨m', genDecode_ok.mpr k, rest⟩

/-- the re-encoding is a fixed point of decode ∘ encode -/
theorem C12_gen_fixed_point (bs bs' : Bytes) (m : Msg) (h' : Header)
    (hd : genDecode bs = .ok (some m)) (he : genEncode m = .ok (bs', h')) :
    ∃ m', genDecode bs' = .ok (some m') ∧ genEncode m' = .ok (bs', h') := by
  rw [genEncode_eq] at he
  obtain ⟨m', k, e⟩ := C12_fixed_point bs bs' m h' (genDecode_ok.mp hd) he
  exact ⟨m', genDecode_ok.mpr k, by rw [genEncode_eq]; exact e⟩

/-- canonical datagrams (accepted by the independent strict RFC 7296 parser, fields in the domain)
are decoded and re-encoded byte-identically by the generated functions -/
theorem C12_gen_canonical_datagram (bs : Bytes) (m : Msg) (hd : m.Dom) (hp : Spec.parse bs = some m) :
    ∃ m' h', genDecode bs = .ok (some m') ∧ genEncode m' = .ok (bs, h') := by
  obtain ⟨m', h', k, e⟩ := C12_canonical_datagram bs m hd hp
  exact ⟨m', h', genDecode_ok.mpr k, by rw [genEncode_eq]; exact e⟩

end Ike

/-! EAP packets (package `eap` as translated). -/

namespace Ike
open Ike.RefineEap

/-- decode, encode, decode with the generated EAP functions: the second decode returns the packet of the first -/
theorem C12_gen_eap_stable (bs bs' : Bytes) (g : Gen.eap.EAP)
    (hd : Gen.eap.EAP.Unmarshal {} bs = .ok g) (he : Gen.eap.EAP.Marshal g = .ok bs') :
    (Gen.eap.EAP.Unmarshal {} bs').map GenAbs.absEap = .ok (GenAbs.absEap g) := by
  have hwf := Gen_EAP_Unmarshal_wf bs g hd
  have h1 : unmarshalEap bs = .ok (GenAbs.absEap g) := by
    have := Gen_EAP_Unmarshal bs
    rw [hd] at this
    exact this.symm
  rw [Gen_EAP_Marshal g hwf] at he
  rw [Gen_EAP_Unmarshal]
  exact C12_eap_stable bs bs' (GenAbs.absEap g) h1 he

end Ike
