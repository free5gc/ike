import IkeModel.Generated.Footprint

/-! # C20 / C19: what a caller hands in is neither appended to, nor written, nor kept

Regenerated fact (`tools/extract`, `Footprint.foreignAppends`): every `append(X, …)` in the library
whose first argument `X` is a slice reachable from the receiver or from a parameter — memory the
caller owns — and whose result is not stored back into `X` itself.  When such an `X` has spare
capacity, the appended elements are written into the caller's array behind `X`'s length, i.e. into
whatever else views that array (another proposal's transform list cut from the same list of
supported algorithms, an earlier payload whose data shares the buffer, …): the value-level model
cannot see this, the syntactic fact can.  On the pinned tree there is exactly one such site,
documented below.  The file also holds the two sibling facts: no exported function writes into a slice
parameter (`C20_parameters_read_only`), and none keeps a reference-typed argument beyond the documented
places (`C20_arguments_not_retained`, list `c20DocumentedRetained`). -/

namespace Ike

/-- `lib.PKCS7Padding(plainText, blockSize)` returns `append(plainText, padding...)`: the padding is
written behind the plaintext slice it is given.  On the library's own path (`EncodeEncrypt`) that slice is the
freshly encoded inner payload chain; a direct caller of the exported `EncrAesCbcCrypto.Encrypt` hands in its own
slice, whose spare capacity may then be overwritten (observation, no property speaks about it). -/
def c20DocumentedAppends : List (String × String) :=
  [("security/lib.PKCS7Padding", "plainText")]

/-- **C20 "plain encoding does not alter any payload of the message … protecting a message alters
nothing but the message's own payload list", memory level**: no encoder, builder, decoder or key
function appends onto a slice of its receiver or arguments (other than growing that very
container, which is what the builders are for, and the documented padding helper). -/
theorem C20_no_append_onto_caller_memory :
    ∀ x ∈ Footprint.foreignAppends, x ∈ c20DocumentedAppends := by decide +kernel

/-- **what a caller hands in is read-only** (regenerated fact `Footprint.paramWrites`): no exported function
or method writes into a slice it received as a parameter — by an element assignment, `copy`, or by handing it
(or a reslice, or a local alias of it), directly or through unexported helpers of its package, as the
destination to `hash.Sum`, `BlockMode.CryptBlocks`, `binary.PutUintNN`, `io.ReadFull`, `Read`, `FillBytes`,
`Block.Encrypt/Decrypt`, `XORKeyStream`.  (Appends are the theorem above.)  Datagram buffers, ciphertexts,
nonces, keys and builder arguments stay as the caller left them. -/
theorem C20_parameters_read_only : Footprint.paramWrites = [] := by decide

/-- the five places where the pinned tree keeps a reference-typed argument by design: the header value handed to
`DecodeDecrypt` becomes the header of the returned message; `ParseHeader` / `NewHeader` keep the payload octets
they are given (a header is a view of the datagram; the payloads decoded from it are copies: `C20_generated`);
`NewMessage` adopts the payload container; `BuildDeletePayload` keeps the SPI list (observation in DESIGN 12.2). -/
def c20DocumentedRetained : List (String × String × String) :=
  [("ike.DecodeDecrypt", "ikeHeader", "ikeMsg.IKEHeader"),
   ("message.IKEPayloadContainer.BuildDeletePayload", "spis", "deletePayload.SPIs"),
   ("message.NewHeader", "payloadBytes", "literal.PayloadBytes"),
   ("message.ParseHeader", "b", "literal.PayloadBytes"),
   ("message.NewMessage", "payloads", "literal.Payloads")]

/-- **arguments are not remembered** (regenerated fact `Footprint.paramRetained`): apart from the five documented
places no function stores a pointer, slice or map parameter (or a reslice or a local alias of one) into a field, a
package-level variable or an element of something that outlives the call.  Keys, nonces, identities, exponents,
attribute values and builder arguments can be wiped or refilled by the caller as soon as the call returns. -/
theorem C20_arguments_not_retained :
    ∀ r ∈ Footprint.paramRetained, r ∈ c20DocumentedRetained := by decide +kernel

/-- non-vacuity: the regenerated list is not empty on the pinned tree (the documented site is found) -/
example : Footprint.foreignAppends ≠ [] := by decide

end Ike
