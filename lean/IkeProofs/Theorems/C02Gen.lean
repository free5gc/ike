import IkeProofs.RefineSa.Transfer
import IkeProofs.Theorems.C02

/-! C02 over the translated `DecodeDecrypt` of `ike.go`.  The SA object is a `Gen.security.IKESAKey` (descriptors =
interface values of the translated registries, `hash.Hash` = `Go.Mac`, cipher object = `Gen.encr.EncrAesCbcCrypto`);
`SaWF k`: descriptors and objects non-nil, which is what `GenerateKeyForIKESA` leaves (`C02_gen_hyps_from_keygen`).
`C02_gen_unprotect_is_model`, `_accepts_only_valid`, `_nil_key` restate theorems of `RefineSa/Unprotect.lean`. -/

namespace Ike
open Ike.RefineSa Ike.GenAbsSa

/-- The translated `DecodeDecrypt` IS the model's `unprotect`, on every byte string, both roles, with and
without a caller-supplied header. -/
theorem C02_gen_unprotect_is_model (P : Prims) (hP : P.Lawful) (k : Gen.security.IKESAKey) (hk : SaWF k)
    (hi : IntegRegistered k.IntegInfo) (role : Bool) (h : Option Header) (bs : Bytes) :
    (Gen.ike.DecodeDecrypt P bs (h.map GenAbs.repHeader) (some k) role).map
        (fun x => (absSa x.1, GenAbs.absMsg x.2)) =
      (match unprotect P (some (absSa k)) role h bs with
       | (some sa', _, .ok m) => .ok (sa', some m)
       | (none, _, .ok m) => .ok (absSa k, some m)
       | (_, _, .err) => .err
       | (_, _, .fault) => .fault) :=
  Dec.DecodeDecrypt_refines P hP k hk (Dec.IntegOk_of_registered hi) role h bs

/-- Acceptance needs a valid checksum — stated over the generated code alone: whatever the translated
`DecodeDecrypt` returns without an error, either the decoded outer message does not start with an SK payload
(and is handed back as decoded, the SA untouched), or it consists of SK payloads only and the last one's
trailing `outLen` octets are the truncated MAC — under the key and hash of the integrity object of the PEER's
direction — of every octet of the datagram before its last `outLen`. -/
theorem C02_gen_accepts_only_valid (P : Prims) (hP : P.Lawful) (k : Gen.security.IKESAKey) (hk : SaWF k)
    (hi : IntegRegistered k.IntegInfo) (role : Bool) (h : Option Header) (bs : Bytes)
    (k' : Gen.security.IKESAKey) (gm' : Gen.message.IKEMessage)
    (hok : Gen.ike.DecodeDecrypt P bs (h.map GenAbs.repHeader) (some k) role = .ok (k', gm')) :
    ∃ gm, Dec.decodedG bs (h.map GenAbs.repHeader) = .ok gm ∧
      ((Dec.NoSKFirst gm ∧ k' = k ∧ gm' = gm) ∨
       (∃ e, (∀ g ∈ gm.Payloads, ∃ v, g = .Encrypted v) ∧ gm.Payloads.getLast? = some (.Encrypted e) ∧
          Dec.ValidChecksum P k role bs e.EncryptedData)) :=
  Dec.DecodeDecrypt_accepts_only_valid P hP k hk (Dec.IntegOk_of_registered hi) role h bs k' gm' hok

/-- `C02_accept_inv` over the translated code -/
theorem C02_gen_accept_inv (P : Prims) (hP : P.Lawful) (k : Gen.security.IKESAKey) (hk : SaWF k)
    (hi : IntegRegistered k.IntegInfo) (hw : (absSa k).WF P) (role : Bool)
    (hdr : Option Header) (bs : Bytes) (d : Msg)
    (hd : unprotectDecoded hdr bs = .ok d) (hsk : d.firstIsSK = true)
    (k' : Gen.security.IKESAKey) (gm' : Gen.message.IKEMessage)
    (hok : Gen.ike.DecodeDecrypt P bs (hdr.map GenAbs.repHeader) (some k) role = .ok (k', gm')) :
    ∃ next encData, lastSK d.payloads none = .ok (some (next, encData)) ∧
      (absSa k).integInfo.outLen ≤ encData.length ∧ (absSa k).integInfo.outLen ≤ bs.length ∧
      (P.mac ((absSa k).integObj (!role)).alg ((absSa k).integObj (!role)).key
          (bs.take (bs.length - (absSa k).integInfo.outLen))).take (absSa k).integInfo.outLen
        = encData.drop (encData.length - (absSa k).integInfo.outLen) := by
  obtain ⟨o, n, m, hu, _⟩ := gen_unprotect_ok P hP k hk hi role hdr bs k' gm' hok
  obtain ⟨next, encData, h1, h2, h3, h4, _⟩ := C02_accept_inv P hP (absSa k) hw role hdr bs d hd hsk o n m hu
  exact ⟨next, encData, h1, h2, h3, h4⟩

/-- `C02_reject_of_bad_mac` over the translated code: if the truncated MAC (peer-direction key) of the octets
before the last `outLen` differs from the SK body's last `outLen` octets, the translated `DecodeDecrypt` returns no
message — for every such byte string (every alteration: flipped bit, cut, extension, splice, other key, reflection) -/
theorem C02_gen_reject_of_bad_mac (P : Prims) (hP : P.Lawful) (k : Gen.security.IKESAKey) (hk : SaWF k)
    (hi : IntegRegistered k.IntegInfo) (hw : (absSa k).WF P) (role : Bool)
    (hdr : Option Header) (bs : Bytes) (d : Msg)
    (hd : unprotectDecoded hdr bs = .ok d) (hsk : d.firstIsSK = true)
    (hbad : ∀ next encData, lastSK d.payloads none = .ok (some (next, encData)) →
      (absSa k).integInfo.outLen ≤ encData.length →
      (P.mac ((absSa k).integObj (!role)).alg ((absSa k).integObj (!role)).key
          (bs.take (bs.length - (absSa k).integInfo.outLen))).take (absSa k).integInfo.outLen
        ≠ encData.drop (encData.length - (absSa k).integInfo.outLen)) :
    ∀ x, Gen.ike.DecodeDecrypt P bs (hdr.map GenAbs.repHeader) (some k) role ≠ .ok x :=
  gen_unprotect_not_ok P hP k hk hi role hdr bs
    (C02_reject_of_bad_mac P hP (absSa k) hw role hdr bs d hd hsk hbad).2

/-- without a key: the translated `DecodeDecrypt` is the model's `unprotect none` (an SK-first datagram is refused);
the statement of `C01_gen_nokey_decode`, listed under both checks -/
theorem C02_gen_nil_key (P : Prims) (role : Bool) (h : Option Header) (bs : Bytes) :
    (Gen.ike.DecodeDecrypt P bs (h.map GenAbs.repHeader) none role).map (fun x => GenAbs.absMsg x.2) =
      (match unprotect P none role h bs with
       | (_, _, .ok m) => .ok (some m)
       | (_, _, .err) => .err
       | (_, _, .fault) => .fault) :=
  Dec.DecodeDecrypt_nil_key P role h bs

/-- the hypotheses are met by the object the translated `GenerateKeyForIKESA` returns for registered descriptors -/
theorem C02_gen_hyps_from_keygen (P : Prims) (k : Gen.security.IKESAKey) (hk : SaRegistered k)
    (nonce secret : Bytes) (si sr : UInt64) (k' : Gen.security.IKESAKey)
    (h : Gen.security.IKESAKey.GenerateKeyForIKESA P (some k) nonce secret si sr = .ok k') :
    SaWF k' ∧ IntegRegistered k'.IntegInfo := by
  obtain ⟨hwf, _, hI, _, _⟩ := GenerateKeyForIKESA_wf P k hk nonce secret si sr k' h
  exact ⟨hwf, by unfold IntegRegistered; rw [hI]; exact hk.integ⟩

end Ike
