import IkeProofs.Lemmas.Sk
import IkeProofs.Lemmas.PrimsReal

/-!
# C06 — the SK payload follows RFC 7296 §3.14 and interoperates

`Spec.skMessage P ⟨ke, ka, hash, icvLen⟩ hdr firstInner inner iv pad` (IkeModel/Spec/Sk.lean) is the
RFC figure written independently of the code: header (first payload = SK, final total length) ‖
SK generic header (next = first inner type, final payload length) ‖ IV ‖
CBC(ke, IV, inner ‖ pad ‖ [|pad|]) ‖ trunc(HMAC(ka, everything before)).

`sa.skParams role` = the SENDER-direction parameters of `sa` acting as `role`:
`⟨(sa.encrObj role).key, (sa.integObj role).key, (sa.integObj role).alg, sa.integInfo.outLen⟩`
(`encrObj true = Encr_i`, `integObj true = Integ_i`).
-/

namespace Ike
open Spec

/-- Every datagram `EncodeEncrypt` returns IS the RFC 7296 §3.14 message: the inner payloads
encoded to `inner`, the first draw (`16 − |inner| mod 16` octets) gave the padding octets, the
second (16 octets) the IV, and the output equals `Spec.skMessage` built from the sender-direction
keys, the message's header fields, the type of the first inner payload (0 for none), `inner`, that
IV and the first `16 − |inner| mod 16 − 1` padding octets. -/
theorem C06_protect_is_rfc (P : Prims) (hP : P.Lawful) (sa : SAKey) (hw : sa.WF P) (role : Bool)
    (r : Rand) (m : Msg) (sa' : SAKey) (r' : Rand) (bs : Bytes) (m' : Msg)
    (h : protect P sa role r m = (sa', r', .ok (bs, m'))) :
    ∃ inner padDraw iv r1, encodeChain m.payloads = .ok inner ∧
      r.draw (16 - inner.length % 16) = (r1, .ok padDraw) ∧ r1.draw 16 = (r', .ok iv) ∧
      iv.length = 16 ∧
      (padDraw.take (16 - inner.length % 16 - 1)).length = 16 - inner.length % 16 - 1 ∧
      4 + (16 + (inner.length + (16 - inner.length % 16)) + sa.integInfo.outLen) ≤ 0xFFFF ∧
      bs = skMessage P (sa.skParams role) m.hdr (firstType m.payloads) inner iv
             (padDraw.take (16 - inner.length % 16 - 1)) ∧
      m' = ⟨skHeader P (sa.skParams role) m.hdr (firstType m.payloads) inner iv
               (padDraw.take (16 - inner.length % 16 - 1)),
            [.sk (firstType m.payloads) (skEnc P (sa.skParams role) m.hdr (firstType m.payloads) inner iv
               (padDraw.take (16 - inner.length % 16 - 1)))]⟩ ∧
      sa' = sa.setInteg role ⟨(sa.integObj role).alg, (sa.integObj role).key,
              skSigned P (sa.skParams role) m.hdr (firstType m.payloads) inner iv
                (padDraw.take (16 - inner.length % 16 - 1))⟩ := by
  obtain ⟨inner, padDraw, iv, r1, r2, henc, hd1, hd2, hfit⟩ := protect_ok_inv P hP sa sa' role r r' m _ h
  rw [protect_spec P hP sa hw role r r1 r2 m inner padDraw iv henc hd1 hd2 hfit] at h
  simp only [Prod.mk.injEq, Res.ok.injEq] at h
  obtain ⟨e1, e2, e3, e4⟩ := h
  subst e2
  refine ⟨inner, padDraw, iv, r1, henc, hd1, hd2, Rand.draw_ok_length hd2, ?_, hfit, e3.symm, e4.symm, e1.symm⟩
  rw [List.length_take, Rand.draw_ok_length hd1]; exact Nat.min_eq_left (Nat.sub_le _ _)

/-- `C06_protect_is_rfc` in the form the receiving side consumes (C01, C02): what `protect` returned
is the RFC message for some `inner`, 16-octet IV and padding meeting the hypotheses of
`C06_accepts_any_legal_padding`. -/
theorem protect_ok_legal (P : Prims) (hP : P.Lawful) (sa : SAKey) (hw : sa.WF P) (role : Bool)
    (r : Rand) (m : Msg) (sa' : SAKey) (r' : Rand) (bs : Bytes) (m' : Msg)
    (h : protect P sa role r m = (sa', r', .ok (bs, m'))) :
    ∃ inner iv pad, encodeChain m.payloads = .ok inner ∧ iv.length = 16 ∧ pad.length ≤ 255 ∧
      (inner.length + pad.length + 1) % 16 = 0 ∧
      4 + 16 + (inner.length + pad.length + 1) + sa.integInfo.outLen ≤ 0xFFFF ∧
      bs = skMessage P (sa.skParams role) m.hdr (firstType m.payloads) inner iv pad := by
  obtain ⟨inner, padDraw, iv, r1, henc, -, -, hiv, hpadl, hfit, hbs, -, -⟩ :=
    C06_protect_is_rfc P hP sa hw role r m sa' r' bs m' h
  replace hpadl : (padDraw.take (padLen inner - 1)).length = padLen inner - 1 := hpadl
  replace hfit : 4 + (16 + (inner.length + padLen inner) + sa.integInfo.outLen) ≤ 0xFFFF := hfit
  have hp1 := (padLen_bounds inner).1
  have hp16 := (padLen_bounds inner).2.1
  refine ⟨inner, iv, padDraw.take (padLen inner - 1), henc, hiv, by omega, ?_, by omega, hbs⟩
  rw [hpadl, Nat.add_assoc, Nat.sub_add_cancel hp1]
  exact (padLen_bounds inner).2.2

/-- `protect` does succeed — so `C06_protect_is_rfc` is not vacuous — whenever the inner payloads
encode, the random source does not fail and the SK payload fits the 16-bit payload length. -/
theorem C06_protect_succeeds (P : Prims) (hP : P.Lawful) (sa : SAKey) (hw : sa.WF P) (role : Bool)
    (r : Rand) (hr : r.failAt = none) (m : Msg) (inner : Bytes)
    (henc : encodeChain m.payloads = .ok inner)
    (hfit : 4 + (16 + (inner.length + (16 - inner.length % 16)) + sa.integInfo.outLen) ≤ 0xFFFF) :
    ∃ sa' r' m', protect P sa role r m =
      (sa', r', .ok (skMessage P (sa.skParams role) m.hdr (firstType m.payloads) inner
        (cyc r.buf (r.pos + (16 - inner.length % 16)) 16)
        ((cyc r.buf r.pos (16 - inner.length % 16)).take (16 - inner.length % 16 - 1)), m')) := by
  have hnf : ∀ n : Nat, r.failAt ≠ some n := fun n => by rw [hr]; exact fun h => nomatch h
  exact ⟨_, _, _, protect_spec P hP sa hw role r _ _ m inner _ _ henc (Rand.draw_ok r _ (hnf _))
    (Rand.draw_ok _ 16 (hnf _)) hfit⟩

/-- Any legal padding from an independent peer is accepted: for every `pad` of at most 255
ARBITRARY octets filling the last block, the RFC message built with the parameters `k` is accepted
by a receiver `sb` acting as `rr` whose PEER-direction objects (`!rr`) hold `k`'s keys and hash —
in both header modes, with exactly one cipher call — and yields the decoding of `inner` under the
parsed header.  `hfit`: the SK payload fits the 16-bit payload length. -/
theorem C06_accepts_any_legal_padding (P : Prims) (hP : P.Lawful) (sb : SAKey) (hw : sb.WF P) (rr : Bool)
    (k : SkParams) (hcl : sb.integInfo.outLen = k.icvLen) (halg : (sb.integObj (!rr)).alg = k.hash)
    (hka : (sb.integObj (!rr)).key = k.ka) (hke : (sb.encrObj (!rr)).key = k.ke)
    (h : Header) (hmaj : h.major.toNat < 16) (hmin : h.minor.toNat < 16) (ft : UInt8)
    (inner iv pad : Bytes) (hiv : iv.length = 16) (hpad : pad.length ≤ 255)
    (hal : (inner.length + pad.length + 1) % 16 = 0)
    (hfit : 4 + 16 + (inner.length + pad.length + 1) + k.icvLen ≤ 0xFFFF)
    (ps : List Payload) (hinner : decodeChain ft inner = .ok ps) :
    parseHeader (skMessage P k h ft inner iv pad) = .ok (skHeader P k h ft inner iv pad) ∧
    (∀ hdr, hdr = none ∨ hdr = some (skHeader P k h ft inner iv pad) →
      unprotect P (some sb) rr hdr (skMessage P k h ft inner iv pad) =
        (some (sb.setInteg (!rr) ⟨k.hash, k.ka, skSigned P k h ft inner iv pad⟩), 1,
         .ok ⟨skHeader P k h ft inner iv pad, ps⟩)) ∧
    (skHeader P k h ft inner iv pad).ispi = h.ispi ∧ (skHeader P k h ft inner iv pad).rspi = h.rspi ∧
    (skHeader P k h ft inner iv pad).major = h.major ∧ (skHeader P k h ft inner iv pad).minor = h.minor ∧
    (skHeader P k h ft inner iv pad).exch = h.exch ∧ (skHeader P k h ft inner iv pad).flags = h.flags ∧
    (skHeader P k h ft inner iv pad).mid = h.mid := by
  have hicv : k.icvLen ≤ P.macLen k.hash := by
    rw [← hcl, ← halg]; exact WF_integObj P sb hw (!rr)
  have hctl := skCt_length P hP k inner iv pad hiv hal
  have hph := skMessage_parseHeader P hP k h ft inner iv pad hicv hmaj hmin
    (by simp only [skTotal, hctl, hiv]; omega)
  refine ⟨hph, ?_, rfl, rfl, rfl, rfl, rfl, rfl, rfl⟩
  intro hdr hhdr
  rw [skMessage_eq, unprotect_skTail P hP sb hw rr k hcl halg hka h hmaj hmin ft inner iv pad hiv hal hfit _
      (skIcv_length P hP k h ft inner iv pad hicv) hdr (hhdr.imp_right fun e => ⟨_, e, hph⟩),
    if_pos rfl]
  have e : cbcDecrypt P (sb.encrObj (!rr)) (iv ++ skCt P k inner iv pad) = .ok inner := by
    unfold skCt; rw [← hke]; exact cbcDecrypt_padded P hP _ iv inner pad hiv hpad hal
  rw [e, Res.bind_ok, hinner]
  rfl

/-! non-vacuity (toy lawful primitives `Prims.skToy`, values in `SkEx`, Lemmas/Sk.lean) -/

/-- `C06_protect_is_rfc` applies to a concrete successful `protect` -/
example : ∃ sa' r' m', protect Prims.skToy SkEx.sa true SkEx.rnd SkEx.msg =
    (sa', r', .ok (skMessage Prims.skToy (SkEx.sa.skParams true) SkEx.msg.hdr 40
      [43, 0, 0, 7, 1, 2, 3, 0, 0, 0, 5, 9] (cyc [7, 8, 9] 4 16) ((cyc [7, 8, 9] 0 4).take 3), m')) :=
  C06_protect_succeeds Prims.skToy Prims.skToy_lawful SkEx.sa SkEx.sa_wf true SkEx.rnd rfl SkEx.msg
    [43, 0, 0, 7, 1, 2, 3, 0, 0, 0, 5, 9] (by decide +kernel) (by decide)

/-- `C06_accepts_any_legal_padding` with NON-minimal padding: 12 inner octets, 19 arbitrary pad
octets (the sender itself would use 3), both header modes -/
example :
    ∀ hdr, hdr = none ∨ hdr = some (skHeader Prims.skToy (SkEx.sa.skParams true) SkEx.msg.hdr 40
        [43, 0, 0, 7, 1, 2, 3, 0, 0, 0, 5, 9] (List.replicate 16 0xAA) (List.replicate 19 0x55)) →
    (unprotect Prims.skToy (some SkEx.sa) false hdr
      (skMessage Prims.skToy (SkEx.sa.skParams true) SkEx.msg.hdr 40
        [43, 0, 0, 7, 1, 2, 3, 0, 0, 0, 5, 9] (List.replicate 16 0xAA) (List.replicate 19 0x55))).2 =
      (1, .ok ⟨skHeader Prims.skToy (SkEx.sa.skParams true) SkEx.msg.hdr 40
        [43, 0, 0, 7, 1, 2, 3, 0, 0, 0, 5, 9] (List.replicate 16 0xAA) (List.replicate 19 0x55), SkEx.msg.payloads⟩) := by
  intro hdr hh
  have := (C06_accepts_any_legal_padding Prims.skToy Prims.skToy_lawful SkEx.sa SkEx.sa_wf false
    (SkEx.sa.skParams true) rfl rfl rfl rfl SkEx.msg.hdr (by decide) (by decide) 40
    [43, 0, 0, 7, 1, 2, 3, 0, 0, 0, 5, 9] (List.replicate 16 0xAA) (List.replicate 19 0x55) rfl (by decide) (by decide)
    (by decide) SkEx.msg.payloads (by decide +kernel)).2.1 hdr hh
  rw [this]

/-- the hypothesis `P.Lawful` holds of the executable primitives (`Lemmas/PrimsReal.lean`) -/
theorem C06_real_lawful : Prims.real.Lawful := Prims.real_lawful

end Ike
