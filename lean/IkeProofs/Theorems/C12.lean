import IkeProofs.Lemmas.Stable
import IkeProofs.Theorems.C03

/-! C12 — re-encoding a decoded message preserves its meaning.  `decodeMsg`, `encodeMsg`, `decodeMsg`
returns the same payload list and the same seven header fields, and encoding once more
reproduces the same octets; for encodings of messages of `Msg.Dom` the re-encoding is the input.
The same for EAP packets.  No hypothesis restricts the input octets. -/

namespace Ike

/-- `rt_msg_sk` on the image of `decodeMsg` -/
theorem decode_encode_decode (bs bs' : Bytes) (m : Msg) (h' : Header)
    (hd : decodeMsg bs = .ok m) (he : encodeMsg m = .ok (bs', h')) :
    decodeMsg bs' = .ok ⟨h', m.payloads⟩ ∧
      h'.ispi = m.hdr.ispi ∧ h'.rspi = m.hdr.rspi ∧ h'.major = m.hdr.major ∧
      h'.minor = m.hdr.minor ∧ h'.exch = m.hdr.exch ∧ h'.flags = m.hdr.flags ∧
      h'.mid = m.hdr.mid := by
  obtain ⟨v1, v2, c1, c2⟩ := decodeMsg_stable bs m hd
  exact rt_msg_sk m bs' h' v1 v2 c1 c2 he

/-- **C12, stability** (first clause): whenever octets decode to a message and that message
encodes again, decoding the new octets yields the same payload list and the same seven header
fields.  Every accepted input is covered: reserved bits, skipped unsupported payloads, an Encrypted
payload closing the chain, masked attribute types, dropped transforms, … -/
theorem C12_stable (bs bs' : Bytes) (m : Msg) (h' : Header)
    (hd : decodeMsg bs = .ok m) (he : encodeMsg m = .ok (bs', h')) :
    ∃ m', decodeMsg bs' = .ok m' ∧ m'.payloads = m.payloads ∧
      m'.hdr.ispi = m.hdr.ispi ∧ m'.hdr.rspi = m.hdr.rspi ∧ m'.hdr.major = m.hdr.major ∧
      m'.hdr.minor = m.hdr.minor ∧ m'.hdr.exch = m.hdr.exch ∧ m'.hdr.flags = m.hdr.flags ∧
      m'.hdr.mid = m.hdr.mid := by
  obtain ⟨k, k1, k2, k3, k4, k5, k6, k7⟩ := decode_encode_decode bs bs' m h' hd he
  exact ⟨⟨h', m.payloads⟩, k, rfl, k1, k2, k3, k4, k5, k6, k7⟩

/-- the second decode is the header as updated by `Encode` (next-payload and payload octets
refreshed) with the first decode's payload list -/
theorem C12_stable_exact (bs bs' : Bytes) (m : Msg) (h' : Header)
    (hd : decodeMsg bs = .ok m) (he : encodeMsg m = .ok (bs', h')) :
    decodeMsg bs' = .ok ⟨h', m.payloads⟩ :=
  (decode_encode_decode bs bs' m h' hd he).1

/-- `encodeMsg` reads the payload list and seven of the nine header fields; it overwrites the other
two, `next` and `payloadBytes` -/
theorem encodeMsg_congr (m m' : Msg) (hp : m'.payloads = m.payloads)
    (h1 : m'.hdr.ispi = m.hdr.ispi) (h2 : m'.hdr.rspi = m.hdr.rspi) (h3 : m'.hdr.major = m.hdr.major)
    (h4 : m'.hdr.minor = m.hdr.minor) (h5 : m'.hdr.exch = m.hdr.exch) (h6 : m'.hdr.flags = m.hdr.flags)
    (h7 : m'.hdr.mid = m.hdr.mid) : encodeMsg m' = encodeMsg m := by
  obtain ⟨⟨a1, a2, a3, a4, a5, a6, a7, a8, a9⟩, ps⟩ := m
  obtain ⟨⟨b1, b2, b3, b4, b5, b6, b7, b8, b9⟩, ps'⟩ := m'
  simp only at hp h1 h2 h3 h4 h5 h6 h7
  subst hp h1 h2 h3 h4 h5 h6 h7
  rfl

/-- **C12, fixed point** (second clause): encoding the second decode reproduces the same octets
and the same updated header -/
theorem C12_fixed_point (bs bs' : Bytes) (m : Msg) (h' : Header)
    (hd : decodeMsg bs = .ok m) (he : encodeMsg m = .ok (bs', h')) :
    ∃ m', decodeMsg bs' = .ok m' ∧ encodeMsg m' = .ok (bs', h') := by
  obtain ⟨m', k, kp, k1, k2, k3, k4, k5, k6, k7⟩ := C12_stable bs bs' m h' hd he
  exact ⟨m', k, by rw [encodeMsg_congr m m' kp k1 k2 k3 k4 k5 k6 k7]; exact he⟩

/-- **C12, canonical datagrams** (third clause): the encoding of a message of the encodable
domain (zero reserved bits, no unsupported payloads, canonical nested encodings) decodes, and
re-encoding the decoded message gives the input octets -/
theorem C12_canonical (m : Msg) (bs : Bytes) (h' : Header) (hdom : m.Dom)
    (he : encodeMsg m = .ok (bs, h')) :
    ∃ m', decodeMsg bs = .ok m' ∧ encodeMsg m' = .ok (bs, h') := by
  obtain ⟨m', k, kp, k1, k2, k3, k4, k5, k6, k7⟩ := C03_roundtrip m bs h' hdom he
  exact ⟨m', k, by rw [encodeMsg_congr m m' kp k1 k2 k3 k4 k5 k6 k7]; exact he⟩

/-- **C12 for EAP packets**: `Unmarshal`, `Marshal`, `Unmarshal` returns the packet of the first
decode (code, identifier, method data; for EAP-AKA' subtype, reserved word and every attribute
with its length octet, reserved word and value), for every accepted input -/
theorem C12_eap_stable (bs bs' : Bytes) (e : Eap)
    (hd : unmarshalEap bs = .ok e) (he : marshalEap e = .ok bs') :
    unmarshalEap bs' = .ok e :=
  unmarshalEap_stable bs bs' e hd he

/-- **C12 for EAP packets, fixed point**: marshalling the second decode gives `bs'` again -/
theorem C12_eap_fixed_point (bs bs' : Bytes) (e : Eap)
    (hd : unmarshalEap bs = .ok e) (he : marshalEap e = .ok bs') :
    ∃ e', unmarshalEap bs' = .ok e' ∧ marshalEap e' = .ok bs' :=
  ⟨e, unmarshalEap_stable bs bs' e hd he, he⟩

/-- on encodings of packets of `DomEap` the re-encoding is the input -/
theorem C12_eap_canonical (e : Eap) (bs : Bytes) (hdom : DomEap e) (he : marshalEap e = .ok bs) :
    ∃ e', unmarshalEap bs = .ok e' ∧ marshalEap e' = .ok bs :=
  ⟨e, rt_eap_payload e bs hdom he, he⟩

/-- the chain alone (`IKEPayloadContainer.Decode`, `Encode`, `Decode`), for any starting type -/
theorem C12_chain_stable (t : UInt8) (b b' : Bytes) (ps : List Payload)
    (hd : decodeChain t b = .ok ps) (he : encodeChain ps = .ok b') :
    decodeChain (firstType ps) b' = .ok ps := by
  obtain ⟨c1, c2⟩ := decodeChain_stable t b ps hd
  exact rt_chain_sk ps b' c1 c2 he

/-- a non-canonical datagram the decoder accepts: total-length field wrong (ignored), version 2.3,
all flag bits set, an unknown non-critical payload (skipped), a nonce whose generic header has
reserved bits set, a CP payload with the attribute R bit set and non-zero reserved octets, a Delete
with SPI size 9 and no SPI, an SA whose proposal has a non-zero reserved octet, a wrong transform
count, a transform of type 9 (dropped) and a TV key-length attribute followed by trailing octets
(dropped), and an Encrypted payload closing the chain with next-payload 35 -/
def c12Wire : Bytes :=
  [0,0,0,0,0,0,0,1, 0,0,0,0,0,0,0,2, 200, 0x23, 34, 0xff, 0,0,0,7, 0,0,1,0] ++
  [40, 0x7f, 0, 6, 1, 2] ++
  [47, 0x55, 0, 7, 9, 9, 9] ++
  [42, 0, 0, 16, 1, 7, 7, 7, 0x80, 1, 0, 4, 1, 2, 3, 4] ++
  [33, 0, 0, 8, 3, 9, 0, 0] ++
  [46, 0, 0, 44, 0, 5, 0, 40, 1, 1, 0, 9,
     3, 7, 0, 8, 9, 7, 0, 1,
     3, 0, 0, 16, 1, 0, 0, 12, 0x80, 14, 1, 0, 0xaa, 0xbb, 0xcc, 0xdd,
     0, 0, 0, 8, 2, 0, 0, 5] ++
  [35, 0, 0, 8, 1, 2, 3, 4]

/-- `C12_stable` / `C12_fixed_point` are not vacuous on non-canonical input: `c12Wire` decodes, the
message encodes, and the re-encoding differs from the input -/
theorem c12Wire_reencoded :
    (decodeMsg c12Wire >>= encodeMsg >>= fun r => Res.ok (r.1 != c12Wire)) = .ok true := by
  decide +kernel

example : (decodeMsg c12Wire >>= encodeMsg).isOk = true := by
  obtain ⟨r, hr, _⟩ := Res.bind_eq_ok c12Wire_reencoded
  rw [hr]
  rfl

example : (decodeMsg c12Wire >>= encodeMsg >>= fun r => Res.ok (r.1 != c12Wire)) = .ok true :=
  c12Wire_reencoded

example : (decodeMsg c12Wire >>= fun m => Res.ok m.payloads.length) = .ok 5 := by decide +kernel

/-- a message of `Msg.Dom` that encodes, for `C12_canonical` -/
def c12Canon : Msg :=
  ⟨{ ispi := 1, rspi := 2, major := 2, minor := 0, exch := 34, flags := 8, mid := 7 },
   [.nonce [1, 2, 3], .ke 14 [9, 9], .notify 0 16388 [] [5], .delete 3 4 1 [0xdeadbeef]]⟩

example : c12Canon.Dom := by
  refine ⟨by decide, by decide, ?_⟩
  intro p hp
  simp only [c12Canon, List.mem_cons, List.mem_nil_iff, or_false] at hp
  rcases hp with rfl | rfl | rfl | rfl <;> simp [Payload.Dom]

example : (encodeMsg c12Canon).isOk = true := by decide +kernel

/-- an EAP-AKA' packet outside the setter's domain: non-zero reserved word, AT_RES with 40 bits in
a 3-word attribute (non-zero padding octets), an attribute of unknown type 200 with a non-zero
reserved word, AT_KDF twice (the second replaces the first), and a lone trailing type octet -/
def c12EapWire : Bytes :=
  [1, 7, 0, 37, 50, 1, 0x12, 0x34] ++
  [3, 3, 0, 40, 1, 2, 3, 4, 5, 9, 9, 9] ++
  [200, 2, 0xab, 0xcd, 1, 2, 3, 4] ++
  [24, 1, 0, 1] ++ [24, 1, 0, 2] ++ [77]

/-- `C12_eap_stable` is not vacuous on non-canonical input -/
theorem c12EapWire_reencoded :
    (unmarshalEap c12EapWire >>= marshalEap >>= fun r => Res.ok (r != c12EapWire, r.length)) = .ok (true, 32) := by
  decide +kernel

example : (unmarshalEap c12EapWire >>= marshalEap).isOk = true := by
  obtain ⟨r, hr, _⟩ := Res.bind_eq_ok c12EapWire_reencoded
  rw [hr]
  rfl

example : (unmarshalEap c12EapWire >>= marshalEap >>= fun r => Res.ok (r != c12EapWire, r.length)) = .ok (true, 32) :=
  c12EapWire_reencoded

/-- a packet of `DomEap` that marshals, for `C12_eap_canonical` -/
example : DomEap ⟨2, 9, .identity [0x61, 0x62]⟩ ∧ (marshalEap ⟨2, 9, .identity [0x61, 0x62]⟩).isOk = true := by
  decide

end Ike
