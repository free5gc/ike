import IkeProofs.RefineReg.Dh
import IkeProofs.Theorems.C09
import IkeProofs.RefineSa.RandNum

/-! C09 over the translated `security/dh` and the private exponent of `security`.  The group objects are the ones the
translated `init()` registers (`dhG`), the primes what `new(big.Int).SetString(<the literal in the source>, 16)`
evaluates to.  The theorems about the private exponent restate those of `RefineSa/RandNum.lean` under the name the
check looks for. -/

namespace Ike
open Ike.RefineReg

/-- the translated `init` registers exactly the two RFC groups under their names -/
theorem C09_gen_groups_registered :
    Gen.dh.init_ {} = .ok dhG ∧
    Go.mapEntries dhG.dhTypes = [(name1024, .Dh1024BitModp desc1024), (name2048, .DH2048BitModp desc2048)] ∧
    absGroup1024 desc1024 = dhGroup2 ∧ absGroup2048 desc2048 = dhGroup14 :=
  ⟨dh_init_ok, dh_groups_are_rfc.1, dh_groups_are_rfc.2.1, dh_groups_are_rfc.2.2⟩

/-- public value of the translated `GetPublicValue` on the registered group objects: for every exponent,
exactly 128 / 256 octets whose value is `2^x mod p` with the RFC 2409 / RFC 3526 prime -/
theorem C09_gen_pub (x : Nat) :
    (∃ bs, Gen.dh.Dh1024BitModp.GetPublicValue desc1024 x = .ok bs ∧ bs.length = 128 ∧
        beNat bs = 2 ^ x % Spec.rfc2409Group2) ∧
    (∃ bs, Gen.dh.DH2048BitModp.GetPublicValue desc2048 x = .ok bs ∧ bs.length = 256 ∧
        beNat bs = 2 ^ x % Spec.rfc3526Group14) := by
  obtain ⟨⟨b1, h1, l1, v1, _⟩, ⟨b2, h2, l2, v2, _⟩⟩ := C09_pub x
  refine ⟨⟨b1, ?_, l1, v1⟩, ⟨b2, ?_, l2, v2⟩⟩
  · rw [Dh1024_GetPublicValue_refines desc1024 desc1024_wf.1 desc1024_wf.2 x, absGroup1024_desc]; exact h1
  · rw [DH2048_GetPublicValue_refines desc2048 desc2048_wf.1 desc2048_wf.2 x, absGroup2048_desc]; exact h2

/-- shared secret of the translated `GetSharedKey`: every exponent and EVERY peer value (0, 1, ≥ p, any size) -/
theorem C09_gen_shared (x y : Nat) :
    (∃ bs, Gen.dh.Dh1024BitModp.GetSharedKey desc1024 x y = .ok bs ∧ bs.length = 128 ∧
        beNat bs = y ^ x % Spec.rfc2409Group2) ∧
    (∃ bs, Gen.dh.DH2048BitModp.GetSharedKey desc2048 x y = .ok bs ∧ bs.length = 256 ∧
        beNat bs = y ^ x % Spec.rfc3526Group14) := by
  obtain ⟨⟨b1, h1, l1, v1, _⟩, ⟨b2, h2, l2, v2, _⟩⟩ := C09_shared x y
  refine ⟨⟨b1, ?_, l1, v1⟩, ⟨b2, ?_, l2, v2⟩⟩
  · rw [Dh1024_GetSharedKey_refines desc1024 desc1024_wf.1 desc1024_wf.2 x y, absGroup1024_desc]; exact h1
  · rw [DH2048_GetSharedKey_refines desc2048 desc2048_wf.1 desc2048_wf.2 x y, absGroup2048_desc]; exact h2

/-- `big.Int.Exp` as translated is modular exponentiation -/
theorem C09_gen_exp (x y m : Nat) (hm : 0 < m) : Go.bigExp x y m = x ^ y % m := bigExp_eq_pow_mod x y m hm

/-! The private exponent (`security.GenerateRandomNumber`, `CalculateDiffieHellmanMaterials`): `crypto/rand.Reader` is
the explicit state `Rand` (an octet stream and the read that fails, if any); `crypto/rand.Int` is `Go.randInt`
(rejection sampling over ⌈bitLen(max−1)/8⌉ octets per draw, as the standard library does); the package-level bounds are
what the translated `init()` computes from the source's literals. -/

open Ike.RefineSa in
/-- the bounds the translated `init()` sets: 2^2048 − 1 and 2^128 − 1 -/
theorem C09_gen_bounds : Gen.security.init_ {} = .ok secG ∧
    secG.randomNumberMaximum = 2 ^ 2048 - 1 ∧ secG.randomNumberMinimum = 2 ^ 128 - 1 :=
  ⟨security_init_ok, secG_bounds.1, secG_bounds.2⟩

open Ike.RefineSa in
/-- C09, range: EVERY exponent the translated `GenerateRandomNumber` returns — whatever the random source delivers —
lies in [2^128, 2^2048 − 1) -/
theorem C09_gen_exponent_range (r r' : Rand) (n : Nat)
    (h : Gen.security.GenerateRandomNumber secG r = .ok (r', n)) : 2 ^ 128 ≤ n ∧ n < 2 ^ 2048 - 1 :=
  GenerateRandomNumber_range r r' n h

open Ike.RefineSa in
/-- C09, drawn from the source: the exponent IS the first 256 octets the source delivers when they are in range
(otherwise the next 256, and so on: `GenerateRandomNumber_nth_draw`); one read of the source per draw -/
theorem C09_gen_exponent_is_draw (r : Rand) (hnf : r.failAt ≠ some r.reads) (d : Nat)
    (hd : d = beNat (cyc r.buf r.pos 256)) (hlo : 2 ^ 128 ≤ d) (hhi : d < 2 ^ 2048 - 1) :
    Gen.security.GenerateRandomNumber secG r = .ok ({ r with reads := r.reads + 1, pos := r.pos + 256 }, d) :=
  GenerateRandomNumber_first_draw r hnf d hd hlo hhi

open Ike.RefineSa in
/-- C09, failure ⇒ error: a number is returned only if every read up to then succeeded; a source failing at the
first read gives an error; and an error is always a failure of the source -/
theorem C09_gen_failure_is_error (r : Rand) :
    (r.failAt = some r.reads → Gen.security.GenerateRandomNumber secG r = .err) ∧
    (∀ r' n, Gen.security.GenerateRandomNumber secG r = .ok (r', n) →
      r'.reads > r.reads ∧ ∀ i, r.reads ≤ i → i < r'.reads → r.failAt ≠ some i) ∧
    (Gen.security.GenerateRandomNumber secG r = .err → ∃ i, r.reads ≤ i ∧ r.failAt = some i) :=
  ⟨GenerateRandomNumber_fail r, fun r' n h => GenerateRandomNumber_no_number_on_failure r r' n h,
   GenerateRandomNumber_err_source r⟩

open Ike.RefineSa in
/-- the only way the translation of the sampling loop "faults" is its 64-iteration bound: 64 consecutive successful
reads all out of range (for a uniform source a draw of 2048 bits is out of range with probability about 2^128 / 2^2048 =
2^-1920, so 64 in a row with probability about 2^-122880) -/
theorem C09_gen_exponent_fault (r : Rand) (h : Gen.security.GenerateRandomNumber secG r = .fault) :
    ∀ j, j < 64 → r.failAt ≠ some (r.reads + j) ∧ ¬ (2 ^ 128 ≤ drawAt r j ∧ drawAt r j < 2 ^ 2048 - 1) :=
  GenerateRandomNumber_fault r h

open Ike.RefineSa in
/-- `CalculateDiffieHellmanMaterials` as translated: on success the exponent is in range, the local public value is
g^x mod p and the shared secret peer^x mod p of the SA's group, both of the modulus length -/
theorem C09_gen_dh_materials (r r' : Rand) (k : Gen.security.IKESAKey) (hk : RefineReg.DhWF k.DhInfo)
    (peer pub sh : Bytes)
    (h : Gen.security.CalculateDiffieHellmanMaterials secG r k peer = .ok (r', pub, sh)) :
    ∃ x : Nat, Gen.security.GenerateRandomNumber secG r = .ok (r', x) ∧ 2 ^ 128 ≤ x ∧ x < 2 ^ 2048 - 1 ∧
      dhPub (RefineReg.absGroup k.DhInfo) x = .ok pub ∧
      dhShared (RefineReg.absGroup k.DhInfo) x (beNat peer) = .ok sh :=
  CalculateDiffieHellmanMaterials_ok r r' k hk peer pub sh h

end Ike
