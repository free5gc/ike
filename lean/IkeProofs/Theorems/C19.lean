import IkeProofs.Lemmas.RoundTrip
import IkeModel.Message.Build
import IkeModel.Spec.Ts24502

/-!
# C19 — constructors and builders yield exactly the specified payloads, 3GPP ones too

One theorem per function of `message/build.go` (model: `Ike.Build`), the header
constructor and flag accessors of `message/header.go`, the 3GPP helpers against
the independent TS 24.502 layouts of `IkeModel/Spec/Ts24502.lean`, and the
length limits that are enforced when a built value is encoded.

A container is the list of its elements and a builder returns the new
container, so `build c args = c ++ [x]` says at once that exactly one element
was appended, that it is `x` (whose fields are the arguments), and that the
earlier elements are untouched (`C19_append_frame`).  For builders returning
`Res`, `err` means the Go function returned an error before touching the
container.
-/

namespace Ike
open Build

/-- C19, "leaves earlier payloads untouched", once and for all: appending one
element changes nothing at the old positions, puts the element at the end and
makes the container one longer. -/
theorem C19_append_frame {α : Type} (c : List α) (x : α) :
    (c ++ [x]).length = c.length + 1 ∧ (c ++ [x]).take c.length = c ∧
    (∀ i, i < c.length → (c ++ [x])[i]? = c[i]?) ∧ (c ++ [x])[c.length]? = some x := by
  refine ⟨by simp, by simp, fun i hi => List.getElem?_append_left hi, by simp⟩

theorem C19_reset {α : Type} (c : List α) : reset c = [] := rfl

theorem C19_buildNotification (c : List Payload) (proto : UInt8) (ntype : UInt16) (spi data : Bytes) :
    buildNotification c proto ntype spi data = c ++ [.notify proto ntype spi data] := rfl

theorem C19_buildCertificate (c : List Payload) (enc : UInt8) (d : Bytes) :
    buildCertificate c enc d = c ++ [.cert enc d] := rfl

theorem C19_buildEncrypted (c : List Payload) (next : UInt8) (d : Bytes) :
    buildEncrypted c next d = c ++ [.sk next d] := rfl

/-- `BUildKeyExchange` (the Go name is spelt so) -/
theorem C19_buildKeyExchange (c : List Payload) (group : UInt16) (d : Bytes) :
    buildKeyExchange c group d = c ++ [.ke group d] := rfl

theorem C19_buildIdentificationInitiator (c : List Payload) (t : UInt8) (d : Bytes) :
    buildIdentificationInitiator c t d = c ++ [.idi t d] := rfl

theorem C19_buildIdentificationResponder (c : List Payload) (t : UInt8) (d : Bytes) :
    buildIdentificationResponder c t d = c ++ [.idr t d] := rfl

theorem C19_buildAuthentication (c : List Payload) (m : UInt8) (d : Bytes) :
    buildAuthentication c m d = c ++ [.auth m d] := rfl

/-- `BuildConfiguration`: a Configuration payload of the given type without attributes -/
theorem C19_buildConfiguration (c : List Payload) (ctype : UInt8) :
    buildConfiguration c ctype = c ++ [.cp ctype []] := rfl

theorem C19_buildConfigurationAttribute (l : List CPAttr) (t : UInt16) (v : Bytes) :
    buildConfigurationAttribute l t v = l ++ [⟨t, v⟩] := rfl

theorem C19_buildNonce (c : List Payload) (d : Bytes) : buildNonce c d = c ++ [.nonce d] := rfl

/-- `BuildTrafficSelectorInitiator`: an empty TSi payload -/
theorem C19_buildTrafficSelectorInitiator (c : List Payload) :
    buildTrafficSelectorInitiator c = c ++ [.tsi []] := rfl

/-- `BuildTrafficSelectorResponder`: an empty TSr payload -/
theorem C19_buildTrafficSelectorResponder (c : List Payload) :
    buildTrafficSelectorResponder c = c ++ [.tsr []] := rfl

theorem C19_buildIndividualTrafficSelector (l : List TSel) (tstype proto : UInt8) (sport eport : UInt16)
    (saddr eaddr : Bytes) :
    buildIndividualTrafficSelector l tstype proto sport eport saddr eaddr
      = l ++ [⟨tstype, proto, sport, eport, saddr, eaddr⟩] := rfl

/-- `BuildSecurityAssociation`: an SA payload without proposals -/
theorem C19_buildSecurityAssociation (c : List Payload) :
    buildSecurityAssociation c = c ++ [.sa []] := rfl

/-- `BuildProposal` (sub-container): number, protocol, SPI as given, no transforms -/
theorem C19_buildProposal (l : List Proposal) (num proto : UInt8) (spi : Bytes) :
    buildProposal l num proto spi = l ++ [⟨num, proto, spi, [], [], [], [], []⟩] := rfl

theorem C19_buildDeletePayload (c : List Payload) (proto spiSize : UInt8) (num : UInt16) (spis : List UInt32) :
    buildDeletePayload c proto spiSize num spis = c ++ [.delete proto spiSize num spis] := rfl

theorem C19_buildEAP (c : List Payload) (code ident : UInt8) :
    buildEAP c code ident = c ++ [.eap ⟨code, ident, .none⟩] := rfl

/-- `BuildEAP` followed by the assignment of the method data on the returned element -/
theorem C19_buildEAPWith (c : List Payload) (code ident : UInt8) (data : EapData) :
    buildEAPWith c code ident data = c ++ [.eap ⟨code, ident, data⟩] := rfl

/-- `BuildEAPSuccess`: code 3 -/
theorem C19_buildEAPSuccess (c : List Payload) (ident : UInt8) :
    buildEAPSuccess c ident = c ++ [.eap ⟨3, ident, .none⟩] := rfl

/-- `BuildEAPfailure`: code 4 -/
theorem C19_buildEAPfailure (c : List Payload) (ident : UInt8) :
    buildEAPfailure c ident = c ++ [.eap ⟨4, ident, .none⟩] := rfl

theorem C19_buildEapExpanded (vid vtype : UInt32) (d : Bytes) :
    buildEapExpanded vid vtype d = .expanded vid vtype d := rfl

/-- `BuildTransform` (sub-container), all argument shapes:
no attribute type ⇒ a transform without attribute (value arguments ignored);
type and fixed value ⇒ a TV attribute; type and a non-empty variable-length
value ⇒ a TLV attribute; type without any value ⇒ NOTHING is appended. -/
theorem C19_buildTransform (l : List Transform) (ttype : UInt8) (tid : UInt16) (vval : Bytes) :
    (∀ aval, buildTransform l ttype tid none aval vval = l ++ [⟨ttype, tid, false, 0, 0, 0, []⟩]) ∧
    (∀ ty av, buildTransform l ttype tid (some ty) (some av) vval = l ++ [⟨ttype, tid, true, 1, ty, av, []⟩]) ∧
    (∀ ty, vval ≠ [] →
      buildTransform l ttype tid (some ty) none vval = l ++ [⟨ttype, tid, true, 0, ty, 0, vval⟩]) ∧
    (∀ ty, buildTransform l ttype tid (some ty) none [] = l) := by
  refine ⟨fun _ => rfl, fun _ _ => rfl, fun ty hv => ?_, fun _ => rfl⟩
  have : vval.length ≠ 0 := fun h => hv (List.eq_nil_of_length_eq_zero h)
  simp [buildTransform, this, Facts.attrFormatTLV]

/-- the dropped case is the only one in which `BuildTransform` leaves the container as it is -/
theorem C19_buildTransform_dropped_iff (l : List Transform) (ttype : UInt8) (tid : UInt16)
    (atype aval : Option UInt16) (vval : Bytes) :
    buildTransform l ttype tid atype aval vval = l ↔ atype.isSome ∧ aval = none ∧ vval = [] := by
  have hne : ∀ x : Transform, l ++ [x] ≠ l := by
    intro x h
    have := congrArg List.length h
    simp at this
  cases atype with
  | none => simp [buildTransform, hne]
  | some ty =>
    cases aval with
    | some av => simp [buildTransform, hne]
    | none =>
      cases vval with
      | nil => simp [buildTransform]
      | cons b bs => simp [buildTransform, hne]

/-- every transform `BuildTransform` appends (attribute type below 2¹⁵) is in the
encodable domain of the SA codec, hence survives encoding and decoding
(`parseTransform_marshal`) -/
theorem C19_buildTransform_dom (ttype : UInt8) (tid : UInt16) (atype aval : Option UInt16) (vval : Bytes)
    (hty : ∀ ty, atype = some ty → ty.toNat < 32768) :
    ∀ t ∈ buildTransform [] ttype tid atype aval vval, t.Dom := by
  cases atype with
  | none => intro t ht; simp [buildTransform] at ht; subst ht; left; simp
  | some ty =>
    have h := hty ty rfl
    cases aval with
    | some av =>
      intro t ht; simp [buildTransform] at ht; subst ht; right; left
      simp [h, Facts.attrFormatTV]
    | none =>
      cases vval with
      | nil => intro t ht; simp [buildTransform] at ht
      | cons b bs =>
        intro t ht; simp [buildTransform] at ht; subst ht; right; right
        simp [h, Facts.attrFormatTLV]

example : buildTransform [⟨1, 12, true, 1, 14, 128, []⟩] 3 12 none (some 7) [9] =
    [⟨1, 12, true, 1, 14, 128, []⟩, ⟨3, 12, false, 0, 0, 0, []⟩] ∧
    buildTransform [] 1 12 (some 14) none [] = [] := by decide

/-- the flags octet `NewHeader` builds from the generated bit constants: its value, and the two bits read back -/
theorem newHeader_flag_bits (response initiator : Bool) :
    ((if response then Facts.responseBit else 0) ||| (if initiator then Facts.initiatorBit else 0) : UInt8)
      = (if response then 0x20 else 0) ||| (if initiator then 0x08 else 0) ∧
    ((((if response then Facts.responseBit else 0) ||| (if initiator then Facts.initiatorBit else 0) : UInt8)
      &&& Facts.responseBit) != 0) = response ∧
    ((((if response then Facts.responseBit else 0) ||| (if initiator then Facts.initiatorBit else 0) : UInt8)
      &&& Facts.initiatorBit) != 0) = initiator := by
  cases response <;> cases initiator <;> decide

/-- C19, `NewHeader`: version 2.0, SPIs / exchange type / message ID / next
payload / payload octets as given, flags = (0x20 if response) | (0x08 if
initiator) and no other bit, and the accessors report the two requests back. -/
theorem C19_newHeader (ispi rspi : UInt64) (exch : UInt8) (response initiator : Bool) (mid : UInt32)
    (next : UInt8) (pb : Bytes) :
    let h := newHeader ispi rspi exch response initiator mid next pb
    h.major = 2 ∧ h.minor = 0 ∧ h.ispi = ispi ∧ h.rspi = rspi ∧ h.exch = exch ∧ h.mid = mid ∧
    h.next = next ∧ h.payloadBytes = pb ∧
    h.flags = (if response then 0x20 else 0) ||| (if initiator then 0x08 else 0) ∧
    h.isResponse = response ∧ h.isInitiator = initiator := by
  have hb := newHeader_flag_bits response initiator
  exact ⟨rfl, rfl, rfl, rfl, rfl, rfl, rfl, rfl, hb.1, hb.2.1, hb.2.2⟩

/-- C19, `IsResponse` / `IsInitiator` on an ARBITRARY header (all 256 flag
octets, whatever the other bits): they read exactly bit 5 (0x20) and bit 3
(0x08) of the flags octet. -/
theorem C19_flag_accessors (h : Header) :
    (h.isResponse = true ↔ h.flags.toNat / 32 % 2 = 1) ∧
    (h.isInitiator = true ↔ h.flags.toNat / 8 % 2 = 1) := by
  -- the two masks on each of the 256 octets
  have := forall_uint8 (p := fun x => (((x &&& 32) != 0) = decide (x.toNat / 32 % 2 = 1)) ∧
      (((x &&& 8) != 0) = decide (x.toNat / 8 % 2 = 1))) (by decide +kernel) h.flags
  -- the generated bit constants
  have e1 : Facts.responseBit = 32 := rfl
  have e2 : Facts.initiatorBit = 8 := rfl
  unfold Header.isResponse Header.isInitiator
  rw [e1, e2, this.1, this.2]
  simp

example : (⟨1, 2, 2, 0, 34, 0xF7, 0, 0, []⟩ : Header).isResponse = true ∧
    (⟨1, 2, 2, 0, 34, 0xF7, 0, 0, []⟩ : Header).isInitiator = false := by decide

/-- C19, the constructed header on the wire: octet 17 is 0x20 (version 2.0),
octet 19 the flags, the length field 28 + payload octets. -/
theorem C19_newHeader_wire (ispi rspi : UInt64) (exch : UInt8) (response initiator : Bool) (mid : UInt32)
    (next : UInt8) (pb : Bytes) (hlen : 28 + pb.length ≤ 0xFFFFFFFF) :
    marshalHeader (newHeader ispi rspi exch response initiator mid next pb) =
      .ok (put64 ispi ++ put64 rspi ++
           [next, 0x20, exch, (if response then 0x20 else 0) ||| (if initiator then 0x08 else 0)] ++
           put32 mid ++ put32 (UInt32.ofNat (28 + pb.length)) ++ pb) := by
  unfold marshalHeader newHeader
  have e : Facts.ikeHeaderLen = 28 := rfl
  simp only [e]
  rw [if_neg (by omega)]
  rfl

/-- C19, `NewMessage`: the header of `NewHeader` (no next payload, no payload
octets yet) and the payload list as given -/
theorem C19_newMessage (ispi rspi : UInt64) (exch : UInt8) (response initiator : Bool) (mid : UInt32)
    (ps : List Payload) :
    newMessage ispi rspi exch response initiator mid ps =
      ⟨newHeader ispi rspi exch response initiator mid 0 [], ps⟩ ∧
    (newMessage ispi rspi exch response initiator mid ps).hdr.major = 2 ∧
    (newMessage ispi rspi exch response initiator mid ps).hdr.isResponse = response ∧
    (newMessage ispi rspi exch response initiator mid ps).hdr.isInitiator = initiator ∧
    (newMessage ispi rspi exch response initiator mid ps).payloads = ps := by
  obtain ⟨hmajor, -, -, -, -, -, -, -, -, hresp, hinit⟩ := C19_newHeader ispi rspi exch response initiator mid 0 []
  exact ⟨rfl, hmajor, hresp, hinit, rfl⟩

open Spec.Ts24502

/-- the specification's `be` at widths 1 and 2 is what the encoders write (`put16`) -/
theorem be1_eq (n : Nat) : be 1 n = [UInt8.ofNat n] := natToBytes_one n

theorem be2_eq (n : Nat) : be 2 n = put16 (UInt16.ofNat n) := natToBytes_two n

/-- C19, EAP-5G Start: `BuildEAP5GStart` appends exactly one EAP payload whose
encoding is the TS 24.502 §9.3.2.2.1 packet (EAP-Request, expanded type 254,
vendor 10415, vendor type 3, message id 1, spare 0), for every identifier. -/
theorem C19_eap5gStart (c : List Payload) (ident : UInt8) :
    ∃ p, buildEAP5GStart c ident = c ++ [p] ∧
      p = .eap ⟨1, ident, .expanded 10415 3 [1, 0]⟩ ∧
      marshalPayload p = .ok (eap5gStart ident) ∧
      eap5gStart ident = [1, ident, 0, 14, 254, 0, 40, 175, 0, 0, 0, 3, 1, 0] :=
  ⟨_, rfl, rfl, rfl, rfl⟩

/-- the payload `BuildEAP5GNAS` appends -/
def nasPayload (ident : UInt8) (nas : Bytes) : Payload :=
  .eap ⟨1, ident, .expanded 10415 3 ([2, 0] ++ put16 (UInt16.ofNat nas.length) ++ nas)⟩

/-- C19, EAP-5G NAS, the builder's own limits, as iff statements:
success ⇔ 1 ≤ |NAS| ≤ 65535, and then exactly `nasPayload` is appended;
error (container unchanged) ⇔ NAS empty or longer than 65535; never a panic. -/
theorem C19_eap5gNas_build (c : List Payload) (ident : UInt8) (nas : Bytes) :
    (∀ c', buildEAP5GNAS c ident nas = .ok c' ↔
      (1 ≤ nas.length ∧ nas.length ≤ 65535 ∧ c' = c ++ [nasPayload ident nas])) ∧
    (buildEAP5GNAS c ident nas = .err ↔ (nas.length = 0 ∨ nas.length > 65535)) ∧
    buildEAP5GNAS c ident nas ≠ .fault := by
  have h : buildEAP5GNAS c ident nas =
      if nas.length = 0 ∨ nas.length > 65535 then .err else .ok (c ++ [nasPayload ident nas]) := by
    unfold buildEAP5GNAS
    by_cases h0 : nas.length = 0
    · rw [if_pos h0, if_pos (Or.inl h0)]
    · by_cases h1 : nas.length > 0xFFFF
      · simp only [if_neg h0, if_pos h1, if_pos (Or.inr h1)]
      · simp only [if_neg h0, if_neg h1]; rw [if_neg (by omega)]; rfl
  obtain ⟨h1, h2, h3⟩ := Res.ite_err_ok_iff (nas.length = 0 ∨ nas.length > 65535) (c ++ [nasPayload ident nas])
  rw [h]
  exact ⟨fun c' => (h1 c').trans ⟨fun x => ⟨by omega, by omega, x.2⟩, fun x => ⟨by omega, x.2.2⟩⟩, h2, h3⟩

/-- C19, EAP-5G NAS, layout: whenever the builder succeeds, the encoding of the
appended payload is the TS 24.502 §9.3.2.2.2 packet byte for byte (message id
2, spare 0, 16-bit NAS length, NAS PDU, inside the expanded-type header). -/
theorem C19_eap5gNas_layout (ident : UInt8) (nas : Bytes) :
    marshalPayload (nasPayload ident nas) = .ok (eap5gNas ident nas) := by
  unfold nasPayload eap5gNas eap5gHeader
  simp only [marshalPayload, marshalEap, marshalEapData, Res.bind_ok, be2_eq]
  -- type 254 (expanded), vendor 10415 (3GPP), vendor type 3 (EAP-5G): the header of `C19_eap5gStart`
  have e1 : put32 ((Facts.eapTypeExpanded.toUInt32 <<< 24) ||| ((10415 : UInt32) &&& 0x00ffffff)) = [254] ++ be 3 10415 := by
    decide
  have e2 : put32 (3 : UInt32) = be 4 3 := by decide
  rw [e1, e2]
  have e3 : ([254] ++ be 3 10415 ++ be 4 3 ++ ([2, 0] ++ put16 (UInt16.ofNat nas.length) ++ nas)).length
      = 8 + (4 + nas.length) := by
    have : (be 3 10415).length = 3 := by decide
    have : (be 4 3).length = 4 := by decide
    simp only [List.length_append, List.length_cons, List.length_nil, put16_length]
    omega
  rw [e3, show 4 + (8 + (4 + nas.length)) = 12 + (4 + nas.length) by omega]
  simp only [List.append_assoc]

theorem eap5gNas_length (ident : UInt8) (nas : Bytes) : (eap5gNas ident nas).length = 16 + nas.length := by
  unfold eap5gNas eap5gHeader
  have h3 : (be 3 10415).length = 3 := by decide
  have h4 : (be 4 3).length = 4 := by decide
  simp only [List.length_append, List.length_cons, List.length_nil, be2_eq, put16_length, h3, h4]

/-- C19, EAP-5G NAS, "oversize arguments give an error, not a truncated field",
end to end: building the payload into an empty container AND encoding the
container succeeds iff the TS 24.502 packet exists (`eap5gNasDefined`: NAS PDU
non-empty, and NAS length, EAP length and IKE payload length all fit their 16
bits, i.e. 1 ≤ |NAS| ≤ 65515); the octets are then the generic payload header
followed by the TS 24.502 packet.  For 65516 ≤ |NAS| ≤ 65535 the builder
itself accepts (its only check is the NAS length field) and it is the container
encoder that returns the error — nothing is ever emitted with a wrapped length. -/
theorem C19_eap5gNas_wire (ident : UInt8) (nas : Bytes) :
    ((∃ c', buildEAP5GNAS [] ident nas = .ok c' ∧ ∃ bs, encodeChain c' = .ok bs) ↔ eap5gNasDefined nas) ∧
    (eap5gNasDefined nas →
      encodeChain [nasPayload ident nas] = .ok ([0, 0] ++ be 2 (4 + (16 + nas.length)) ++ eap5gNas ident nas)) ∧
    (¬ eap5gNasDefined nas → encodeChain [nasPayload ident nas] = .err ∨ buildEAP5GNAS [] ident nas = .err) := by
  have hlay := C19_eap5gNas_layout ident nas
  have hlen := eap5gNas_length ident nas
  have henc : encodeChain [nasPayload ident nas] =
      if 4 + (16 + nas.length) > 0xFFFF then .err
      else .ok ([0, 0] ++ be 2 (4 + (16 + nas.length)) ++ eap5gNas ident nas) := by
    simp only [encodeChain, hlay, Res.bind_ok, hlen, be2_eq]
    split
    · rfl
    · simp [nextField, nasPayload, Facts.typeNoNext]
  have hb := C19_eap5gNas_build [] ident nas
  unfold eap5gNasDefined
  refine ⟨⟨?_, ?_⟩, ?_, ?_⟩
  · rintro ⟨c', hc, bs, hbs⟩
    obtain ⟨h1, h2, h3⟩ := (hb.1 c').1 hc
    subst h3
    simp only [List.nil_append] at hbs
    rw [henc] at hbs
    split at hbs
    · cases hbs
    · omega
  · intro hd
    refine ⟨[nasPayload ident nas], (hb.1 _).2 ⟨hd.1, by omega, rfl⟩,
      [0, 0] ++ be 2 (4 + (16 + nas.length)) ++ eap5gNas ident nas, ?_⟩
    rw [henc, if_neg (by omega)]
  · intro hd
    rw [henc, if_neg (by omega)]
  · intro hd
    by_cases h0 : nas.length = 0
    · exact Or.inr (hb.2.1.2 (Or.inl h0))
    · left
      rw [henc, if_pos (by omega)]

example : eap5gNasDefined [0x7e, 0, 0x41] ∧ ¬ eap5gNasDefined [] ∧
    eap5gNas 5 [0x7e, 0, 0x41] = [1, 5, 0, 19, 254, 0, 40, 175, 0, 0, 0, 3, 2, 0, 0, 3, 0x7e, 0, 0x41] := by decide +kernel

/-- the flags octet built with `|=` is the specification's sum DSCPI·1 + DCSI·2 -/
theorem qos_flags (isDefault isDSCP : Bool) :
    (if isDSCP then (if isDefault then Facts.qosBitDCSI else 0) ||| Facts.qosBitDSCPI
      else (if isDefault then Facts.qosBitDCSI else 0) : UInt8)
      = UInt8.ofNat ((if isDSCP then 1 else 0) + (if isDefault then 2 else 0)) := by
  cases isDSCP <;> cases isDefault <;> rfl

/-- the builder in closed form (Refine/Build.lean uses it too) -/
theorem qos_build_eq (c : List Payload) (pdu : UInt8) (qfis : List UInt8) (isDefault isDSCP : Bool) (dscp : UInt8) :
    buildNotify5GQosInfo c pdu qfis isDefault isDSCP dscp =
      if 3 + qfis.length + 1 + (if isDSCP then 1 else 0) > 255 then .err
      else .ok (c ++ [.notify 0 55501 [] (qosInfoData pdu qfis isDefault (if isDSCP then some dscp else none))]) := by
  unfold buildNotify5GQosInfo qosInfoData
  simp only [be1_eq, qos_flags]
  by_cases h1 : qfis.length > 0xFF
  · rw [if_pos h1, if_pos (by omega)]
  · rw [if_neg h1]
    -- with or without the DSCP octet: the same length test and, octet for octet, the same data
    cases isDSCP
    all_goals
      simp only [Bool.false_eq_true, if_false, if_true, List.length_append, List.length_cons, List.length_nil,
        Option.isSome_none, Option.isSome_some, Nat.zero_add, Nat.add_zero, Nat.reduceAdd, List.append_nil]
    all_goals rfl

/-- C19, 5G_QOS_INFO, as iff statements: `BuildNotify5G_QOS_INFO` succeeds iff
the TS 24.502 §9.3.1.1 value is encodable (QFI count and total length fit one
octet — `qosInfoDefined`), and then appends exactly one Notify payload (no
protocol, no SPI, type 55501) whose data is the specified value: length, PDU
session id, QFI count, QFI list, flags (DSCPI = bit 1, DCSI = bit 2), DSCP
octet iff specified; otherwise it returns an error (container unchanged) —
more than 255 QFIs or more than 255 octets in total; it never panics.
The DSCP argument is ignored when not specified. -/
theorem C19_qosInfo (c : List Payload) (pdu : UInt8) (qfis : List UInt8) (isDefault isDSCP : Bool) (dscp : UInt8) :
    let od : Option UInt8 := if isDSCP then some dscp else none
    (∀ c', buildNotify5GQosInfo c pdu qfis isDefault isDSCP dscp = .ok c' ↔
      (qosInfoDefined qfis od ∧ c' = c ++ [.notify 0 55501 [] (qosInfoData pdu qfis isDefault od)])) ∧
    (buildNotify5GQosInfo c pdu qfis isDefault isDSCP dscp = .err ↔ ¬ qosInfoDefined qfis od) ∧
    buildNotify5GQosInfo c pdu qfis isDefault isDSCP dscp ≠ .fault ∧
    marshalPayload (.notify 0 55501 [] (qosInfoData pdu qfis isDefault od))
      = .ok (notifyQosInfo pdu qfis isDefault od) := by
  intro od
  have hdef : 3 + qfis.length + 1 + (if isDSCP then 1 else 0) > 255 ↔ ¬ qosInfoDefined qfis od := by
    unfold qosInfoDefined
    cases isDSCP <;> simp [od] <;> omega
  obtain ⟨h1, h2, h3⟩ := Res.ite_err_ok_iff (3 + qfis.length + 1 + (if isDSCP then 1 else 0) > 255)
    (c ++ [.notify 0 55501 [] (qosInfoData pdu qfis isDefault od)])
  rw [qos_build_eq]
  refine ⟨fun c' => (h1 c').trans (and_congr_left' ((not_congr hdef).trans Decidable.not_not)), h2.trans hdef, h3, ?_⟩
  simp only [marshalPayload, marshalNotify, notifyQosInfo, notifyBody, be2_eq]
  rfl

set_option maxRecDepth 100000 in
example : qosInfoDefined [1, 2, 9] (some 46) ∧
    notifyQosInfo 5 [1, 2, 9] true (some 46) = [0, 0, 0xD8, 0xCD, 8, 5, 3, 1, 2, 9, 3, 46] ∧
    ¬ qosInfoDefined (List.replicate 251 7) (some 0) ∧ qosInfoDefined (List.replicate 251 7) none := by decide +kernel

/-- C19, NAS_IP4_ADDRESS / UP_IP4_ADDRESS: an empty address string appends
nothing; otherwise exactly one Notify payload (no protocol, no SPI, type 55502
resp. 55504) carrying the octets of the parsed address is appended, and for
the four octets of a dotted quad its encoding is the TS 24.502 layout. -/
theorem C19_notifyIp4 (c : List Payload) (a : Bytes) (a0 a1 a2 a3 : UInt8) :
    buildNotifyNasIp4Address c none = c ∧ buildNotifyUpIp4Address c none = c ∧
    buildNotifyNasIp4Address c (some a) = c ++ [.notify 0 55502 [] a] ∧
    buildNotifyUpIp4Address c (some a) = c ++ [.notify 0 55504 [] a] ∧
    marshalPayload (.notify 0 55502 [] [a0, a1, a2, a3]) = .ok (notifyNasIp4 a0 a1 a2 a3) ∧
    marshalPayload (.notify 0 55504 [] [a0, a1, a2, a3]) = .ok (notifyUpIp4 a0 a1 a2 a3) ∧
    notifyNasIp4 a0 a1 a2 a3 = [0, 0, 0xD8, 0xCE, a0, a1, a2, a3] ∧
    notifyUpIp4 a0 a1 a2 a3 = [0, 0, 0xD8, 0xD0, a0, a1, a2, a3] :=
  ⟨rfl, rfl, rfl, rfl, rfl, rfl, rfl, rfl⟩

/-- C19, NAS_TCP_PORT: port 0 appends nothing; every other port appends exactly
one Notify payload of type 55506 whose encoding is the TS 24.502 layout (two
octets, network order) -/
theorem C19_notifyTcpPort (c : List Payload) (port : UInt16) :
    (port = 0 → buildNotifyNasTcpPort c port = c) ∧
    (port ≠ 0 → buildNotifyNasTcpPort c port = c ++ [.notify 0 55506 [] (put16 port)]) ∧
    marshalPayload (.notify 0 55506 [] (put16 port)) = .ok (notifyNasTcpPort port.toNat) := by
  refine ⟨fun h => by simp [buildNotifyNasTcpPort, h], fun h => ?_, ?_⟩
  · simp [buildNotifyNasTcpPort, h, buildNotification]; decide
  · simp only [marshalPayload, marshalNotify, notifyNasTcpPort, notifyBody, be2_eq, UInt16.ofNat_toNat]
    rfl

example : notifyNasTcpPort (20000 : UInt16).toNat = [0, 0, 0xD8, 0xD2, 0x4E, 0x20] := by decide +kernel

/-- C19, Notify SPI: the encoder returns an error exactly when the SPI is longer
than the one-octet SPI Size field can say; otherwise the field holds the true length. -/
theorem C19_limit_notify (proto : UInt8) (ntype : UInt16) (spi d : Bytes) :
    (marshalNotify proto ntype spi d = .err ↔ spi.length > 255) ∧
    marshalNotify proto ntype spi d ≠ .fault ∧
    (∀ bs, marshalNotify proto ntype spi d = .ok bs →
      spi.length ≤ 255 ∧ (byteAt bs 1).toNat = spi.length ∧ bs.length = 4 + spi.length + d.length) := by
  obtain ⟨h1, h2, h3⟩ := Res.ite_err_ok_iff (spi.length > 0xFF)
    ([proto, UInt8.ofNat spi.length] ++ put16 ntype ++ spi ++ d)
  refine ⟨h2, h3, fun bs hb => ?_⟩
  obtain ⟨hn, rfl⟩ := (h1 bs).1 hb
  refine ⟨by omega, ?_, by simp; omega⟩
  simp only [List.cons_append, List.nil_append, byteAt_cons_succ, byteAt_cons_zero]
  exact toNat_ofNat_u8 _ (by omega)

/-- C19, proposal: an SPI longer than 255 octets or more than 255 transforms
⇒ error; and whenever the encoder succeeds the SPI Size and transform count
octets hold the true values and the length field the true length — no
truncated field. -/
theorem C19_limit_proposal (last : Bool) (p : Proposal) :
    (p.spi.length > 255 → marshalProposal last p = .err) ∧
    (p.transforms.length > 255 → marshalProposal last p = .err) ∧
    (∀ bs, marshalProposal last p = .ok bs →
      p.spi.length ≤ 255 ∧ 1 ≤ p.transforms.length ∧ p.transforms.length ≤ 255 ∧ bs.length ≤ 65535 ∧
      (byteAt bs 6).toNat = p.spi.length ∧ (byteAt bs 7).toNat = p.transforms.length ∧
      (be16 (byteAt bs 2) (byteAt bs 3)).toNat = bs.length) := by
  refine ⟨fun h => ?_, fun h => ?_, fun bs hb => ?_⟩
  · unfold marshalProposal; rw [if_pos h]
  · unfold marshalProposal
    by_cases h1 : p.spi.length > 0xFF
    · rw [if_pos h1]
    · rw [if_neg h1]; simp only; rw [if_neg (by omega), if_pos h]
  · unfold marshalProposal at hb
    obtain ⟨h1, hb⟩ := Res.ite_err_eq_ok hb
    obtain ⟨h2, hb⟩ := Res.ite_err_eq_ok hb
    obtain ⟨h3, hb⟩ := Res.ite_err_eq_ok hb
    obtain ⟨td, -, hb⟩ := Res.bind_eq_ok hb
    obtain ⟨h4, hb⟩ := Res.ite_err_eq_ok hb
    have hl : (UInt16.ofNat (8 + p.spi.length + td.length)).toNat = 8 + p.spi.length + td.length :=
      toNat_ofNat_u16 _ (by omega)
    generalize UInt16.ofNat (8 + p.spi.length + td.length) = v at hb hl
    cases hb
    simp only [put16, List.cons_append, List.nil_append, byteAt_cons_succ, byteAt_cons_zero]
    refine ⟨by omega, by omega, by omega, by simp; omega, toNat_ofNat_u8 _ (by omega), toNat_ofNat_u8 _ (by omega), ?_⟩
    rw [be16_put, hl]
    simp only [List.length_cons, List.length_append]
    omega

/-- C19, traffic selectors: more than 255 selectors (or none) ⇒ error; on
success the count octet holds the true number. -/
theorem C19_limit_ts (l : List TSel) :
    (l.length > 255 → marshalTS l = .err) ∧ (l = [] → marshalTS l = .err) ∧
    (∀ bs, marshalTS l = .ok bs → 1 ≤ l.length ∧ l.length ≤ 255 ∧ (byteAt bs 0).toNat = l.length) := by
  refine ⟨fun h => ?_, fun h => by rw [h]; rfl, fun bs hb => ?_⟩
  · unfold marshalTS; rw [if_neg (by omega), if_pos h]
  · unfold marshalTS at hb
    obtain ⟨h1, hb⟩ := Res.ite_err_eq_ok hb
    obtain ⟨h2, hb⟩ := Res.ite_err_eq_ok hb
    obtain ⟨body, -, hb⟩ := Res.bind_eq_ok hb
    cases hb
    exact ⟨by omega, by omega, toNat_ofNat_u8 _ (by omega)⟩

/-- C19, payload container: the exact success condition of `Encode` on a
non-empty container — the first payload encodes, its length with the 4-octet
generic header fits 16 bits, and the rest encodes; the length field then holds
the true length. -/
theorem C19_limit_chain_iff (p : Payload) (rest : List Payload) (bs : Bytes) :
    encodeChain (p :: rest) = .ok bs ↔
      ∃ data tl, marshalPayload p = .ok data ∧ 4 + data.length ≤ 65535 ∧ encodeChain rest = .ok tl ∧
        bs = [nextField p rest, 0] ++ put16 (UInt16.ofNat (4 + data.length)) ++ data ++ tl := by
  rw [encodeChain]
  constructor
  · intro h
    obtain ⟨data, hd, h⟩ := Res.bind_eq_ok h
    obtain ⟨hlen, h⟩ := Res.ite_err_eq_ok h
    obtain ⟨tl, ht, h⟩ := Res.bind_eq_ok h
    cases h
    exact ⟨data, tl, hd, by omega, ht, rfl⟩
  · rintro ⟨data, tl, hd, hlen, ht, rfl⟩
    rw [hd, ht]
    simp only [Res.bind_ok]
    rw [if_neg (by omega)]

/-- C19, payload container, oversize payload: a payload whose body exceeds
65531 octets makes `Encode` return an error when it is the first one, and
makes it fail (never a successful encoding with a wrapped length) wherever it
stands in the container. -/
theorem C19_limit_chain (p : Payload) (data : Bytes) (hm : marshalPayload p = .ok data)
    (hbig : 4 + data.length > 65535) :
    (∀ rest, encodeChain (p :: rest) = .err) ∧
    (∀ pre rest bs, encodeChain (pre ++ p :: rest) ≠ .ok bs) := by
  have h1 : ∀ rest, encodeChain (p :: rest) = .err := by
    intro rest
    simp only [encodeChain, hm, Res.bind_ok]
    rw [if_pos hbig]
  refine ⟨h1, fun pre => ?_⟩
  induction pre with
  | nil => intro rest bs; simp [h1]
  | cons q qs ih =>
    intro rest bs hb
    rw [List.cons_append, C19_limit_chain_iff] at hb
    obtain ⟨_, tl, _, _, ht, _⟩ := hb
    exact ih rest tl ht

/-- C19, the remaining 16-bit value limits: a configuration attribute value or a
variable-length transform attribute value longer than 65535 octets ⇒ error -/
theorem C19_limit_values (a : CPAttr) (rest : List CPAttr) (t : Transform) (last : Bool) :
    (a.value.length > 65535 → marshalCPAttrs (a :: rest) = .err) ∧
    (t.present = true → t.fmt = 0 → t.vval.length > 65535 → marshalTransform last t = .err) := by
  constructor
  · intro h
    simp only [marshalCPAttrs]
    rw [if_pos h]
  · intro h1 h2 h3
    have : marshalAttr t = .err := by
      unfold marshalAttr
      simp only [h1, h2]
      have : t.vval.length ≠ 0 := by omega
      simp [this, h3]
    simp [marshalTransform, this]

/-- C19, "limits that are enforced at encoding time … ⇒ error, never a truncated
field", collected: Notify SPI > 255 octets (iff); proposal SPI > 255 octets or
> 255 transforms; > 255 traffic selectors; and for a container whose first
payload encodes to `data`: `Encode` returns an error iff that payload exceeds
the 16-bit payload length or the rest of the container fails. -/
theorem C19_encode_limits :
    (∀ proto ntype spi d, marshalNotify proto ntype spi d = .err ↔ spi.length > 255) ∧
    (∀ last p, p.spi.length > 255 ∨ p.transforms.length > 255 → marshalProposal last p = .err) ∧
    (∀ l : List TSel, l.length > 255 → marshalTS l = .err) ∧
    (∀ p data rest, marshalPayload p = .ok data →
      (encodeChain (p :: rest) = .err ↔ (4 + data.length > 65535 ∨ encodeChain rest = .err))) := by
  refine ⟨fun proto ntype spi d => (C19_limit_notify proto ntype spi d).1, fun last p h => ?_,
    fun l => (C19_limit_ts l).1, fun p data rest hm => ?_⟩
  · rcases h with h | h
    · exact (C19_limit_proposal last p).1 h
    · exact (C19_limit_proposal last p).2.1 h
  · simp only [encodeChain, hm, Res.bind_ok]
    by_cases h : 4 + data.length > 0xFFFF
    · rw [if_pos h]; exact ⟨fun _ => Or.inl h, fun _ => rfl⟩
    · rw [if_neg h]
      cases encodeChain rest with
      | err => simp
      | fault => simp; omega
      | ok tl => simp; omega

/-- non-vacuity of the limits: a 256-octet SPI, a 65532-octet nonce -/
example : marshalNotify 0 16384 (zeros 256) [] = .err ∧
    (∃ data, marshalPayload (.nonce (zeros 65532)) = .ok data ∧ 4 + data.length > 65535) :=
  ⟨by simp [marshalNotify], zeros 65532, rfl, by simp⟩

end Ike
