import IkeProofs.Theorems.C06
import IkeProofs.Lemmas.PrimsReal

/-!
# C02 — tampered / truncated / spliced / cross-key / reflected SK messages are rejected

Vocabulary (Lemmas/Sk.lean):
* `unprotectDecoded hdr bs` — the datagram as `DecodeDecrypt` decodes it before any key is
  looked at (`decodeMsg bs` when `hdr = none`);
* `Msg.firstIsSK d` — the decoded message presents an Encrypted payload first; by
  `unprotect_sk` / `unprotect_not_sk` this is exactly the condition under which
  `unprotect` enters `decryptMsg`;
* `lastSK d.payloads none = ok (some (next, encData))` — the SK body `decryptMsg` uses;
* `sa.integObj (!role)` — the integrity object of the PEER's direction;
* `cl` in the comments below — the checksum length `sa.integInfo.outLen`.

The unconditional results are `C02_accept_inv`, `C02_verify_before_decrypt`,
`C02_reject_of_bad_mac`, `C02_icv_flip`, `C02_icv_flip_protected`, `C02_not_sk`,
`C02_not_sk_decodeMsg`.  The `_partial` theorems need
the cryptographic hypothesis `hNoColl` (no truncated-MAC collision) and nothing else.
No-fault is C04.
-/

namespace Ike

/-- Acceptance implies a valid checksum: the last `cl` octets of the SK body equal the truncated
MAC — under the integrity object of the peer's direction `!role` — of EVERY octet of the
datagram before its last `cl`; and the cipher was called exactly once. -/
theorem C02_accept_inv (P : Prims) (hP : P.Lawful) (sa : SAKey) (hw : sa.WF P) (role : Bool)
    (hdr : Option Header) (bs : Bytes) (d : Msg)
    (hd : unprotectDecoded hdr bs = .ok d) (hsk : d.firstIsSK = true)
    (k' : Option SAKey) (n : Nat) (m : Msg)
    (hacc : unprotect P (some sa) role hdr bs = (k', n, .ok m)) :
    ∃ next encData, lastSK d.payloads none = .ok (some (next, encData)) ∧
      sa.integInfo.outLen ≤ encData.length ∧ sa.integInfo.outLen ≤ bs.length ∧
      (P.mac (sa.integObj (!role)).alg (sa.integObj (!role)).key
          (bs.take (bs.length - sa.integInfo.outLen))).take sa.integInfo.outLen
        = encData.drop (encData.length - sa.integInfo.outLen) ∧
      n = 1 := by
  rw [unprotect_sk P sa role hdr bs d hd hsk] at hacc
  simp only [Prod.mk.injEq] at hacc
  obtain ⟨_, hn, hr⟩ := hacc
  obtain ⟨next, encData, hl, h1, h2, hm, h1n⟩ := decryptMsg_inv P hP sa hw role bs d (Or.inr ⟨m, hr⟩)
  exact ⟨next, encData, hl, h1, h2, hm.symm, hn.symm.trans h1n⟩

/-- `C02_accept_inv` for a datagram whose SK body is already known -/
theorem accepted_mac (P : Prims) (hP : P.Lawful) (sa : SAKey) (hw : sa.WF P) (role : Bool)
    (hdr : Option Header) (bs : Bytes) (d : Msg) (next : UInt8) (encData : Bytes)
    (hd : unprotectDecoded hdr bs = .ok d) (hl : lastSK d.payloads none = .ok (some (next, encData)))
    (m : Msg) (hacc : (unprotect P (some sa) role hdr bs).2.2 = .ok m) :
    sa.integInfo.outLen ≤ bs.length ∧
    (P.mac (sa.integObj (!role)).alg (sa.integObj (!role)).key
        (bs.take (bs.length - sa.integInfo.outLen))).take sa.integInfo.outLen
      = encData.drop (encData.length - sa.integInfo.outLen) := by
  obtain ⟨nx, ed, hl2, _, h2, hm, _⟩ := C02_accept_inv P hP sa hw role hdr bs d hd
    (lastSK_firstIsSK d.hdr d.payloads _ hl) _ _ m (by rw [← hacc])
  cases hl.symm.trans hl2
  exact ⟨h2, hm⟩

/-- Contrapositive, usable for every alteration: if the truncated MAC (peer-direction key)
of the octets before the last `cl` differs from the SK body's last `cl` octets — or the SK
body is shorter than `cl` — the datagram is not accepted and the cipher is not called. -/
theorem C02_reject_of_bad_mac (P : Prims) (hP : P.Lawful) (sa : SAKey) (hw : sa.WF P) (role : Bool)
    (hdr : Option Header) (bs : Bytes) (d : Msg)
    (hd : unprotectDecoded hdr bs = .ok d) (hsk : d.firstIsSK = true)
    (hbad : ∀ next encData, lastSK d.payloads none = .ok (some (next, encData)) →
      sa.integInfo.outLen ≤ encData.length →
      (P.mac (sa.integObj (!role)).alg (sa.integObj (!role)).key
          (bs.take (bs.length - sa.integInfo.outLen))).take sa.integInfo.outLen
        ≠ encData.drop (encData.length - sa.integInfo.outLen)) :
    (unprotect P (some sa) role hdr bs).2.1 = 0 ∧ ∀ m, (unprotect P (some sa) role hdr bs).2.2 ≠ .ok m := by
  rw [unprotect_sk P sa role hdr bs d hd hsk]
  simp only
  have key : ¬ ((decryptMsg P sa role bs d).2.1 ≠ 0 ∨ ∃ m', (decryptMsg P sa role bs d).2.2 = .ok m') := by
    intro h
    obtain ⟨next, encData, hl, h1, h2, hm, _⟩ := decryptMsg_inv P hP sa hw role bs d h
    exact hbad next encData hl h1 hm.symm
  constructor
  · apply Classical.byContradiction; intro hn; exact key (Or.inl hn)
  · intro m hm; exact key (Or.inr ⟨m, hm⟩)

/-- Verify before decrypt, for EVERY byte string: the cipher's Decrypt is called at most once,
and only if the datagram decoded, presented SK first, carried an SK body of at least `cl` octets
and the checksum comparison over the received octets succeeded. -/
theorem C02_verify_before_decrypt (P : Prims) (hP : P.Lawful) (sa : Option SAKey)
    (hw : ∀ k, sa = some k → k.WF P) (role : Bool) (hdr : Option Header) (bs : Bytes) :
    (unprotect P sa role hdr bs).2.1 = 0 ∨
    ((unprotect P sa role hdr bs).2.1 = 1 ∧
      ∃ k d next encData, sa = some k ∧ unprotectDecoded hdr bs = .ok d ∧ d.firstIsSK = true ∧
        lastSK d.payloads none = .ok (some (next, encData)) ∧
        k.integInfo.outLen ≤ encData.length ∧ k.integInfo.outLen ≤ bs.length ∧
        (P.mac (k.integObj (!role)).alg (k.integObj (!role)).key
            (bs.take (bs.length - k.integInfo.outLen))).take k.integInfo.outLen
          = encData.drop (encData.length - k.integInfo.outLen)) := by
  rw [unprotect_eq]
  cases hd : unprotectDecoded hdr bs with
  | err => exact Or.inl rfl
  | fault => exact Or.inl rfl
  | ok d =>
    simp only
    by_cases hsk : d.firstIsSK = true
    · rw [if_pos hsk]
      cases sa with
      | none => exact Or.inl rfl
      | some k =>
        simp only
        by_cases hn : (decryptMsg P k role bs d).2.1 = 0
        · exact Or.inl hn
        · obtain ⟨next, encData, hl, h1, h2, hm, h1n⟩ := decryptMsg_inv P hP k (hw k rfl) role bs d (Or.inl hn)
          exact Or.inr ⟨h1n, k, d, next, encData, rfl, rfl, hsk, hl, h1, h2, hm.symm⟩
    · rw [if_neg hsk]
      split <;> exact Or.inl rfl

/-- A datagram whose first decoded payload is not SK is handled as an unprotected datagram: plain
decode, key argument handed back untouched, outcome independent of key and role.  The only
deviation from "`= decodeMsg`" is `DecodeDecrypt`'s guard for a header that names SK but is
followed by no payload: `err`. -/
theorem C02_not_sk (P : Prims) (sa : Option SAKey) (role : Bool) (hdr : Option Header) (bs : Bytes) (d : Msg)
    (hd : unprotectDecoded hdr bs = .ok d) (hsk : d.firstIsSK = false) :
    unprotect P sa role hdr bs =
      (sa, 0, if d.payloads = [] ∧ d.hdr.next = Facts.typeSK then .err else .ok d) ∧
    (∀ sa' role', (unprotect P sa' role' hdr bs).2 = (unprotect P sa role hdr bs).2) := by
  refine ⟨unprotect_not_sk P sa role hdr bs d hd hsk, fun sa' role' => ?_⟩
  rw [unprotect_not_sk P sa role hdr bs d hd hsk, unprotect_not_sk P sa' role' hdr bs d hd hsk]

/-- `C02_not_sk` for the nil-header mode and a non-empty payload list, literally "`= decodeMsg`" -/
theorem C02_not_sk_decodeMsg (P : Prims) (sa : Option SAKey) (role : Bool) (bs : Bytes) (d : Msg)
    (hd : decodeMsg bs = .ok d) (hne : d.payloads ≠ []) (hsk : d.firstIsSK = false) :
    unprotect P sa role none bs = (sa, 0, decodeMsg bs) := by
  have := (C02_not_sk P sa role none bs d hd hsk).1
  rw [this, hd, if_neg (by simp [hne])]

/-- ICV flip (unconditional).  `bs` is accepted; `bs'` has the same length and the same octets
before the last `cl`, but differs (so it differs within the last `cl` octets).  Both decode
(header modes may differ) to messages whose SK body ends where the datagram ends (`hext`,
`hext'` — true for every datagram consisting of a header and one SK payload, see
`C06`/`Spec.skMessage`).  Then `bs'` is rejected with an error and the cipher is not called. -/
theorem C02_icv_flip (P : Prims) (hP : P.Lawful) (sa : SAKey) (hw : sa.WF P) (role : Bool)
    (hdr hdr' : Option Header) (bs bs' : Bytes) (d d' : Msg) (next next' : UInt8) (encData encData' : Bytes)
    (hd : unprotectDecoded hdr bs = .ok d) (hl : lastSK d.payloads none = .ok (some (next, encData)))
    (hext : encData.drop (encData.length - sa.integInfo.outLen) = bs.drop (bs.length - sa.integInfo.outLen))
    (m : Msg) (hacc : (unprotect P (some sa) role hdr bs).2.2 = .ok m)
    (hlen : bs'.length = bs.length)
    (hpre : bs'.take (bs'.length - sa.integInfo.outLen) = bs.take (bs.length - sa.integInfo.outLen))
    (hne : bs' ≠ bs)
    (hd' : unprotectDecoded hdr' bs' = .ok d') (hl' : lastSK d'.payloads none = .ok (some (next', encData')))
    (hext' : encData'.drop (encData'.length - sa.integInfo.outLen) = bs'.drop (bs'.length - sa.integInfo.outLen)) :
    (unprotect P (some sa) role hdr' bs').2 = (0, .err) := by
  have hsk' : d'.firstIsSK = true := lastSK_firstIsSK d'.hdr d'.payloads _ hl'
  obtain ⟨h2, hm⟩ := accepted_mac P hP sa hw role hdr bs d next encData hd hl m hacc
  rw [unprotect_sk P sa role hdr' bs' d' hd' hsk']
  simp only
  by_cases h1' : encData'.length < sa.integInfo.outLen
  · unfold decryptMsg; rw [hl']; simp only; rw [if_pos h1']
  · rw [decryptMsg_eq P hP sa hw role bs' d' next' encData' hl' (by omega) (by omega)]
    simp only
    rw [if_neg]
    intro hc
    rw [hpre, hm, hext, hext'] at hc
    apply hne
    rw [← List.take_append_drop (bs'.length - sa.integInfo.outLen) bs',
        ← List.take_append_drop (bs.length - sa.integInfo.outLen) bs, hc, hpre]

/-- ICV flip on genuine messages, no decoding hypothesis (unconditional): for ANY datagram `bs`
that `protect` returned, every alteration `bs'` confined to the checksum is rejected with an error
by the opposite role, in either header mode, and the cipher is not called. -/
theorem C02_icv_flip_protected (P : Prims) (hP : P.Lawful) (sa sb : SAKey) (hwa : sa.WF P) (hwb : sb.WF P)
    (role : Bool)
    (hcl : sb.integInfo.outLen = sa.integInfo.outLen)
    (halg : (sb.integObj role).alg = (sa.integObj role).alg)
    (hka : (sb.integObj role).key = (sa.integObj role).key)
    (r : Rand) (m : Msg) (hmaj : m.hdr.major.toNat < 16) (hmin : m.hdr.minor.toNat < 16)
    (sa' : SAKey) (r' : Rand) (bs : Bytes) (mo : Msg)
    (h : protect P sa role r m = (sa', r', .ok (bs, mo)))
    (bs' : Bytes) (hlen : bs'.length = bs.length)
    (hpre : bs'.take (bs'.length - sa.integInfo.outLen) = bs.take (bs.length - sa.integInfo.outLen))
    (hne : bs' ≠ bs)
    (hdr : Option Header) (hhdr : hdr = none ∨ ∃ hd, hdr = some hd ∧ parseHeader bs' = .ok hd) :
    (unprotect P (some sb) (!role) hdr bs').2 = (0, .err) := by
  obtain ⟨inner, iv, pad, -, hiv, -, hal, hfit, rfl⟩ := protect_ok_legal P hP sa hwa role r m sa' r' bs mo h
  have hrr : (!(!role)) = role := Bool.not_not role
  have hil := Spec.skIcv_length P hP (sa.skParams role) m.hdr (firstType m.payloads) inner iv pad
    (WF_integObj P sa hwa role)
  have hk : (sa.skParams role).icvLen = sa.integInfo.outLen := rfl
  rw [Spec.skMessage_eq] at hlen hpre hne
  rw [List.length_append, hil, hk] at hlen hpre
  rw [Nat.add_sub_cancel, take_prefix_eq _ _ _ rfl] at hpre
  -- `bs'` is the signed octets of `bs` followed by some other tail of checksum length
  obtain ⟨tail, rfl, htl⟩ := eq_append_of_take_eq bs' _ _ hlen hpre
  rw [unprotect_skTail P hP sb hwb (!role) (sa.skParams role) hcl (by rw [hrr]; exact halg) (by rw [hrr]; exact hka)
    m.hdr hmaj hmin _ inner iv pad hiv hal hfit tail htl hdr hhdr, if_neg (fun e => hne (by rw [e]))]

/-- Tampering anywhere before the checksum — bit flips in header or SK payload, truncation or
extension that carries the genuine checksum along, splices — PARTIAL: needs `hNoColl`, i.e. the
altered signed octets do not collide with the genuine ones under the truncated MAC with the
peer-direction key.
(Alterations that also change the checksum field: `C02_reject_of_bad_mac`, whose hypothesis
is then the no-forgery assumption itself; alterations of the checksum field only: `C02_icv_flip`.) -/
theorem C02_tamper_partial (P : Prims) (hP : P.Lawful) (sa : SAKey) (hw : sa.WF P) (role : Bool)
    (hdr₀ : Option Header) (bs₀ : Bytes) (d₀ : Msg) (next₀ : UInt8) (enc₀ : Bytes)
    (hd₀ : unprotectDecoded hdr₀ bs₀ = .ok d₀) (hl₀ : lastSK d₀.payloads none = .ok (some (next₀, enc₀)))
    (m₀ : Msg) (hacc : (unprotect P (some sa) role hdr₀ bs₀).2.2 = .ok m₀)
    (hdr : Option Header) (bs : Bytes) (d : Msg) (next : UInt8) (enc : Bytes)
    (hd : unprotectDecoded hdr bs = .ok d) (hl : lastSK d.payloads none = .ok (some (next, enc)))
    (hsame : enc.drop (enc.length - sa.integInfo.outLen) = enc₀.drop (enc₀.length - sa.integInfo.outLen))
    (hdiff : bs.take (bs.length - sa.integInfo.outLen) ≠ bs₀.take (bs₀.length - sa.integInfo.outLen))
    (hNoColl : bs.take (bs.length - sa.integInfo.outLen) ≠ bs₀.take (bs₀.length - sa.integInfo.outLen) →
      (P.mac (sa.integObj (!role)).alg (sa.integObj (!role)).key
        (bs.take (bs.length - sa.integInfo.outLen))).take sa.integInfo.outLen ≠
      (P.mac (sa.integObj (!role)).alg (sa.integObj (!role)).key
        (bs₀.take (bs₀.length - sa.integInfo.outLen))).take sa.integInfo.outLen) :
    (unprotect P (some sa) role hdr bs).2.1 = 0 ∧ ∀ m, (unprotect P (some sa) role hdr bs).2.2 ≠ .ok m := by
  have hm := (accepted_mac P hP sa hw role hdr₀ bs₀ d₀ next₀ enc₀ hd₀ hl₀ m₀ hacc).2
  apply C02_reject_of_bad_mac P hP sa hw role hdr bs d hd (lastSK_firstIsSK d.hdr d.payloads _ hl)
  intro nx' ed' hl' _
  cases hl.symm.trans hl'
  rw [hsame, ← hm]
  exact hNoColl hdiff

/-- Common core of cross-key and reflection — PARTIAL (`hNoColl`): a datagram accepted by
`(sa, role)` is presented to `(sb, role')` with the same checksum length; if the truncated MAC
of its signed octets under the integrity object `(sb, role')` checks with differs from the one
under the object `(sa, role)` checked with, it is rejected and the cipher is not called. -/
theorem C02_otherkey_partial (P : Prims) (hP : P.Lawful) (sa sb : SAKey) (hwa : sa.WF P) (hwb : sb.WF P)
    (role role' : Bool) (hcl : sb.integInfo.outLen = sa.integInfo.outLen)
    (hdr : Option Header) (bs : Bytes) (m : Msg)
    (hacc : (unprotect P (some sa) role hdr bs).2.2 = .ok m)
    (d : Msg) (hd : unprotectDecoded hdr bs = .ok d) (hsk : d.firstIsSK = true)
    (hNoColl :
      (P.mac (sb.integObj (!role')).alg (sb.integObj (!role')).key
        (bs.take (bs.length - sa.integInfo.outLen))).take sa.integInfo.outLen ≠
      (P.mac (sa.integObj (!role)).alg (sa.integObj (!role)).key
        (bs.take (bs.length - sa.integInfo.outLen))).take sa.integInfo.outLen) :
    (unprotect P (some sb) role' hdr bs).2.1 = 0 ∧ ∀ m', (unprotect P (some sb) role' hdr bs).2.2 ≠ .ok m' := by
  obtain ⟨nx, ed, hl, h1, h2, hm, _⟩ := C02_accept_inv P hP sa hwa role hdr bs d hd hsk
    (unprotect P (some sa) role hdr bs).1 (unprotect P (some sa) role hdr bs).2.1 m
    (by rw [← hacc])
  apply C02_reject_of_bad_mac P hP sb hwb role' hdr bs d hd hsk
  intro nx' ed' hl' _
  cases hl.symm.trans hl'
  rw [hcl, ← hm]
  exact hNoColl

/-- Cross-key — PARTIAL (`hNoColl`): a genuine datagram (accepted by `sa` as `role`) presented,
in the same role, to a holder `sb` of other keys whose peer-direction integrity key gives a
different truncated MAC on the signed octets is rejected; the cipher is not called. -/
theorem C02_crosskey_partial (P : Prims) (hP : P.Lawful) (sa sb : SAKey) (hwa : sa.WF P) (hwb : sb.WF P)
    (role : Bool) (hcl : sb.integInfo.outLen = sa.integInfo.outLen)
    (hdr : Option Header) (bs : Bytes) (m : Msg)
    (hacc : (unprotect P (some sa) role hdr bs).2.2 = .ok m)
    (d : Msg) (hd : unprotectDecoded hdr bs = .ok d) (hsk : d.firstIsSK = true)
    (hNoColl :
      (P.mac (sb.integObj (!role)).alg (sb.integObj (!role)).key
        (bs.take (bs.length - sa.integInfo.outLen))).take sa.integInfo.outLen ≠
      (P.mac (sa.integObj (!role)).alg (sa.integObj (!role)).key
        (bs.take (bs.length - sa.integInfo.outLen))).take sa.integInfo.outLen) :
    (unprotect P (some sb) role hdr bs).2.1 = 0 ∧ ∀ m', (unprotect P (some sb) role hdr bs).2.2 ≠ .ok m' :=
  C02_otherkey_partial P hP sa sb hwa hwb role role hcl hdr bs m hacc d hd hsk hNoColl

/-- Reflection — PARTIAL (`hNoColl`): a datagram accepted by the SA acting as `role` (hence
produced by the peer, whose direction is `!role`) presented to the same SA acting as `!role`
— i.e. handed back to the role that produced it — is checked under the OTHER direction's
integrity key; if that gives a different truncated MAC it is rejected, cipher not called. -/
theorem C02_reflect_partial (P : Prims) (hP : P.Lawful) (sa : SAKey) (hw : sa.WF P) (role : Bool)
    (hdr : Option Header) (bs : Bytes) (m : Msg)
    (hacc : (unprotect P (some sa) role hdr bs).2.2 = .ok m)
    (d : Msg) (hd : unprotectDecoded hdr bs = .ok d) (hsk : d.firstIsSK = true)
    (hNoColl :
      (P.mac (sa.integObj role).alg (sa.integObj role).key
        (bs.take (bs.length - sa.integInfo.outLen))).take sa.integInfo.outLen ≠
      (P.mac (sa.integObj (!role)).alg (sa.integObj (!role)).key
        (bs.take (bs.length - sa.integInfo.outLen))).take sa.integInfo.outLen) :
    (unprotect P (some sa) (!role) hdr bs).2.1 = 0 ∧ ∀ m', (unprotect P (some sa) (!role) hdr bs).2.2 ≠ .ok m' := by
  apply C02_otherkey_partial P hP sa sa hw hw role (!role) rfl hdr bs m hacc d hd hsk
  rw [Bool.not_not]; exact hNoColl

/-! non-vacuity (toy lawful primitives `Prims.skToy`, values in `SkEx`, Lemmas/Sk.lean)

`SkEx.bs` is the datagram `protect Prims.skToy SkEx.sa true …` returns; `SkEx.sa` acting as
responder accepts it (`SkEx.accepted_bs`). -/

/-- `C02_accept_inv` on the genuine datagram -/
example : (Prims.skToy.mac 1 [2] (SkEx.bs.take (76 - 12))).take 12 = SkEx.enc.drop (44 - 12) := by
  obtain ⟨nx, ed, hl, _, _, hm, _⟩ := C02_accept_inv Prims.skToy Prims.skToy_lawful SkEx.sa SkEx.sa_wf false none
    SkEx.bs SkEx.dec SkEx.decoded_bs rfl _ _ _
    (show unprotect Prims.skToy (some SkEx.sa) false none SkEx.bs = (_, _, .ok _) from by
      rw [← SkEx.accepted_bs])
  have : lastSK SkEx.dec.payloads none = .ok (some (40, SkEx.enc)) := rfl
  rw [this] at hl
  simp only [Res.ok.injEq, Option.some.injEq, Prod.mk.injEq] at hl
  obtain ⟨_, rfl⟩ := hl
  exact hm

/-- `C02_verify_before_decrypt`: the genuine datagram reaches the cipher once, a flipped
checksum octet never does -/
example : (unprotect Prims.skToy (some SkEx.sa) false none SkEx.bs).2.1 = 1 ∧
    (unprotect Prims.skToy (some SkEx.sa) false none (SkEx.bs.take 75 ++ [1])).2.1 = 0 := by decide +kernel

/-- `C02_icv_flip`: last checksum octet altered -/
example : (unprotect Prims.skToy (some SkEx.sa) false none (SkEx.bs.take 75 ++ [1])).2 = (0, .err) :=
  C02_icv_flip Prims.skToy Prims.skToy_lawful SkEx.sa SkEx.sa_wf false none none SkEx.bs (SkEx.bs.take 75 ++ [1])
    SkEx.dec ⟨{ SkEx.dec.hdr with payloadBytes := (SkEx.bs.take 75 ++ [1]).drop 28 }, [.sk 40 ((SkEx.bs.take 75 ++ [1]).drop 32)]⟩
    40 40 SkEx.enc ((SkEx.bs.take 75 ++ [1]).drop 32)
    SkEx.decoded_bs rfl (by decide +kernel) _ SkEx.accepted_bs (by decide +kernel) (by decide +kernel)
    (by decide +kernel) (by decide +kernel) rfl (by decide +kernel)

/-- `C02_icv_flip_protected`: the same, with nothing assumed about how the altered datagram decodes -/
example : (unprotect Prims.skToy (some SkEx.sa) false none (SkEx.bs.take 75 ++ [1])).2 = (0, .err) := by
  obtain ⟨sa', r', mo, h⟩ := SkEx.protect_bs_full
  exact C02_icv_flip_protected Prims.skToy Prims.skToy_lawful SkEx.sa SkEx.sa SkEx.sa_wf SkEx.sa_wf true rfl rfl rfl
    SkEx.rnd SkEx.msg (by decide) (by decide) sa' r' SkEx.bs mo h (SkEx.bs.take 75 ++ [1])
    (by decide +kernel) (by decide +kernel) (by decide +kernel) none (Or.inl rfl)

/-- `C02_tamper_partial`: first header octet altered, checksum field untouched; for this pair the
toy MAC does differ (`hNoColl` holds) -/
example : (unprotect Prims.skToy (some SkEx.sa) false none (1 :: SkEx.bs.drop 1)).2.1 = 0 ∧
    ∀ m, (unprotect Prims.skToy (some SkEx.sa) false none (1 :: SkEx.bs.drop 1)).2.2 ≠ .ok m :=
  C02_tamper_partial Prims.skToy Prims.skToy_lawful SkEx.sa SkEx.sa_wf false none SkEx.bs SkEx.dec 40 SkEx.enc
    SkEx.decoded_bs rfl _ SkEx.accepted_bs none (1 :: SkEx.bs.drop 1)
    ⟨{ SkEx.dec.hdr with ispi := 72057594037927937 }, [.sk 40 SkEx.enc]⟩ 40 SkEx.enc
    (by decide +kernel) rfl rfl (by decide +kernel) (fun _ => by decide +kernel)

/-- `C02_crosskey_partial`: a holder of other keys -/
example : (unprotect Prims.skToy (some SkEx.sb) false none SkEx.bs).2.1 = 0 ∧
    ∀ m, (unprotect Prims.skToy (some SkEx.sb) false none SkEx.bs).2.2 ≠ .ok m :=
  C02_crosskey_partial Prims.skToy Prims.skToy_lawful SkEx.sa SkEx.sb SkEx.sa_wf SkEx.sb_wf false rfl none SkEx.bs _
    SkEx.accepted_bs SkEx.dec SkEx.decoded_bs rfl (by decide +kernel)

/-- `C02_reflect_partial`: presented to the initiator, who produced it -/
example : (unprotect Prims.skToy (some SkEx.sa) true none SkEx.bs).2.1 = 0 ∧
    ∀ m, (unprotect Prims.skToy (some SkEx.sa) true none SkEx.bs).2.2 ≠ .ok m :=
  C02_reflect_partial Prims.skToy Prims.skToy_lawful SkEx.sa SkEx.sa_wf false none SkEx.bs _
    SkEx.accepted_bs SkEx.dec SkEx.decoded_bs rfl (by decide +kernel)

/-- `C02_not_sk`: first-payload type altered from 46 (SK) to 40 (Nonce): handled as an unprotected
datagram — decoded as one Nonce payload holding the SK body and returned, key untouched -/
example : ∃ d, unprotectDecoded none (SkEx.bs.take 16 ++ [40] ++ SkEx.bs.drop 17) = .ok d ∧ d.firstIsSK = false ∧
    unprotect Prims.skToy (some SkEx.sa) false none (SkEx.bs.take 16 ++ [40] ++ SkEx.bs.drop 17) = (some SkEx.sa, 0, .ok d) := by
  refine ⟨⟨{ SkEx.dec.hdr with next := 40 }, [.nonce SkEx.enc]⟩, by decide +kernel, rfl, ?_⟩
  have := (C02_not_sk Prims.skToy (some SkEx.sa) false none (SkEx.bs.take 16 ++ [40] ++ SkEx.bs.drop 17)
    ⟨{ SkEx.dec.hdr with next := 40 }, [.nonce SkEx.enc]⟩ (by decide +kernel) rfl).1
  rw [this, if_neg (by simp)]

/-- the hypothesis `P.Lawful` holds of the executable primitives (`Lemmas/PrimsReal.lean`) -/
theorem C02_real_lawful : Prims.real.Lawful := Prims.real_lawful

end Ike
