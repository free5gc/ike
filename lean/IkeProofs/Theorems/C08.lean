import IkeProofs.Lemmas.Keys

/-!
# C08 — Child SA keying material follows RFC 7296 §2.17

`Spec.keymat` (IkeModel/Spec/Keys.lean) is the RFC: KEYMAT = prf+(SK_d, Ni|Nr),
cut into encr i→r, integ i→r, encr r→i, integ r→i.  The code runs `lib.PrfPlus`
on the SA's long-lived `Prf_d` object, so SK_d is that object's key; the
theorems are stated for `Prf_d` in ANY state (any pending buffer — that is what
makes the history theorems go through) and specialised to `SK_d` for SA objects
in which `Prf_d` is keyed with the stored `SK_d` (`C07_objects`: every object
produced by `GenerateKeyForIKESA`).

Two models of `GenerateKeyForChildSA` exist: `childKeys` (ChildOps.lean, returns
the four keys; the one `saStep` uses) and `genKeyForChildSA` (Keys.lean, on a
`ChildSAKey` object with possibly-nil integrity descriptor).  They are proved
equal (`C08_models_agree`); the property theorems are given for both.
-/

namespace Ike

/-- C08, KEYMAT.  For every state of the SA's `Prf_d` object, every nonce string
(including the empty one) and all key lengths: `GenerateKeyForChildSA` refuses
when no key octets are requested and otherwise returns — in the order
encr i→r, integ i→r, encr r→i, integ r→i, with lengths
(encrLen, integLen, encrLen, integLen) — the consecutive slices of
prf+(K, Ni|Nr), K the key of `Prf_d`. -/
theorem C08_keymat (P : Prims) (hP : P.Lawful) (sa : SAKey) (encrLen integLen : Nat) (nonce : Bytes)
    (hL : 0 < P.macLen sa.prf_d.alg) :
    (childKeys P sa encrLen integLen nonce).2 =
      if (encrLen + integLen) * 2 = 0 then .err
      else .ok (ChildKeys.ofSpec
        (Spec.keymat (P.mac sa.prf_d.alg) (P.macLen sa.prf_d.alg) sa.prf_d.key nonce encrLen integLen)) :=
  childKeys_spec P hP sa encrLen integLen nonce hL

/-- C08, KEYMAT from SK_d.  On an SA object whose `Prf_d` is the PRF keyed with the
stored SK_d (buffer arbitrary), with at least one key octet requested, the four
keys are field by field those of `Spec.keymat prf SK_d (Ni|Nr)`. -/
theorem C08_keymat_sk_d (P : Prims) (hP : P.Lawful) (sa : SAKey) (encrLen integLen : Nat) (nonce : Bytes)
    (ha : sa.prf_d.alg = sa.prfInfo.hash) (hk : sa.prf_d.key = sa.sk_d)
    (hL : 0 < P.macLen sa.prfInfo.hash) (hpos : 0 < encrLen + integLen) :
    ∃ k, (childKeys P sa encrLen integLen nonce).2 = .ok k ∧
      let spec := Spec.keymat (P.mac sa.prfInfo.hash) (P.macLen sa.prfInfo.hash) sa.sk_d nonce encrLen integLen
      k.encr_i2r = spec.ei ∧ k.integ_i2r = spec.ai ∧ k.encr_r2i = spec.er ∧ k.integ_r2i = spec.ar := by
  refine ⟨ChildKeys.ofSpec
    (Spec.keymat (P.mac sa.prfInfo.hash) (P.macLen sa.prfInfo.hash) sa.sk_d nonce encrLen integLen),
    ?_, rfl, rfl, rfl, rfl⟩
  rw [C08_keymat P hP sa encrLen integLen nonce (by rw [ha]; exact hL), if_neg (by omega), ha, hk]

/-- C08, the lengths: each key has exactly its descriptor's length (so the four
slices tile the first `2·(encrLen+integLen)` octets of the stream; with
`integLen = 0` both integrity keys are empty). -/
theorem C08_keymat_lengths (prf : Spec.PRF) (L : Nat) (hlen : ∀ k d, (prf k d).length = L) (hL : 0 < L)
    (skD nonce : Bytes) (encrLen integLen : Nat) :
    let k := Spec.keymat prf L skD nonce encrLen integLen
    k.ei.length = encrLen ∧ k.ai.length = integLen ∧ k.er.length = encrLen ∧ k.ar.length = integLen
      ∧ k.ei ++ k.ai ++ k.er ++ k.ar = Spec.prfPlusN prf L skD nonce (2 * (encrLen + integLen)) := by
  intro k
  have h := Spec.prfPlusN_length prf L hlen hL skD nonce (2 * (encrLen + integLen))
  simp only [k, Spec.keymat]
  generalize Spec.prfPlusN prf L skD nonce (2 * (encrLen + integLen)) = s at h
  refine ⟨length_take_drop s 0 _ (by omega), length_take_drop s _ _ (by omega), length_take_drop s _ _ (by omega),
    length_take_drop s _ _ (by omega), ?_⟩
  -- consecutive slices add up to a prefix, and the last one ends with the stream
  rw [← List.take_add, ← List.take_add, ← List.take_add, List.take_of_length_le (by omega)]

/-- C08, the two models of `GenerateKeyForChildSA` agree for all primitives and
inputs: same SA object afterwards, same outcome, the four keys appended to the
`ChildSAKey` object's (normally empty) fields; an absent integrity transform
(`integKeyLen = none`) counts as length 0. -/
theorem C08_models_agree (P : Prims) (sa : SAKey) (c : ChildSAKey) (nonce : Bytes) :
    genKeyForChildSA P sa c nonce =
      ((childKeys P sa c.encrKeyLen c.integLen nonce).1,
       (childKeys P sa c.encrKeyLen c.integLen nonce).2 >>= fun k => .ok (c.appendKeys k)) :=
  genKeyForChildSA_eq_childKeys P sa c nonce

/-- C08, KEYMAT for the `ChildSAKey` object model: a newly allocated object with
encryption key length `lE` and integrity descriptor `lA?` (nil ⇒ length 0)
receives exactly the RFC slices. -/
theorem C08_keymat_obj (P : Prims) (hP : P.Lawful) (sa : SAKey) (lE : Nat) (lA? : Option Nat) (nonce : Bytes)
    (hL : 0 < P.macLen sa.prf_d.alg) (hpos : 0 < lE + lA?.getD 0) :
    let spec := Spec.keymat (P.mac sa.prf_d.alg) (P.macLen sa.prf_d.alg) sa.prf_d.key nonce lE (lA?.getD 0)
    (genKeyForChildSA P sa { encrKeyLen := lE, integKeyLen := lA? } nonce).2 =
      .ok { encrKeyLen := lE, integKeyLen := lA?,
            i2rEncr := spec.ei, i2rInteg := spec.ai, r2iEncr := spec.er, r2iInteg := spec.ar } := by
  intro spec
  have hI : ({ encrKeyLen := lE, integKeyLen := lA? } : ChildSAKey).integLen = lA?.getD 0 := by
    cases lA? <;> rfl
  rw [C08_models_agree]
  simp only [hI]
  rw [C08_keymat P hP sa lE (lA?.getD 0) nonce hL, if_neg (by omega)]
  rfl

section
-- the history theorems and `C08_state` hold for every `P`: their hypotheses `hP`, `hL` are not used
set_option linter.unusedVariables false

/-- C08, history independence (full form).  Take ANY history `ops` of operations
on one IKE SA object — Child SA derivations interleaved with `EncodeEncrypt` and
`DecodeDecrypt` calls, any length — started in state `sa`.  If the `i`-th
operation is a Child SA derivation, its outcome in the history equals its
outcome on any object `sa0` whose `Prf_d` has the same algorithm and key — in
particular a freshly constructed copy holding the same SK_d, and `sa` itself:
the first and the hundredth derivation get the same keys. -/
theorem C08_history (P : Prims) (hP : P.Lawful) (sa sa0 : SAKey)
    (ha : sa.prf_d.alg = sa0.prf_d.alg) (hk : sa.prf_d.key = sa0.prf_d.key)
    (hL : 0 < P.macLen sa0.prf_d.alg)
    (ops : List SaOp) (i : Nat) (encrLen integLen : Nat) (nonce : Bytes)
    (hop : ops[i]? = some (.child encrLen integLen nonce)) :
    (saRun P sa ops)[i]? = some (saStep P sa0 (.child encrLen integLen nonce)).2 := by
  -- invariant along the history: `Prf_d` has the hash and key of `sa0`'s
  have hs : sa.prf_d.Sim sa0.prf_d := ⟨ha, hk⟩
  clear ha hk
  induction ops generalizing sa i with
  | nil => simp at hop
  | cons op rest ih =>
    rw [saRun_cons]
    cases i with
    | zero =>
      simp only [List.getElem?_cons_zero, Option.some.injEq] at hop ⊢
      subst hop
      exact saStep_child_congr P sa0 sa _ _ _ hs
    | succ i => exact ih _ i hop ((saStep_sim_self P sa op).prf_d.trans hs)

/-- C08, history independence for a sequence of derivations: the list of outcomes
of the derivations `ds` (key lengths and nonces) performed one after the other on
one object equals the list of outcomes of each of them on the fresh object. -/
theorem C08_history_children (P : Prims) (hP : P.Lawful) (sa sa0 : SAKey)
    (ha : sa.prf_d.alg = sa0.prf_d.alg) (hk : sa.prf_d.key = sa0.prf_d.key)
    (hL : 0 < P.macLen sa0.prf_d.alg) (ds : List (Nat × Nat × Bytes)) :
    saRun P sa (ds.map fun d => .child d.1 d.2.1 d.2.2)
      = saRunFresh P sa0 (ds.map fun d => .child d.1 d.2.1 d.2.2) := by
  have hs : sa.prf_d.Sim sa0.prf_d := ⟨ha, hk⟩
  clear ha hk
  induction ds generalizing sa with
  | nil => rfl
  | cons d rest ih =>
    simp only [List.map_cons, saRun_cons, saRunFresh]
    rw [saStep_child_congr P sa0 sa _ _ _ hs]
    exact congrArg _ (ih _ ((saStep_sim_self P sa _).prf_d.trans hs))

/-- C08, the same for the `ChildSAKey` object model (`childRun` threads the IKE SA
through successive `genKeyForChildSA` calls). -/
theorem C08_history_obj (P : Prims) (hP : P.Lawful) (sa sa0 : SAKey)
    (ha : sa.prf_d.alg = sa0.prf_d.alg) (hk : sa.prf_d.key = sa0.prf_d.key)
    (hL : 0 < P.macLen sa0.prf_d.alg) (ds : List (ChildSAKey × Bytes)) :
    childRun P sa ds = ds.map fun d => (genKeyForChildSA P sa0 d.1 d.2).2 := by
  have hs : sa.prf_d.Sim sa0.prf_d := ⟨ha, hk⟩
  clear ha hk
  induction ds generalizing sa with
  | nil => rfl
  | cons d rest ih =>
    simp only [childRun, List.map_cons]
    rw [genKeyForChildSA_eq_childKeys P sa d.1 d.2, genKeyForChildSA_eq_childKeys P sa0 d.1 d.2]
    simp only
    rw [childKeys_congr P sa0 sa _ _ _ hs]
    exact congrArg _ (ih _ ((childKeys_prf_d P sa _ _ _).trans hs))

/-- C08, what makes the above work: a derivation changes nothing of the SA object
but `Prf_d`, and of `Prf_d` neither algorithm nor key (only the pending buffer,
which the next `PrfPlus` resets before writing). -/
theorem C08_state (P : Prims) (hP : P.Lawful) (sa : SAKey) (encrLen integLen : Nat) (nonce : Bytes)
    (hL : 0 < P.macLen sa.prf_d.alg) :
    let s := (childKeys P sa encrLen integLen nonce).1
    s = { sa with prf_d := s.prf_d } ∧ s.prf_d.alg = sa.prf_d.alg ∧ s.prf_d.key = sa.prf_d.key := by
  intro s
  have h1 : s = _ := congrArg Prod.fst (childKeys_eq_prfPlus P sa encrLen integLen nonce)
  exact ⟨by rw [h1], childKeys_prf_d P sa encrLen integLen nonce⟩

end

/-- an SA object with a dirty `Prf_d` buffer meeting the hypotheses of `C08_keymat_sk_d`; Child SA keys for
AES-128 without integrity (16 and 0 octets), empty nonce: succeeds -/
example :
    let sa : SAKey := { (SAKey.fresh ⟨12, 32⟩ ⟨12, 32, 16, 2⟩ ⟨2, 20, 20, 1⟩ [1] [2] [3] [4] [5] [6] [7]) with
                          prf_d := ⟨1, [1], [9, 9]⟩ }
    sa.prf_d.alg = sa.prfInfo.hash ∧ sa.prf_d.key = sa.sk_d ∧ 0 < Prims.toy.macLen sa.prfInfo.hash
      ∧ 0 < 16 + 0 ∧ (childKeys Prims.toy sa 16 0 []).2.isOk = true := by
  decide +kernel

/-- a history mixing the three kinds of operations whose third element is a derivation -/
example : ([SaOp.child 16 12 [1], .unprotect true false [0], .child 32 16 []] : List SaOp)[2]?
    = some (.child 32 16 []) := rfl

/-- `C08_keymat_obj`: absent integrity is length 0 and the hypothesis is satisfiable -/
example : 0 < 24 + (none : Option Nat).getD 0 ∧ 0 < 16 + (some 20 : Option Nat).getD 0 := by decide

end Ike
