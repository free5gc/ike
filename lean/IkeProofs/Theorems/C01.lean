import IkeProofs.Theorems.C06
import IkeProofs.Lemmas.PrimsReal

/-!
# C01 — protected round trip between opposite roles

`protect P sa role r m` = `EncodeEncrypt(m, sa, role)` with random source `r`;
`unprotect P (some sb) (!role) hdr bs` = `DecodeDecrypt(bs, hdr, sb, !role)`.
The sender state `sa` and the receiver state `sb` are two objects; what they must agree on is
stated explicitly (`hcl`, `halg`, `hka`, `hke`: the SENDER direction's checksum length, integrity
hash / key and cipher key); every `sb` with `sa ≈ₛ sb` qualifies (`C01_roundtrip_sim`).  The codec
hypothesis on the payloads is the one `rt_chain` needs, discharged per payload kind in C03.
IV and padding octets are quantified through the arbitrary random source `r`.
Both round-trip theorems are corollaries of C06: `protect_ok_legal` (what `protect` returned is the
RFC message with legal padding) composed with `C06_accepts_any_legal_padding`.
-/

namespace Ike
open Spec

/-- Round trip: if `protect` succeeds with datagram `bs`, then `bs` has a parsable header, and
`unprotect` by the opposite role — with a nil header AND with the header parsed from `bs` —
accepts (one cipher call) and returns exactly the original payload list and the original SPIs,
version, exchange type, flags and message ID. -/
theorem C01_roundtrip (P : Prims) (hP : P.Lawful) (sa sb : SAKey) (hwa : sa.WF P) (hwb : sb.WF P)
    (role : Bool)
    (hcl : sb.integInfo.outLen = sa.integInfo.outLen)
    (halg : (sb.integObj role).alg = (sa.integObj role).alg)
    (hka : (sb.integObj role).key = (sa.integObj role).key)
    (hke : (sb.encrObj role).key = (sa.encrObj role).key)
    (r : Rand) (m : Msg)
    (hmaj : m.hdr.major.toNat < 16) (hmin : m.hdr.minor.toNat < 16)
    (hrt : ∀ p ∈ m.payloads, PayloadRT p ∧ p.isSK = false)
    (sa' : SAKey) (r' : Rand) (bs : Bytes) (mo : Msg)
    (h : protect P sa role r m = (sa', r', .ok (bs, mo))) :
    ∃ m' sb' hd, parseHeader bs = .ok hd ∧
      unprotect P (some sb) (!role) none bs = (some sb', 1, .ok m') ∧
      unprotect P (some sb) (!role) (some hd) bs = (some sb', 1, .ok m') ∧
      m'.payloads = m.payloads ∧
      m'.hdr.ispi = m.hdr.ispi ∧ m'.hdr.rspi = m.hdr.rspi ∧ m'.hdr.major = m.hdr.major ∧
      m'.hdr.minor = m.hdr.minor ∧ m'.hdr.exch = m.hdr.exch ∧ m'.hdr.flags = m.hdr.flags ∧
      m'.hdr.mid = m.hdr.mid := by
  obtain ⟨inner, iv, pad, henc, hiv, hpad, hal, hfit, rfl⟩ := protect_ok_legal P hP sa hwa role r m sa' r' bs mo h
  have hrr : (!(!role)) = role := Bool.not_not role
  obtain ⟨hph, hun, e1, e2, e3, e4, e5, e6, e7⟩ :=
    C06_accepts_any_legal_padding P hP sb hwb (!role) (sa.skParams role) hcl
      (by rw [hrr]; exact halg) (by rw [hrr]; exact hka) (by rw [hrr]; exact hke)
      m.hdr hmaj hmin (firstType m.payloads) inner iv pad hiv hpad hal hfit
      m.payloads (rt_chain m.payloads inner hrt henc)
  exact ⟨_, _, _, hph, hun none (Or.inl rfl), hun _ (Or.inr rfl), rfl, e1, e2, e3, e4, e5, e6, e7⟩

/-- The same for a receiver object in ANY state of the `≈ₛ` class of the sender's object, e.g.
after any history (C17). -/
theorem C01_roundtrip_sim (P : Prims) (hP : P.Lawful) (sa sb : SAKey) (hwa : sa.WF P) (hsim : sa ≈ₛ sb)
    (role : Bool) (r : Rand) (m : Msg)
    (hmaj : m.hdr.major.toNat < 16) (hmin : m.hdr.minor.toNat < 16)
    (hrt : ∀ p ∈ m.payloads, PayloadRT p ∧ p.isSK = false)
    (sa' : SAKey) (r' : Rand) (bs : Bytes) (mo : Msg)
    (h : protect P sa role r m = (sa', r', .ok (bs, mo))) :
    ∃ m' sb' hd, parseHeader bs = .ok hd ∧
      unprotect P (some sb) (!role) none bs = (some sb', 1, .ok m') ∧
      unprotect P (some sb) (!role) (some hd) bs = (some sb', 1, .ok m') ∧
      m'.payloads = m.payloads ∧
      m'.hdr.ispi = m.hdr.ispi ∧ m'.hdr.rspi = m.hdr.rspi ∧ m'.hdr.major = m.hdr.major ∧
      m'.hdr.minor = m.hdr.minor ∧ m'.hdr.exch = m.hdr.exch ∧ m'.hdr.flags = m.hdr.flags ∧
      m'.hdr.mid = m.hdr.mid := by
  have hwb : sb.WF P := by
    obtain ⟨w1, w2⟩ := hwa
    exact ⟨by rw [← hsim.integInfo, ← hsim.integ_i.1]; exact w1, by rw [← hsim.integInfo, ← hsim.integ_r.1]; exact w2⟩
  have hi := hsim.integObj role
  exact C01_roundtrip P hP sa sb hwa hwb role (by rw [hsim.integInfo]) hi.1.symm hi.2.symm
    (congrArg _ (hsim.encrObj role).symm) r m hmaj hmin hrt sa' r' bs mo h

/-- Encodable (non-vacuity of the round trip), the empty payload list included (`inner = []`). -/
theorem C01_encodable (P : Prims) (hP : P.Lawful) (sa : SAKey) (hw : sa.WF P) (role : Bool)
    (r : Rand) (hr : r.failAt = none) (m : Msg) (inner : Bytes)
    (henc : encodeChain m.payloads = .ok inner)
    (hfit : 4 + (16 + (inner.length + (16 - inner.length % 16)) + sa.integInfo.outLen) ≤ 0xFFFF) :
    ∃ sa' r' bs m', protect P sa role r m = (sa', r', .ok (bs, m')) := by
  obtain ⟨sa', r', m', h⟩ := C06_protect_succeeds P hP sa hw role r hr m inner henc hfit
  exact ⟨sa', r', _, m', h⟩

/-- No key, encode side: `EncodeEncrypt` with a nil key is `IKEMessage.Encode` (same datagram,
same updated header), the payload list handed back unchanged. -/
theorem C01_nokey_encode (m : Msg) :
    encodePlain m =
      match encodeMsg m with
      | .ok (bs, h) => .ok (bs, ⟨h, m.payloads⟩)
      | .err => .err
      | .fault => .fault := by
  unfold encodePlain
  cases encodeMsg m with
  | ok x => rfl
  | err => rfl
  | fault => rfl

/-- No key, decode side, complete description: `DecodeDecrypt` with a nil key and a nil header
is `IKEMessage.Decode`, except that it answers `err` when the decoded message presents an
Encrypted payload first (no key to open it) and when the header names SK but no payload follows.
The key argument stays nil; no cipher call. -/
theorem C01_nokey_decode (P : Prims) (role : Bool) (bs : Bytes) :
    unprotect P none role none bs =
      (none, 0,
        match decodeMsg bs with
        | .ok d => if d.firstIsSK = true ∨ (d.payloads = [] ∧ d.hdr.next = Facts.typeSK) then .err else .ok d
        | .err => .err
        | .fault => .fault) := by
  rw [unprotect_eq]
  show (match decodeMsg bs with | .err => _ | .fault => _ | .ok m => _) = _
  cases decodeMsg bs with
  | err => rfl
  | fault => rfl
  | ok d =>
    simp only
    by_cases h1 : d.firstIsSK = true
    · rw [if_pos h1, if_pos (Or.inl h1)]
    · rw [if_neg h1]
      by_cases h2 : d.payloads = [] ∧ d.hdr.next = Facts.typeSK
      · rw [if_pos h2, if_pos (Or.inr h2)]
      · rw [if_neg h2, if_neg (by intro h; cases h with | inl h => exact h1 h | inr h => exact h2 h)]

/-- `= decodeMsg` whenever the first decoded payload is not SK and, with zero payloads, the header
does not name SK -/
theorem C01_nokey (P : Prims) (role : Bool) (bs : Bytes) (d : Msg) (hd : decodeMsg bs = .ok d)
    (hsk : d.firstIsSK = false) (hz : d.payloads = [] → d.hdr.next ≠ Facts.typeSK) :
    unprotect P none role none bs = (none, 0, decodeMsg bs) := by
  rw [C01_nokey_decode, hd]
  simp only
  rw [if_neg]
  intro h
  cases h with
  | inl h => rw [hsk] at h; cases h
  | inr h => exact hz h.1 h.2

/-- a header naming SK with no payload: `err` (`DecodeDecrypt`'s own guard) -/
theorem C01_nokey_sk_header_only (P : Prims) (role : Bool) (bs : Bytes) (d : Msg) (hd : decodeMsg bs = .ok d)
    (hz : d.payloads = []) (hn : d.hdr.next = Facts.typeSK) :
    unprotect P none role none bs = (none, 0, .err) := by
  rw [C01_nokey_decode, hd]
  simp only
  rw [if_pos (Or.inr ⟨hz, hn⟩)]

/-- No-key round trip through the two entry points, the empty payload list included. -/
theorem C01_nokey_roundtrip (P : Prims) (role : Bool) (m : Msg) (bs : Bytes) (mo : Msg)
    (hmaj : m.hdr.major.toNat < 16) (hmin : m.hdr.minor.toNat < 16)
    (hrt : ∀ p ∈ m.payloads, PayloadRT p ∧ p.isSK = false)
    (h : encodePlain m = .ok (bs, mo)) :
    ∃ m', unprotect P none role none bs = (none, 0, .ok m') ∧ m'.payloads = m.payloads ∧
      m'.hdr.ispi = m.hdr.ispi ∧ m'.hdr.rspi = m.hdr.rspi ∧ m'.hdr.major = m.hdr.major ∧
      m'.hdr.minor = m.hdr.minor ∧ m'.hdr.exch = m.hdr.exch ∧ m'.hdr.flags = m.hdr.flags ∧
      m'.hdr.mid = m.hdr.mid := by
  rw [C01_nokey_encode] at h
  cases he : encodeMsg m with
  | err => rw [he] at h; simp at h
  | fault => rw [he] at h; simp at h
  | ok x =>
    obtain ⟨bs', h'⟩ := x
    rw [he] at h
    simp only [Res.ok.injEq, Prod.mk.injEq] at h
    obtain ⟨rfl, _⟩ := h
    obtain ⟨hdm, e1, e2, e3, e4, e5, e6, e7⟩ := rt_msg_sk m bs' h' hmaj hmin (fun p hp _ => (hrt p hp).1)
      (SKLast_of_none _ (fun p hp => (hrt p hp).2)) he
    have hnx : h'.next = firstType m.payloads := by
      unfold encodeMsg at he
      obtain ⟨pb, -, he⟩ := Res.bind_eq_ok he
      obtain ⟨out, -, he⟩ := Res.bind_eq_ok he
      cases he
      rfl
    refine ⟨⟨h', m.payloads⟩, ?_, rfl, e1, e2, e3, e4, e5, e6, e7⟩
    rw [C01_nokey P role bs' ⟨h', m.payloads⟩ hdm ?_ ?_, hdm]
    · cases hps : m.payloads with
      | nil => simp [Msg.firstIsSK]
      | cons p rest =>
        have := typeCode_ne_sk p (hrt p (by rw [hps]; simp)).2
        simp [Msg.firstIsSK, this]
    · intro hz
      simp only at hz
      rw [hnx, hz]
      decide

/-! non-vacuity (toy lawful primitives `Prims.skToy`, values in `SkEx`, Lemmas/Sk.lean) -/

/-- all hypotheses of `C01_roundtrip` hold for a concrete two-payload message, and the theorem
delivers the concrete round trip -/
example : ∃ m', (unprotect Prims.skToy (some SkEx.sa) false none SkEx.bs).2.2 = .ok m' ∧
    m'.payloads = SkEx.msg.payloads ∧ m'.hdr.mid = 5 := by
  obtain ⟨sa', r', mo, h⟩ := SkEx.protect_bs_full
  obtain ⟨m', sb', hd, _, h1, _, h2, _, _, _, _, _, _, h3⟩ :=
    C01_roundtrip Prims.skToy Prims.skToy_lawful SkEx.sa SkEx.sa SkEx.sa_wf SkEx.sa_wf true rfl rfl rfl rfl
      SkEx.rnd SkEx.msg (by decide) (by decide) SkEx.msg_rt sa' r' _ mo h
  exact ⟨m', by show (unprotect Prims.skToy (some SkEx.sa) (!true) none SkEx.bs).2.2 = _; rw [h1], h2, h3⟩

/-- the empty payload list is protected too (`C01_encodable`) -/
example : ∃ sa' r' bs m', protect Prims.skToy SkEx.sa false SkEx.rnd ⟨SkEx.msg.hdr, []⟩ = (sa', r', .ok (bs, m')) :=
  C01_encodable Prims.skToy Prims.skToy_lawful SkEx.sa SkEx.sa_wf false SkEx.rnd rfl _ [] rfl (by decide)

/-- no key, zero payloads: header-only datagram decodes to the empty list -/
example : ∃ m', unprotect Prims.skToy none true none
    [0, 0, 0, 0, 0, 0, 0, 1, 0, 0, 0, 0, 0, 0, 0, 2, 0, 32, 37, 8, 0, 0, 0, 5, 0, 0, 0, 28] = (none, 0, .ok m') ∧
    m'.payloads = [] :=
  ⟨⟨{ ispi := 1, rspi := 2, major := 2, minor := 0, exch := 37, flags := 8, mid := 5 }, []⟩, by decide +kernel, rfl⟩

/-- no key, header names SK, nothing follows: `err` -/
example : unprotect Prims.skToy none true none
    [0, 0, 0, 0, 0, 0, 0, 1, 0, 0, 0, 0, 0, 0, 0, 2, 46, 32, 37, 8, 0, 0, 0, 5, 0, 0, 0, 28] = (none, 0, .err) := by
  decide +kernel

/-- the hypothesis `P.Lawful` holds of the executable primitives (`Lemmas/PrimsReal.lean`) -/
theorem C01_real_lawful : Prims.real.Lawful := Prims.real_lawful

end Ike
