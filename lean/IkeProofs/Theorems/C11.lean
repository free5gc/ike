import IkeProofs.Lemmas.Registry

/-!
# C11 — algorithm ↔ transform mapping is faithful and closed over the advertised set

The registry (`Ike.Registry`) searches the GENERATED tables of
`IkeModel/Generated/Facts.lean`, which are re-extracted from the compiled Go
code before every proof check.  What is read off a table — by `decide` (`C11_lengths`, `C11_lengths_spec`,
`C11_advertised`, the `*_table_rt` lemmas, `encr_ids`) or by unfolding it (`encr_sizes`, `id_tables`) — is
therefore re-checked against the current code, and with it `C11_roundtrip_*`, which rest on `*_table_rt`;
`C11_sound`, `C11_unknown` (general part), `C11_sa_*` are proved for every transform / proposal by case
analysis on the decode functions, without enumerating identifiers.
Defined here for the statements: `WireRoundTrip`, `decodeEsnOpt`, the option-valued choices `childDhChoice` and
`childIntegChoice` of `NewChildSAKeyByProposal`, and `ikeProp` / `childProp` (what the two `ToProposal` return).
-/

namespace Ike
open Registry

/-- C11, "those lengths are the ones the defining RFCs prescribe": the generated
registry equals the table written here as a literal —
ENCR_AES_CBC = 12 with 16/24/32-octet keys (RFC 3602; key length attribute 14
of RFC 7296 §3.3.5), AUTH_HMAC_MD5_96 = 1 / AUTH_HMAC_SHA1_96 = 2 /
AUTH_HMAC_SHA2_256_128 = 12 with keys 16/20/32, ICVs 12/12/16 and hashes
MD5/SHA-1/SHA-256 (RFC 2403, 2404, 4868), PRF_HMAC_MD5 = 1 / PRF_HMAC_SHA1 = 2 /
PRF_HMAC_SHA2_256 = 5 with key = output = 16/20/32, groups 2 and 14 with 128
and 256 octets, generator 2, ESN 0/1 — for the IKE SA and the Child SA
variants — and the transform type codes 1..5. -/
theorem C11_lengths :
    Facts.encrTable = [(12, 16), (12, 24), (12, 32)] ∧
    Facts.encrChildTable = [(12, 16), (12, 24), (12, 32)] ∧
    Facts.integTable = [(1, 16, 12, 0), (2, 20, 12, 1), (12, 32, 16, 2)] ∧
    Facts.integChildTable = [(1, 16, 12, 0), (2, 20, 12, 1), (12, 32, 16, 2)] ∧
    Facts.prfTable = [(1, 16, 16, 0), (2, 20, 20, 1), (5, 32, 32, 2)] ∧
    Facts.group2Id = 2 ∧ Facts.group14Id = 14 ∧ Facts.group2Len = 128 ∧ Facts.group14Len = 256 ∧
    Facts.group2Generator = 2 ∧ Facts.group14Generator = 2 ∧
    Facts.esnDisableId = 0 ∧ Facts.esnEnableId = 1 ∧
    Facts.encrAesCbcId = 12 ∧ Facts.attrTypeKeyLength = 14 ∧ Facts.attrFormatTV = 1 ∧
    Facts.ttEncr = 1 ∧ Facts.ttPrf = 2 ∧ Facts.ttInteg = 3 ∧ Facts.ttDh = 4 ∧ Facts.ttEsn = 5 := by
  decide +kernel

/-- C11, the same against the independent tables of `Spec/Keys.lean` (written
from the RFC texts for C06/C07): every registry row carries the RFC lengths,
and every RFC row is in the registry. -/
theorem C11_lengths_spec :
    (∀ r ∈ Facts.encrTable, Spec.rfcAesKeyLen (r.2 * 8) = some r.2) ∧
    (∀ r ∈ Facts.encrChildTable, Spec.rfcAesKeyLen (r.2 * 8) = some r.2) ∧
    (∀ bits ∈ [128, 192, 256], ∃ r ∈ Facts.encrTable, Spec.rfcAesKeyLen bits = some r.2) ∧
    (∀ r ∈ Facts.integTable, Spec.rfcInteg r.1.toNat = some (r.2.1, r.2.2.1)) ∧
    (∀ r ∈ Facts.integChildTable, Spec.rfcInteg r.1.toNat = some (r.2.1, r.2.2.1)) ∧
    (∀ id ∈ [1, 2, 12], ∃ r ∈ Facts.integTable, r.1.toNat = id) ∧
    (∀ r ∈ Facts.prfTable, Spec.rfcPrfLen r.1.toNat = some r.2.1 ∧ r.2.2.1 = r.2.1) ∧
    (∀ id ∈ [1, 2, 5], ∃ r ∈ Facts.prfTable, r.1.toNat = id) ∧
    Facts.group2Prime = Spec.rfc2409Group2 ∧ Facts.group14Prime = Spec.rfc3526Group14 := by
  decide +kernel

/-- the lists the library offers (`advertised*` of Security/Registry.lean), as literals -/
theorem C11_advertised :
    advertisedEncr = [⟨12, 16⟩, ⟨12, 24⟩, ⟨12, 32⟩] ∧
    advertisedEncrChild = [⟨12, 16⟩, ⟨12, 24⟩, ⟨12, 32⟩] ∧
    advertisedInteg = [⟨1, 16, 12, 0⟩, ⟨2, 20, 12, 1⟩, ⟨12, 32, 16, 2⟩] ∧
    advertisedIntegChild = [⟨1, 16⟩, ⟨2, 20⟩, ⟨12, 32⟩] ∧
    advertisedPrf = [⟨1, 16, 16, 0⟩, ⟨2, 20, 20, 1⟩, ⟨5, 32, 32, 2⟩] ∧
    advertisedDh.map (fun d => (d.tid, d.len, d.generator)) = [(2, 128, 2), (14, 256, 2)] ∧
    advertisedEsn.map (fun e => (e.tid, e.needESN)) = [(1, true), (0, false)] := by
  decide +kernel

/-- `dec` maps `t` to `a`, and does so after `t` went through the SA codec:
`t` is in the encodable domain, `marshalTransform` accepts it (as last or
non-last transform) and `parseTransform` returns it from the octets, whatever
follows them, so that decoding what was parsed gives `a`. -/
def WireRoundTrip {α : Type} (dec : Transform → Option α) (t : Transform) (a : α) : Prop :=
  dec t = some a ∧ t.Dom ∧
  ∀ (last : Bool) (rest : Bytes), ∃ h, marshalTransform last t = .ok h ∧
    ∃ t' n, parseTransform (h ++ rest) = .ok (t', n) ∧ t' = t ∧ n = h.length ∧ dec t' = some a

theorem wireRoundTrip_of {α : Type} {dec : Transform → Option α} {t : Transform} {a : α}
    (hd : dec t = some a) (hs : SurvivesWire t) : WireRoundTrip dec t a := by
  refine ⟨hd, hs.1, fun last rest => ?_⟩
  obtain ⟨h, hm, -, hp⟩ := hs.2 last rest
  exact ⟨h, hm, t, h.length, hp, rfl, rfl, hd⟩

theorem encr_table_rt : ∀ a ∈ advertisedEncr,
    (encrToTransform a >>= fun t => .ok (decodeEncr t, t.ttype)) = .ok (some a, Facts.ttEncr) := by decide +kernel

theorem encrChild_table_rt : ∀ a ∈ advertisedEncrChild,
    (encrChildToTransform a >>= fun t => .ok (decodeEncrChild t, t.ttype)) = .ok (some a, Facts.ttEncr) := by decide +kernel

theorem integ_table_rt : ∀ a ∈ advertisedInteg, decodeInteg (integToTransform a) = some a := by decide
theorem integChild_table_rt : ∀ a ∈ advertisedIntegChild, decodeIntegChild (integChildToTransform a) = some a := by
  decide
theorem prf_table_rt : ∀ a ∈ advertisedPrf, decodePrf (prfToTransform a) = some a := by decide
theorem dh_table_rt : ∀ a ∈ advertisedDh, decodeDh (dhToTransform a) = some a := by decide
theorem esn_table_rt : ∀ a ∈ advertisedEsn, decodeEsn (esnToTransform a) = .ok a := by decide

/-- what both `encr.ToTransform` and `encr.ToTransformChildSA` build (the AES-CBC transform with its key-length
attribute) survives the wire -/
theorem encrTransform_survives {tid : UInt16} {n : Nat} {t : Transform}
    (h : (aesCbcAttr n >>= fun a => .ok (mkTransform Facts.ttEncr tid a)) = .ok t) : SurvivesWire t := by
  obtain ⟨a, ha, h⟩ := Res.bind_eq_ok h
  rw [← Res.ok.inj h, ← Res.ok.inj (Res.ite_err_eq_ok ha).2]
  exact survives_tv _ _ _ _ (by decide)

/-- from the table fact "converts, and decodes back to `a` with type ENCR" to the round trip over the wire -/
theorem roundtrip_of_table {α : Type} {dec : Transform → Option α} {conv : Res Transform} {a : α}
    (h : (conv >>= fun t => .ok (dec t, t.ttype)) = .ok (some a, Facts.ttEncr))
    (hs : ∀ t, conv = .ok t → SurvivesWire t) :
    ∃ t, conv = .ok t ∧ t.ttype = Facts.ttEncr ∧ WireRoundTrip dec t a := by
  obtain ⟨t, ht, h⟩ := Res.bind_eq_ok h
  simp only [Res.ok.injEq, Prod.mk.injEq] at h
  exact ⟨t, ht, h.2, wireRoundTrip_of h.1 (hs t ht)⟩

/-- C11, round trip, encryption (IKE SA): every advertised descriptor converts
to a transform of type ENCR that decodes to the same descriptor (same
identifier, same key length), directly and after the wire. -/
theorem C11_roundtrip_encr : ∀ a ∈ advertisedEncr,
    ∃ t, encrToTransform a = .ok t ∧ t.ttype = Facts.ttEncr ∧ WireRoundTrip decodeEncr t a :=
  fun a ha => roundtrip_of_table (encr_table_rt a ha) fun _ => encrTransform_survives

theorem C11_roundtrip_encrChild : ∀ a ∈ advertisedEncrChild,
    ∃ t, encrChildToTransform a = .ok t ∧ t.ttype = Facts.ttEncr ∧ WireRoundTrip decodeEncrChild t a :=
  fun a ha => roundtrip_of_table (encrChild_table_rt a ha) fun _ => encrTransform_survives

/-- C11, round trip, integrity (IKE SA): same descriptor — identifier, key
length, output length and hash — directly and after the wire -/
theorem C11_roundtrip_integ : ∀ a ∈ advertisedInteg,
    (integToTransform a).ttype = Facts.ttInteg ∧ WireRoundTrip decodeInteg (integToTransform a) a :=
  fun a ha => ⟨rfl, wireRoundTrip_of (integ_table_rt a ha) (survives_noAttr _ _)⟩

theorem C11_roundtrip_integChild : ∀ a ∈ advertisedIntegChild,
    (integChildToTransform a).ttype = Facts.ttInteg ∧
    WireRoundTrip decodeIntegChild (integChildToTransform a) a :=
  fun a ha => ⟨rfl, wireRoundTrip_of (integChild_table_rt a ha) (survives_noAttr _ _)⟩

theorem C11_roundtrip_prf : ∀ a ∈ advertisedPrf,
    (prfToTransform a).ttype = Facts.ttPrf ∧ WireRoundTrip decodePrf (prfToTransform a) a :=
  fun a ha => ⟨rfl, wireRoundTrip_of (prf_table_rt a ha) (survives_noAttr _ _)⟩

theorem C11_roundtrip_dh : ∀ a ∈ advertisedDh,
    (dhToTransform a).ttype = Facts.ttDh ∧ WireRoundTrip decodeDh (dhToTransform a) a :=
  fun a ha => ⟨rfl, wireRoundTrip_of (dh_table_rt a ha) (survives_noAttr _ _)⟩

/-- `esn.DecodeTransform` returns an error instead of nil: as an option -/
def decodeEsnOpt (t : Transform) : Option EsnInfo :=
  match decodeEsn t with
  | .ok e => some e
  | _ => none

/-- C11, round trip, ESN (both values) -/
theorem C11_roundtrip_esn : ∀ a ∈ advertisedEsn,
    (esnToTransform a).ttype = Facts.ttEsn ∧ decodeEsn (esnToTransform a) = .ok a ∧
    WireRoundTrip decodeEsnOpt (esnToTransform a) a := by
  intro a ha
  have h := esn_table_rt a ha
  exact ⟨rfl, h, wireRoundTrip_of (by simp [decodeEsnOpt, h]) (survives_noAttr _ _)⟩

theorem C11_roundtrip :
    (∀ a ∈ advertisedEncr, ∃ t, encrToTransform a = .ok t ∧ t.ttype = Facts.ttEncr ∧ WireRoundTrip decodeEncr t a) ∧
    (∀ a ∈ advertisedEncrChild,
      ∃ t, encrChildToTransform a = .ok t ∧ t.ttype = Facts.ttEncr ∧ WireRoundTrip decodeEncrChild t a) ∧
    (∀ a ∈ advertisedInteg, WireRoundTrip decodeInteg (integToTransform a) a) ∧
    (∀ a ∈ advertisedIntegChild, WireRoundTrip decodeIntegChild (integChildToTransform a) a) ∧
    (∀ a ∈ advertisedPrf, WireRoundTrip decodePrf (prfToTransform a) a) ∧
    (∀ a ∈ advertisedDh, WireRoundTrip decodeDh (dhToTransform a) a) ∧
    (∀ a ∈ advertisedEsn, WireRoundTrip decodeEsnOpt (esnToTransform a) a) :=
  ⟨C11_roundtrip_encr, C11_roundtrip_encrChild, fun a h => (C11_roundtrip_integ a h).2,
   fun a h => (C11_roundtrip_integChild a h).2, fun a h => (C11_roundtrip_prf a h).2,
   fun a h => (C11_roundtrip_dh a h).2, fun a h => (C11_roundtrip_esn a h).2.2⟩

/-- non-vacuity: AES-CBC-192 and its transform, octet for octet -/
example : (⟨12, 24⟩ : EncrInfo) ∈ advertisedEncr ∧
    encrToTransform ⟨12, 24⟩ = .ok ⟨1, 12, true, 1, 14, 192, []⟩ ∧
    marshalTransform true ⟨1, 12, true, 1, 14, 192, []⟩ = .ok [0, 0, 0, 12, 1, 0, 0, 12, 0x80, 14, 0, 192] := by
  decide +kernel

theorem encr_ids : (∀ r ∈ Facts.encrTable, r.1 = Facts.encrAesCbcId) ∧
    (∀ r ∈ Facts.encrChildTable, r.1 = Facts.encrAesCbcId) := by decide

/-- C11, soundness, encryption (IKE SA): **for every transform `t`** — any of
the 2¹⁶ identifiers, any attribute fields — if `encr.DecodeTransform` returns
a descriptor then it has `t`'s identifier, `t` carries attribute type 14 (Key
Length) whose value is exactly 8 × the descriptor's key length, and the
descriptor is an advertised one. -/
theorem C11_sound_encr (t : Transform) (a : EncrInfo) (h : decodeEncr t = some a) :
    a.tid = t.tid ∧ t.atype = 14 ∧ a.keyLen * 8 = t.aval.toNat ∧ a ∈ advertisedEncr ∧
    (a.tid, a.keyLen) ∈ Facts.encrTable := by
  rw [decodeEncr_eq] at h
  obtain ⟨r, hr, rfl⟩ := Option.map_eq_some_iff.mp h
  obtain ⟨h1, h2, h3, h4⟩ := decodeEncrRow_some hr
  exact ⟨(encr_ids.1 r h4).trans h1.symm, h2, h3, List.mem_map.mpr ⟨r, h4, rfl⟩, h4⟩

theorem C11_sound_encrChild (t : Transform) (a : EncrKInfo) (h : decodeEncrChild t = some a) :
    a.tid = t.tid ∧ t.atype = 14 ∧ a.keyLen * 8 = t.aval.toNat ∧ a ∈ advertisedEncrChild ∧
    (a.tid, a.keyLen) ∈ Facts.encrChildTable := by
  rw [decodeEncrChild_eq] at h
  obtain ⟨r, hr, rfl⟩ := Option.map_eq_some_iff.mp h
  obtain ⟨h1, h2, h3, h4⟩ := decodeEncrRow_some hr
  exact ⟨(encr_ids.2 r h4).trans h1.symm, h2, h3, List.mem_map.mpr ⟨r, h4, rfl⟩, h4⟩

/-- C11, soundness, integrity (IKE SA): for every transform, a returned
descriptor has the transform's identifier and is the advertised row (key,
output length, hash come from the table, not from the transform) -/
theorem C11_sound_integ (t : Transform) (a : IntegInfo) (h : decodeInteg t = some a) :
    a.tid = t.tid ∧ a ∈ advertisedInteg ∧ (a.tid, a.keyLen, a.outLen, a.hash) ∈ Facts.integTable := by
  rw [decodeInteg_eq] at h
  obtain ⟨r, hr, rfl⟩ := Option.map_eq_some_iff.mp h
  obtain ⟨h1, h2⟩ := findId_some hr
  exact ⟨h1, List.mem_map.mpr ⟨r, h2, rfl⟩, h2⟩

theorem C11_sound_integChild (t : Transform) (a : IntegKInfo) (h : decodeIntegChild t = some a) :
    a.tid = t.tid ∧ a ∈ advertisedIntegChild ∧
    ∃ o hh, (a.tid, a.keyLen, o, hh) ∈ Facts.integChildTable := by
  rw [decodeIntegChild_eq] at h
  obtain ⟨r, hr, rfl⟩ := Option.map_eq_some_iff.mp h
  obtain ⟨h1, h2⟩ := findId_some hr
  exact ⟨h1, List.mem_map.mpr ⟨r, h2, rfl⟩, r.2.2.1, r.2.2.2, h2⟩

theorem C11_sound_prf (t : Transform) (a : PrfInfo) (h : decodePrf t = some a) :
    a.tid = t.tid ∧ a ∈ advertisedPrf ∧ (a.tid, a.keyLen, a.outLen, a.hash) ∈ Facts.prfTable := by
  rw [decodePrf_eq] at h
  obtain ⟨r, hr, rfl⟩ := Option.map_eq_some_iff.mp h
  obtain ⟨h1, h2⟩ := findId_some hr
  exact ⟨h1, List.mem_map.mpr ⟨r, h2, rfl⟩, h2⟩

theorem C11_sound_dh (t : Transform) (a : DhInfo) (h : decodeDh t = some a) :
    a.tid = t.tid ∧ a ∈ advertisedDh := by
  rcases decodeDh_cases t with ⟨ht, hd⟩ | ⟨ht, hd⟩ | ⟨-, -, hd⟩ <;> rw [hd] at h <;> cases h
  · exact ⟨ht.symm, by simp [advertisedDh]⟩
  · exact ⟨ht.symm, by simp [advertisedDh]⟩

/-- C11, soundness, ESN; the decode function never faults -/
theorem C11_sound_esn (t : Transform) :
    decodeEsn t ≠ .fault ∧ ∀ e, decodeEsn t = .ok e → e.tid = t.tid ∧ e ∈ advertisedEsn := by
  rcases decodeEsn_cases t with ⟨ht, hd⟩ | ⟨ht, hd⟩ | ⟨-, -, hd⟩ <;> rw [hd]
  · exact ⟨nofun, fun e he => by cases he; exact ⟨ht.symm, by simp [advertisedEsn]⟩⟩
  · exact ⟨nofun, fun e he => by cases he; exact ⟨ht.symm, by simp [advertisedEsn]⟩⟩
  · exact ⟨nofun, nofun⟩

/-- C11, soundness, all kinds (the statement of DESIGN §7 `C11_sound`) -/
theorem C11_sound (t : Transform) :
    (∀ a, decodeEncr t = some a →
      a.tid = t.tid ∧ t.atype = 14 ∧ a.keyLen * 8 = t.aval.toNat ∧ a ∈ advertisedEncr) ∧
    (∀ a, decodeEncrChild t = some a →
      a.tid = t.tid ∧ t.atype = 14 ∧ a.keyLen * 8 = t.aval.toNat ∧ a ∈ advertisedEncrChild) ∧
    (∀ a, decodeInteg t = some a → a.tid = t.tid ∧ a ∈ advertisedInteg) ∧
    (∀ a, decodeIntegChild t = some a → a.tid = t.tid ∧ a ∈ advertisedIntegChild) ∧
    (∀ a, decodePrf t = some a → a.tid = t.tid ∧ a ∈ advertisedPrf) ∧
    (∀ a, decodeDh t = some a → a.tid = t.tid ∧ a ∈ advertisedDh) ∧
    (∀ a, decodeEsn t = .ok a → a.tid = t.tid ∧ a ∈ advertisedEsn) :=
  ⟨fun a h => let r := C11_sound_encr t a h; ⟨r.1, r.2.1, r.2.2.1, r.2.2.2.1⟩,
   fun a h => let r := C11_sound_encrChild t a h; ⟨r.1, r.2.1, r.2.2.1, r.2.2.2.1⟩,
   fun a h => let r := C11_sound_integ t a h; ⟨r.1, r.2.1⟩,
   fun a h => let r := C11_sound_integChild t a h; ⟨r.1, r.2.1⟩,
   fun a h => let r := C11_sound_prf t a h; ⟨r.1, r.2.1⟩,
   C11_sound_dh t, (C11_sound_esn t).2⟩

/-- non-vacuity of `C11_sound`: a transform that decodes, with foreign values in
the fields the decoder must not look at -/
example : decodeEncr ⟨77, 12, false, 0, 14, 256, [1, 2]⟩ = some ⟨12, 32⟩ ∧
    decodeInteg ⟨0, 12, true, 1, 14, 128, []⟩ = some ⟨12, 32, 16, 2⟩ := by decide

/-- the decode functions read only identifier, attribute type and attribute
value: the other four fields of the transform are irrelevant -/
theorem C11_fields_read (t : Transform) (tt : UInt8) (pr : Bool) (fm : UInt8) (vv : Bytes) :
    let t' : Transform := { t with ttype := tt, present := pr, fmt := fm, vval := vv }
    decodeEncr t' = decodeEncr t ∧ decodeEncrChild t' = decodeEncrChild t ∧
    decodeInteg t' = decodeInteg t ∧ decodeIntegChild t' = decodeIntegChild t ∧
    decodePrf t' = decodePrf t ∧ decodeDh t' = decodeDh t ∧ decodeEsn t' = decodeEsn t :=
  ⟨rfl, rfl, rfl, rfl, rfl, rfl, rfl⟩

theorem encr_sizes :
    (∀ v : Nat, (∃ r ∈ Facts.encrTable, r.2 * 8 = v) ↔ v = 128 ∨ v = 192 ∨ v = 256) ∧
    (∀ v : Nat, (∃ r ∈ Facts.encrChildTable, r.2 * 8 = v) ↔ v = 128 ∨ v = 192 ∨ v = 256) := by
  refine ⟨fun v => ?_, fun v => ?_⟩ <;> simp [Facts.encrTable, Facts.encrChildTable, eq_comm]

/-- C11, unknown ⇒ unsupported, encryption: **for every transform**,
`encr.DecodeTransform` (and the Child SA variant) returns a descriptor iff the
identifier is 12 and attribute type is 14 and the value is 128, 192 or 256.
Hence: identifier ≠ ENCR_AES_CBC ⇒ none; missing or foreign attribute type
(≠ 14, e.g. 14 + 128) ⇒ none; unsupported key size ⇒ none. -/
theorem C11_unknown_encr (t : Transform) :
    ((decodeEncr t).isSome ↔
      t.tid = 12 ∧ t.atype = 14 ∧ (t.aval.toNat = 128 ∨ t.aval.toNat = 192 ∨ t.aval.toNat = 256)) ∧
    ((decodeEncrChild t).isSome ↔
      t.tid = 12 ∧ t.atype = 14 ∧ (t.aval.toNat = 128 ∨ t.aval.toNat = 192 ∨ t.aval.toNat = 256)) := by
  constructor
  · rw [decodeEncr_eq, Option.isSome_map, decodeEncrRow_isSome_iff, encr_sizes.1]; rfl
  · rw [decodeEncrChild_eq, Option.isSome_map, decodeEncrRow_isSome_iff, encr_sizes.2]; rfl

theorem C11_unknown_encr_cases (t : Transform) :
    (t.tid ≠ 12 → decodeEncr t = none ∧ decodeEncrChild t = none) ∧
    (t.atype ≠ 14 → decodeEncr t = none ∧ decodeEncrChild t = none) ∧
    (t.aval.toNat ≠ 128 → t.aval.toNat ≠ 192 → t.aval.toNat ≠ 256 →
      decodeEncr t = none ∧ decodeEncrChild t = none) := by
  have h := C11_unknown_encr t
  have n1 : ∀ {α : Type} (o : Option α), ¬ o.isSome → o = none := by
    intro α o; cases o <;> simp
  refine ⟨fun c => ⟨n1 _ ?_, n1 _ ?_⟩, fun c => ⟨n1 _ ?_, n1 _ ?_⟩, fun c1 c2 c3 => ⟨n1 _ ?_, n1 _ ?_⟩⟩
  · rw [h.1]; exact fun x => c x.1
  · rw [h.2]; exact fun x => c x.1
  · rw [h.1]; exact fun x => c x.2.1
  · rw [h.2]; exact fun x => c x.2.1
  · rw [h.1]; intro x; omega
  · rw [h.2]; intro x; omega

/-- C11, TLV-encoded or absent key length after the wire: a transform that
`parseTransform` returned with the format bit clear (variable-length
attribute, or no attribute at all) never selects an encryption algorithm —
in particular a key length sent in TLV format is not honoured. -/
theorem C11_unknown_encr_tlv (td : Bytes) (t : Transform) (n : Nat)
    (hp : parseTransform td = .ok (t, n)) (hf : t.fmt = 0) :
    decodeEncr t = none ∧ decodeEncrChild t = none := by
  have h0 := (parseTransform_aval_zero td t n hp).1 hf
  have hv : t.aval.toNat = 0 := by rw [h0]; rfl
  exact (C11_unknown_encr_cases t).2.2 (by omega) (by omega) (by omega)

/-- non-vacuity: AES-CBC with "key length = 128" written as a TLV attribute parses, and is unsupported -/
example : ∃ t n, parseTransform [0, 0, 0, 14, 1, 0, 0, 12, 0, 14, 0, 2, 0, 128] = .ok (t, n) ∧ t.fmt = 0 ∧
    t.tid = 12 ∧ t.atype = 14 ∧ t.vval = [0, 128] :=
  ⟨⟨1, 12, true, 0, 14, 0, [0, 128]⟩, 14, by decide +kernel, rfl, rfl, rfl, rfl⟩

theorem id_tables :
    (∀ id : UInt16, (∃ r ∈ Facts.integTable, r.1 = id) ↔ id = 1 ∨ id = 2 ∨ id = 12) ∧
    (∀ id : UInt16, (∃ r ∈ Facts.integChildTable, r.1 = id) ↔ id = 1 ∨ id = 2 ∨ id = 12) ∧
    (∀ id : UInt16, (∃ r ∈ Facts.prfTable, r.1 = id) ↔ id = 1 ∨ id = 2 ∨ id = 5) := by
  refine ⟨fun id => ?_, fun id => ?_, fun id => ?_⟩ <;>
    simp [Facts.integTable, Facts.integChildTable, Facts.prfTable, eq_comm]

/-- C11, unknown ⇒ unsupported, integrity / PRF / DH / ESN: **for every
transform**, a descriptor is returned iff the identifier is one of the
advertised ones (1, 2, 12 / 1, 2, 5 / 2, 14 / 0, 1); every other of the 2¹⁶
identifiers gives none (for ESN: an error). -/
theorem C11_unknown_ids (t : Transform) :
    ((decodeInteg t).isSome ↔ t.tid = 1 ∨ t.tid = 2 ∨ t.tid = 12) ∧
    ((decodeIntegChild t).isSome ↔ t.tid = 1 ∨ t.tid = 2 ∨ t.tid = 12) ∧
    ((decodePrf t).isSome ↔ t.tid = 1 ∨ t.tid = 2 ∨ t.tid = 5) ∧
    ((decodeDh t).isSome ↔ t.tid = 2 ∨ t.tid = 14) ∧
    ((decodeEsn t).isOk ↔ t.tid = 0 ∨ t.tid = 1) ∧
    (decodeEsn t = .err ↔ t.tid ≠ 0 ∧ t.tid ≠ 1) := by
  refine ⟨?_, ?_, ?_, ?_, ?_, ?_⟩
  · rw [decodeInteg_eq, Option.isSome_map, findId_isSome_iff, id_tables.1]
  · rw [decodeIntegChild_eq, Option.isSome_map, findId_isSome_iff, id_tables.2.1]
  · rw [decodePrf_eq, Option.isSome_map, findId_isSome_iff, id_tables.2.2]
  · rcases decodeDh_cases t with ⟨ht, hd⟩ | ⟨ht, hd⟩ | ⟨h2, h14, hd⟩ <;> rw [hd] <;> simp [*]
  · rcases decodeEsn_cases t with ⟨ht, hd⟩ | ⟨ht, hd⟩ | ⟨h1, h0, hd⟩ <;> rw [hd] <;> simp [Res.isOk, *]
  · rcases decodeEsn_cases t with ⟨ht, hd⟩ | ⟨ht, hd⟩ | ⟨h1, h0, hd⟩ <;> rw [hd] <;> simp [*]

theorem C11_unknown (t : Transform) :
    ((decodeEncr t).isSome ↔
      t.tid = 12 ∧ t.atype = 14 ∧ (t.aval.toNat = 128 ∨ t.aval.toNat = 192 ∨ t.aval.toNat = 256)) ∧
    ((decodeEncrChild t).isSome ↔
      t.tid = 12 ∧ t.atype = 14 ∧ (t.aval.toNat = 128 ∨ t.aval.toNat = 192 ∨ t.aval.toNat = 256)) ∧
    ((decodeInteg t).isSome ↔ t.tid = 1 ∨ t.tid = 2 ∨ t.tid = 12) ∧
    ((decodeIntegChild t).isSome ↔ t.tid = 1 ∨ t.tid = 2 ∨ t.tid = 12) ∧
    ((decodePrf t).isSome ↔ t.tid = 1 ∨ t.tid = 2 ∨ t.tid = 5) ∧
    ((decodeDh t).isSome ↔ t.tid = 2 ∨ t.tid = 14) ∧
    ((decodeEsn t).isOk ↔ t.tid = 0 ∨ t.tid = 1) :=
  let u := C11_unknown_ids t
  ⟨(C11_unknown_encr t).1, (C11_unknown_encr t).2, u.1, u.2.1, u.2.2.1, u.2.2.2.1, u.2.2.2.2.1⟩

/-- non-vacuity: the defect class of D5 — wire attribute type 142 = 14 + 128 is
read as type 142 (15-bit mask) and does not select AES-128 -/
example : ∃ t n, parseTransform [0, 0, 0, 12, 1, 0, 0, 12, 0x80, 142, 0, 128] = .ok (t, n) ∧ t.atype = 142 ∧
    decodeEncr t = none :=
  ⟨⟨1, 12, true, 1, 142, 128, []⟩, 12, by decide +kernel, rfl, by decide +kernel⟩

/-- `NewIKESAKey` up to the last `DecodeTransform`: the exact success condition (the first transform of
each type is the one consulted), and it never panics. -/
theorem selectIke_some (p : Proposal) :
    (∀ a : IkeAlgs, selectIke (some p) = .ok a ↔
      p.dh.head?.bind decodeDh = some a.dh ∧ p.encr.head?.bind decodeEncr = some a.encr ∧
      p.integ ≠ [] ∧ p.integ.head?.bind decodeInteg = a.integ ∧
      p.prf.head?.bind decodePrf = some a.prf) ∧ selectIke (some p) ≠ .fault := by
  -- one `cases` per guard of the Go function (four non-empty lists, three decoders), each failing branch closed
  -- at once; when all have passed both sides speak of the same record
  unfold selectIke
  obtain ⟨pnum, pproto, pspi, pencr, pprf, pinteg, pdh, pesn⟩ := p
  cases pdh with
  | nil => simp
  | cons d dr =>
  cases pencr with
  | nil => simp
  | cons e er =>
  cases pinteg with
  | nil => simp
  | cons i ir =>
  cases pprf with
  | nil => simp
  | cons f fr =>
  simp only [List.head?_cons, Option.bind_some]
  cases decodeDh d with
  | none => simp
  | some dh =>
  cases decodeEncr e with
  | none => simp
  | some en =>
  cases decodePrf f with
  | none => simp
  | some pf =>
    refine ⟨fun ⟨adh, aen, aig, apf⟩ => ?_, nofun⟩
    simp only [Res.ok.injEq, IkeAlgs.mk.injEq, Option.some.injEq, ne_eq, reduceCtorEq, not_false_eq_true, true_and]

theorem selectIke_ne_fault (p : Option Proposal) : selectIke p ≠ .fault := by
  cases p with
  | none => nofun
  | some p => exact (selectIke_some p).2

theorem dh_len_pos : ∀ d ∈ advertisedDh, d.len ≠ 0 := by decide

/-- C11, SA construction (IKE), exact success condition: the algorithm
selection of `NewIKESAKey(proposal, …, nonce, …)` succeeds with suite `s` iff
the first DH, encryption, integrity and PRF transform of the proposal each
decode to the corresponding member of `s` and the nonce is not empty; it never
panics, so in every other case it returns an error.  (Model boundary: the DH
computation and key derivation that follow are C09/C07; the random source is
assumed to work.) -/
theorem C11_sa_ike_iff (p : Proposal) (nonce : Bytes) (s : IkeSuite) :
    (newIkeSaKeyAlgs (some p) nonce = .ok s ↔
      p.dh.head?.bind decodeDh = some s.dh ∧ p.encr.head?.bind decodeEncr = some s.encr ∧
      p.integ.head?.bind decodeInteg = some s.integ ∧ p.prf.head?.bind decodePrf = some s.prf ∧
      nonce ≠ []) ∧
    newIkeSaKeyAlgs (some p) nonce ≠ .fault := by
  -- by the outcome of `selectIke`; when it returned `a`: by `a.integ` (the missing nil check), then the two
  -- length guards of `keyGenChecks` (the nonce; the DH secret, never empty by `dh_len_pos`)
  unfold newIkeSaKeyAlgs
  cases hsel : selectIke (some p) with
  | fault => exact absurd hsel (selectIke_ne_fault _)
  | err =>
    refine ⟨⟨fun h => by simp at h, fun ⟨h1, h2, h3, h4, _⟩ => ?_⟩, by simp⟩
    have hne : p.integ ≠ [] := by
      intro h0; rw [h0] at h3; simp at h3
    have := ((selectIke_some p).1 ⟨s.dh, s.encr, some s.integ, s.prf⟩).2 ⟨h1, h2, hne, h3, h4⟩
    rw [hsel] at this
    exact absurd this (by simp)
  | ok a =>
    obtain ⟨h1, h2, hne, h3, h4⟩ := ((selectIke_some p).1 a).1 hsel
    simp only [Res.bind_ok]
    have hlen : (zeros a.dh.len).length ≠ 0 := by
      rw [zeros_length]
      cases hd : p.dh with
      | nil => rw [hd] at h1; simp at h1
      | cons d dr =>
        rw [hd] at h1
        simp only [List.head?_cons, Option.bind_some] at h1
        exact dh_len_pos _ (C11_sound_dh d a.dh h1).2
    unfold keyGenChecks
    cases hai : a.integ with
    | none =>
      refine ⟨⟨fun h => by simp at h, fun ⟨_, _, h3', _, _⟩ => ?_⟩, by simp⟩
      rw [h3, hai] at h3'
      simp at h3'
    | some ig =>
      simp only
      by_cases hn : nonce.length = 0
      · rw [if_pos hn]
        refine ⟨⟨fun h => by simp at h, fun ⟨_, _, _, _, h5⟩ => ?_⟩, by simp⟩
        exact absurd (List.eq_nil_of_length_eq_zero hn) h5
      · rw [if_neg hn, if_neg hlen]
        refine ⟨?_, by simp⟩
        cases s with | mk sdh sen sig spf =>
        simp only [Res.ok.injEq, IkeSuite.mk.injEq, h1, h2, h3, h4, hai, Option.some.injEq]
        constructor
        · rintro ⟨a1, a2, a3, a4⟩
          exact ⟨a1, a2, a3, a4, fun h0 => hn (by rw [h0]; rfl)⟩
        · rintro ⟨a1, a2, a3, a4, _⟩
          exact ⟨a1, a2, a3, a4⟩

/-- C11, "building an SA from such a proposal fails with an error" (IKE): if the
consulted transform at ANY of the four positions is absent or decodes to
"unsupported" — unknown identifier, missing / foreign / TLV key-length
attribute, unsupported key size, by `C11_unknown` — then `NewIKESAKey` returns
an error; so does a nil proposal.  For the integrity position the error is
raised by the key generation (`selectIke` itself lets it pass: the nil check
after `integ.DecodeTransform` tests `EncrInfo`). -/
theorem C11_sa_error_ike (p : Proposal) (nonce : Bytes)
    (h : p.dh.head?.bind decodeDh = none ∨ p.encr.head?.bind decodeEncr = none ∨
         p.integ.head?.bind decodeInteg = none ∨ p.prf.head?.bind decodePrf = none) :
    newIkeSaKeyAlgs (some p) nonce = .err ∧ newIkeSaKeyAlgs none nonce = .err := by
  refine ⟨?_, rfl⟩
  cases hr : newIkeSaKeyAlgs (some p) nonce with
  | err => rfl
  | fault => exact absurd hr (C11_sa_ike_iff p nonce default).2
  | ok s =>
    obtain ⟨h1, h2, h3, h4, _⟩ := (C11_sa_ike_iff p nonce s).1.1 hr
    rcases h with h | h | h | h
    · rw [h] at h1; simp at h1
    · rw [h] at h2; simp at h2
    · rw [h] at h3; simp at h3
    · rw [h] at h4; simp at h4

/-- the integrity position in `selectIke` alone: the missing nil check -/
example : ∃ a, selectIke (some ⟨1, 1, [], [⟨1, 12, true, 1, 14, 128, []⟩], [⟨2, 5, false, 0, 0, 0, []⟩],
    [⟨3, 999, false, 0, 0, 0, []⟩], [⟨4, 14, false, 0, 0, 0, []⟩], []⟩) = .ok a ∧ a.integ = none :=
  ⟨_, rfl, rfl⟩

set_option maxRecDepth 100000 in
/-- non-vacuity: a single-choice proposal that succeeds, and the same with key length 129 failing -/
example :
    newIkeSaKeyAlgs (some ⟨1, 1, [], [⟨1, 12, true, 1, 14, 128, []⟩], [⟨2, 5, false, 0, 0, 0, []⟩],
      [⟨3, 12, false, 0, 0, 0, []⟩], [⟨4, 14, false, 0, 0, 0, []⟩], []⟩) [1]
      = .ok ⟨group14, ⟨12, 16⟩, ⟨12, 32, 16, 2⟩, ⟨5, 32, 32, 2⟩⟩ ∧
    newIkeSaKeyAlgs (some ⟨1, 1, [], [⟨1, 12, true, 1, 14, 129, []⟩], [⟨2, 5, false, 0, 0, 0, []⟩],
      [⟨3, 12, false, 0, 0, 0, []⟩], [⟨4, 14, false, 0, 0, 0, []⟩], []⟩) [1] = .err := by
  decide +kernel

/-- the DH choice of `NewChildSAKeyByProposal`: exactly one DH transform is
decoded (unsupported ⇒ error, `none`); zero or several mean "no PFS group" -/
def childDhChoice : List Transform → Option (Option DhInfo)
  | [d] => (decodeDh d).map some
  | _ => some none

/-- the integrity choice: none offered ⇒ error; exactly one is decoded;
several ⇒ left unset -/
def childIntegChoice : List Transform → Option (Option IntegKInfo)
  | [] => none
  | [i] => (decodeIntegChild i).map some
  | _ => some none

/-- C11, SA construction (Child SA), exact success condition of
`NewChildSAKeyByProposal`; it never panics, so otherwise it returns an error. -/
theorem C11_sa_child_iff (p : Proposal) (s : ChildSuite) :
    (selectChild (some p) = .ok s ↔
      p.encr.head?.bind decodeEncrChild = some s.encr ∧ childIntegChoice p.integ = some s.integ ∧
      p.esn.head?.map decodeEsn = some (.ok s.esn) ∧ childDhChoice p.dh = some s.dh) ∧
    selectChild (some p) ≠ .fault ∧ selectChild none = .err := by
  -- the same with the DH choice first, the order in which `ChildSuite` lists its fields
  suffices h : (selectChild (some p) = .ok s ↔
      childDhChoice p.dh = some s.dh ∧ p.encr.head?.bind decodeEncrChild = some s.encr ∧
      childIntegChoice p.integ = some s.integ ∧ p.esn.head?.map decodeEsn = some (.ok s.esn)) ∧
    selectChild (some p) ≠ .fault from
    ⟨h.1.trans ⟨fun ⟨a, b, c, d⟩ => ⟨b, c, d, a⟩, fun ⟨b, c, d, a⟩ => ⟨a, b, c, d⟩⟩, h.2, rfl⟩
  obtain ⟨pnum, pproto, pspi, pencr, pprf, pinteg, pdh, pesn⟩ := p
  obtain ⟨sdh, sen, sig, ses⟩ := s
  unfold selectChild
  rcases pencr with _ | ⟨e, er⟩
  · simp
  rcases pinteg with _ | ⟨i, ir⟩
  · simp [childIntegChoice]
  rcases pesn with _ | ⟨n, nr⟩
  · simp
  -- the two inner choices of the code (its `let`s, kept by `-zeta` and named by `extract_lets`) are the
  -- option-valued choices, `none` read as an error
  simp -zeta only []
  extract_lets dhr igr
  have hdh : (childDhChoice pdh = none ∧ dhr = .err) ∨ ∃ x, childDhChoice pdh = some x ∧ dhr = .ok x := by
    rcases pdh with _ | ⟨d, _ | ⟨d2, dr⟩⟩
    · exact Or.inr ⟨none, rfl, rfl⟩
    · cases hd : decodeDh d with
      | none => exact Or.inl ⟨by simp [childDhChoice, hd], by simp [dhr, hd]⟩
      | some x => exact Or.inr ⟨some x, by simp [childDhChoice, hd], by simp [dhr, hd]⟩
    · exact Or.inr ⟨none, rfl, rfl⟩
  have hig : (childIntegChoice (i :: ir) = none ∧ igr = .err) ∨
      ∃ x, childIntegChoice (i :: ir) = some x ∧ igr = .ok x := by
    rcases ir with _ | ⟨j, jr⟩
    · cases hi : decodeIntegChild i with
      | none => exact Or.inl ⟨by simp [childIntegChoice, hi], by simp [igr, hi]⟩
      | some x => exact Or.inr ⟨some x, by simp [childIntegChoice, hi], by simp [igr, hi]⟩
    · exact Or.inr ⟨none, rfl, rfl⟩
  clear_value dhr igr
  -- in the order of the code: DH choice, encryption, integrity choice, ESN; a failed choice ends it
  rcases hdh with ⟨hc, rfl⟩ | ⟨dh, hc, rfl⟩
  · simp [hc]
  cases h1 : decodeEncrChild e with
  | none => simp [hc, h1]
  | some en =>
  rcases hig with ⟨hi, rfl⟩ | ⟨ig, hi, rfl⟩
  · simp [hc, hi, h1]
  cases h3 : decodeEsn n with
  | fault => exact absurd h3 (C11_sound_esn n).1
  | err => simp [hc, hi, h1, h3]
  | ok es => simp [hc, hi, h1, h3]

set_option linter.unusedVariables false in
/-- C11, "building an SA from such a proposal fails with an error" (Child SA),
for single-choice proposals (one encryption, one integrity, one ESN transform,
at most one DH transform): an unsupported transform at ANY position ⇒ error.
The bound `hd` on the DH transforms is not needed (with two or more the function takes no PFS group). -/
theorem C11_sa_error_child (p : Proposal) (e i n : Transform)
    (he : p.encr = [e]) (hi : p.integ = [i]) (hn : p.esn = [n]) (hd : p.dh.length ≤ 1)
    (h : decodeEncrChild e = none ∨ decodeIntegChild i = none ∨ decodeEsn n = .err ∨
         (∃ d, p.dh = [d] ∧ decodeDh d = none)) :
    selectChild (some p) = .err := by
  cases hr : selectChild (some p) with
  | err => rfl
  | fault => exact absurd hr (C11_sa_child_iff p default).2.1
  | ok s =>
    obtain ⟨h1, h2, h3, h4⟩ := (C11_sa_child_iff p s).1.1 hr
    rw [he] at h1; rw [hi] at h2; rw [hn] at h3
    simp only [List.head?_cons, Option.bind_some, Option.map_some, Option.some.injEq] at h1 h3
    rcases h with h | h | h | ⟨d, hd1, hd2⟩
    · rw [h] at h1; simp at h1
    · simp [childIntegChoice, h] at h2
    · rw [h] at h3; simp at h3
    · rw [hd1] at h4; simp [childDhChoice, hd2] at h4

/-- … and a single-choice Child SA proposal whose transforms all decode succeeds with exactly those descriptors -/
theorem C11_sa_child_ok (p : Proposal) (e i n : Transform) (en : EncrKInfo) (ig : IntegKInfo) (es : EsnInfo)
    (he : p.encr = [e]) (hi : p.integ = [i]) (hn : p.esn = [n])
    (h1 : decodeEncrChild e = some en) (h2 : decodeIntegChild i = some ig) (h3 : decodeEsn n = .ok es) :
    (p.dh = [] → selectChild (some p) = .ok ⟨none, en, some ig, es⟩) ∧
    (∀ d dh, p.dh = [d] → decodeDh d = some dh → selectChild (some p) = .ok ⟨some dh, en, some ig, es⟩) := by
  constructor
  · intro hd
    rw [(C11_sa_child_iff p _).1]
    simp [he, hi, hn, hd, h1, h2, h3, childIntegChoice, childDhChoice]
  · intro d dh hd hdd
    rw [(C11_sa_child_iff p _).1]
    simp [he, hi, hn, hd, h1, h2, h3, hdd, childIntegChoice, childDhChoice]

example :
    selectChild (some ⟨1, 3, [1, 2, 3, 4], [⟨1, 12, true, 1, 14, 256, []⟩], [],
      [⟨3, 2, false, 0, 0, 0, []⟩], [], [⟨5, 0, false, 0, 0, 0, []⟩]⟩)
      = .ok ⟨none, ⟨12, 32⟩, some ⟨2, 20⟩, ⟨false⟩⟩ ∧
    selectChild (some ⟨1, 3, [1, 2, 3, 4], [⟨1, 12, true, 1, 14, 256, []⟩], [],
      [⟨3, 2, false, 0, 0, 0, []⟩], [], [⟨5, 2, false, 0, 0, 0, []⟩]⟩) = .err := by
  decide +kernel

/-- what `IKESAKey.ToProposal` returns once the encryption transform `e` is built -/
def ikeProp (e : Transform) (s : IkeSuite) : Proposal :=
  { num := 0, proto := Facts.protoIKE, spi := [], encr := [e], prf := [prfToTransform s.prf],
    integ := [integToTransform s.integ], dh := [dhToTransform s.dh], esn := [] }

/-- what `ChildSAKey.ToProposal` returns once the encryption transform `e` is built -/
def childProp (e : Transform) (sdh : Option DhInfo) (sig : Option IntegKInfo) (ses : EsnInfo) : Proposal :=
  { num := 0, proto := Facts.protoESP, spi := [], encr := [e], prf := [],
    integ := (match sig with | some i => [integChildToTransform i] | none => []),
    dh := (match sdh with | some d => [dhToTransform d] | none => []),
    esn := [esnToTransform ses] }

/-- C11, proposal round trip (IKE SA): for every suite made of advertised
algorithms (3 × 3 × 3 × 2 combinations — quantified, not enumerated),
`IKESAKey.ToProposal` succeeds with a single-choice IKE proposal that
(1) `NewIKESAKey` maps back to exactly the same four descriptors,
(2) lies in the encodable domain, is accepted by the SA encoder and is returned
unchanged by the SA decoder — so (1) also holds after the wire. -/
theorem C11_proposal_roundtrip_ike (s : IkeSuite) (hdh : s.dh ∈ advertisedDh) (hen : s.encr ∈ advertisedEncr)
    (hig : s.integ ∈ advertisedInteg) (hpf : s.prf ∈ advertisedPrf) :
    ∃ p, ikeToProposal s = .ok p ∧ p.proto = Facts.protoIKE ∧
      p.encr.length = 1 ∧ p.prf.length = 1 ∧ p.integ.length = 1 ∧ p.dh.length = 1 ∧ p.esn = [] ∧
      selectIke (some p) = .ok ⟨s.dh, s.encr, some s.integ, s.prf⟩ ∧
      (∀ nonce, nonce ≠ [] → newIkeSaKeyAlgs (some p) nonce = .ok s) ∧
      p.Dom ∧
      ∃ bs, marshalSA [p] = .ok bs ∧ unmarshalSA bs = .ok (.sa [p]) ∧
        ∀ q, unmarshalSA bs = .ok (.sa [q]) → selectIke (some q) = .ok ⟨s.dh, s.encr, some s.integ, s.prf⟩ := by
  obtain ⟨e, he, hett, hed, -, -⟩ := C11_roundtrip_encr s.encr hen
  have hse : SurvivesWire e := encrTransform_survives he
  have hsel : selectIke (some (ikeProp e s)) = .ok ⟨s.dh, s.encr, some s.integ, s.prf⟩ := by
    rw [(selectIke_some _).1]
    simp [ikeProp, hed, prf_table_rt _ hpf, integ_table_rt _ hig, dh_table_rt _ hdh]
  obtain ⟨hdom, bs, hbs, hrt⟩ := survives_proposal (ikeProp e s) rfl
    (survives_singleton hett hse)
    (survives_singleton rfl (survives_noAttr _ _))
    (survives_singleton rfl (survives_noAttr _ _))
    (survives_singleton rfl (survives_noAttr _ _))
    (by simp [ikeProp]) (by simp [Proposal.transforms, ikeProp]) (by simp [Proposal.transforms, ikeProp])
  refine ⟨_, by simp [ikeToProposal, he, ikeProp], rfl, rfl, rfl, rfl, rfl, rfl, hsel, ?_, hdom, bs, hbs, hrt, ?_⟩
  · intro nonce hn
    rw [(C11_sa_ike_iff _ nonce s).1]
    simp [ikeProp, hed, prf_table_rt _ hpf, integ_table_rt _ hig, dh_table_rt _ hdh, hn]
  · intro q hq
    rw [hrt] at hq
    simp only [Res.ok.injEq, Payload.sa.injEq, List.cons.injEq, and_true] at hq
    rw [← hq]
    exact hsel

/-- non-vacuity: one of the 54 suites and its proposal -/
example : ikeToProposal ⟨group14, ⟨12, 32⟩, ⟨12, 32, 16, 2⟩, ⟨5, 32, 32, 2⟩⟩ =
    .ok ⟨0, 1, [], [⟨1, 12, true, 1, 14, 256, []⟩], [⟨2, 5, false, 0, 0, 0, []⟩],
      [⟨3, 12, false, 0, 0, 0, []⟩], [⟨4, 14, false, 0, 0, 0, []⟩], []⟩ := by decide +kernel

theorem esn_all (e : EsnInfo) : e ∈ advertisedEsn := by
  cases e with | mk b => cases b <;> simp [advertisedEsn]

/-- C11, proposal round trip (Child SA): for every Child SA descriptor set made
of advertised algorithms (DH group and integrity optional, both ESN values),
`ChildSAKey.ToProposal` succeeds with an ESP proposal in the encodable domain
that survives the SA codec; `NewChildSAKeyByProposal` maps it back to the same
descriptors when an integrity algorithm is set, and rejects it when none is
(the function insists on at least one integrity transform). -/
theorem C11_proposal_roundtrip_child (s : ChildSuite) (hen : s.encr ∈ advertisedEncrChild)
    (hig : ∀ i, s.integ = some i → i ∈ advertisedIntegChild) (hdh : ∀ d, s.dh = some d → d ∈ advertisedDh) :
    ∃ p, childToProposal s = .ok p ∧ p.proto = Facts.protoESP ∧
      p.encr.length = 1 ∧ p.prf = [] ∧ p.integ.length ≤ 1 ∧ p.dh.length ≤ 1 ∧ p.esn.length = 1 ∧
      (s.integ.isSome → selectChild (some p) = .ok s) ∧
      (s.integ = none → selectChild (some p) = .err) ∧
      p.Dom ∧
      ∃ bs, marshalSA [p] = .ok bs ∧ unmarshalSA bs = .ok (.sa [p]) := by
  obtain ⟨e, he, hett, hed, -, -⟩ := C11_roundtrip_encrChild s.encr hen
  have hse : SurvivesWire e := encrTransform_survives he
  have hesn := esn_table_rt s.esn (esn_all _)
  cases s with | mk sdh sen sig ses =>
  simp only at he hed hig hdh hesn
  obtain ⟨hdom, hwire⟩ := survives_proposal (childProp e sdh sig ses) rfl
    (survives_singleton hett hse)
    (by simp [childProp])
    (by cases sig with
      | none => simp [childProp]
      | some i => exact survives_singleton rfl (survives_noAttr _ _))
    (by cases sdh with
      | none => simp [childProp]
      | some d => exact survives_singleton rfl (survives_noAttr _ _))
    (survives_singleton rfl (survives_noAttr _ _))
    (by simp [Proposal.transforms, childProp])
    (by cases sig <;> cases sdh <;> simp [Proposal.transforms, childProp])
  simp only [childToProposal, he, Res.bind_ok]
  refine ⟨_, rfl, rfl, rfl, rfl, ?_, ?_, rfl, ?_, ?_, hdom, hwire⟩
  · cases sig <;> simp
  · cases sdh <;> simp
  · intro hsome
    cases sig with
    | none => simp at hsome
    | some ig =>
      have h2 := integChild_table_rt ig (hig ig rfl)
      rw [(C11_sa_child_iff _ _).1]
      cases sdh with
      | none => simp [hed, h2, hesn, childIntegChoice, childDhChoice]
      | some d => simp [hed, h2, hesn, childIntegChoice, childDhChoice, dh_table_rt d (hdh d rfl)]
  · intro hnone
    subst hnone
    simp [selectChild]

/-- non-vacuity: with and without PFS group / integrity -/
example : childToProposal ⟨some group2, ⟨12, 16⟩, some ⟨12, 32⟩, ⟨true⟩⟩ =
    .ok ⟨0, 3, [], [⟨1, 12, true, 1, 14, 128, []⟩], [], [⟨3, 12, false, 0, 0, 0, []⟩],
      [⟨4, 2, false, 0, 0, 0, []⟩], [⟨5, 1, false, 0, 0, 0, []⟩]⟩ ∧
    (∃ p, childToProposal ⟨none, ⟨12, 16⟩, none, ⟨false⟩⟩ = .ok p ∧ selectChild (some p) = .err) := by
  refine ⟨by decide +kernel, _, rfl, by decide +kernel⟩

end Ike
