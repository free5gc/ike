import IkeProofs.Lemmas.Dh

/-!
# C09 — MODP groups 2 / 14

* the registered primes are the RFC 2409 / RFC 3526 primes, the generators are
  2, the output lengths are 128 / 256 octets (`C09_primes`);
* `big.Int.Exp` as modelled (square-and-multiply) is the modular power
  (`C09_modPow`);
* public value = `2^x mod p`, shared secret = `y^x mod p`, each as a string of
  exactly the modulus length, leading zeros preserved, never a fault
  (`C09_pub`, `C09_shared`, `C09_leading_zeros`), for every exponent `x : Nat`
  and every peer value `y : Nat` — no bound on either;
* two parties obtain the same shared secret from each other's public values
  (`C09_agree`);
* the exponent-drawing loop returns the first draw above `2^128 - 1`, hence
  `2^128 ≤ r < 2^2048 - 1`, a failing `rand.Int` gives an error and no number,
  the result is a function of the draws of this call only (`C09_random_*`).
  `rand.Int` itself is trusted (standard library; contract `v < max`).

"Differ from call to call" is a statement about the system random source; what
the code contributes to it — the exponent IS the accepted draw, nothing is
cached or reused between calls — is `C09_random_first` + `C09_random_local`.
-/

namespace Ike

/-- a group descriptor whose prime is positive and fits its octet length; both
registered groups satisfy it (`C09_groups_wf`) -/
def DhGroup.WF (g : DhGroup) : Prop := 0 < g.prime ∧ g.prime ≤ 256 ^ g.len

instance (g : DhGroup) : Decidable g.WF := by unfold DhGroup.WF; infer_instance

/-- C09, constants: the primes parsed by the implementation at `init` are the
RFC 2409 §6.2 and RFC 3526 §3 primes (Spec literals computed from the RFC
formulas), both generators are 2, the output lengths are 128 and 256 octets —
and these are exactly the octet lengths of the primes. -/
theorem C09_primes :
    Facts.group2Prime = Spec.rfc2409Group2 ∧ Facts.group14Prime = Spec.rfc3526Group14 ∧
    Facts.group2Generator = 2 ∧ Facts.group14Generator = 2 ∧
    Facts.group2Len = 128 ∧ Facts.group14Len = 256 ∧
    256 ^ 127 ≤ Facts.group2Prime ∧ Facts.group2Prime < 256 ^ 128 ∧
    256 ^ 255 ≤ Facts.group14Prime ∧ Facts.group14Prime < 256 ^ 256 := by
  decide +kernel

/-- the RFC formulas themselves: p = 2^1024 − 2^960 − 1 + 2^64·(⌊2^894 π⌋ + 129093) and
p = 2^2048 − 2^1984 − 1 + 2^64·(⌊2^1918 π⌋ + 124476): both primes have the
64 high and 64 low bits set, and the two π terms are consistent
(⌊2^894 π⌋ is ⌊2^1918 π⌋ shifted right by 1024 bits, and starts ⌊2^10 π⌋ = 3216).
`Spec.piTermOf p n k` is the formula solved for the π term from `p` itself, so the first two conjuncts say
that `p` has the fixed high and low 64 bits; what ties the primes to π is the last two. -/
theorem C09_primes_formula :
    Facts.group2Prime = 2 ^ 1024 - 2 ^ 960 - 1 + 2 ^ 64 * (Spec.piTermOf Facts.group2Prime 1024 129093 + 129093) ∧
    Facts.group14Prime = 2 ^ 2048 - 2 ^ 1984 - 1 + 2 ^ 64 * (Spec.piTermOf Facts.group14Prime 2048 124476 + 124476) ∧
    Spec.piTermOf Facts.group14Prime 2048 124476 / 2 ^ 1024 = Spec.piTermOf Facts.group2Prime 1024 129093 ∧
    Spec.piTermOf Facts.group2Prime 1024 129093 / 2 ^ 884 = 3216 := by
  decide +kernel

/-- the two registered groups meet `DhGroup.WF` -/
theorem C09_groups_wf : dhGroup2.WF ∧ dhGroup14.WF := by decide +kernel

/-- C09, arithmetic: the modelled `big.Int.Exp` (right-to-left
square-and-multiply, what the driver executes) equals the modular power for
every base, exponent and modulus.  (No side condition is needed: for `m = 0`
both sides are `b ^ e`.) -/
theorem C09_modPow (b e m : Nat) : modPow b e m = b ^ e % m := modPow_eq b e m

example : modPow 2 100 1000007 = 2 ^ 100 % 1000007 := C09_modPow _ _ _

/-- C09, fixed length and leading zeros: for every length `L` and every value
`n < 256^L`, `n.Bytes()` left-padded to `L` succeeds (no negative `make`), has
exactly `L` octets, decodes back to `n`, and is the `L`-octet fixed-width
big-endian encoding (so a value with small magnitude keeps its leading zero
octets). -/
theorem C09_leading_zeros (L n : Nat) (h : n < 256 ^ L) :
    ∃ bs, leftPad L (natBytesMin n) = .ok bs ∧ bs.length = L ∧ beNat bs = n ∧ bs = natToBytes L n := by
  refine ⟨natToBytes L n, leftPad_natBytesMin L n h, natToBytes_length L n, ?_, rfl⟩
  rw [beNat_natToBytes, Nat.mod_eq_of_lt h]

example : leftPad 4 (natBytesMin 258) = .ok [0, 0, 1, 2] := by decide

/-- the fixed-width encoder alone: length `L` and round trip, for every `n < 256^L` -/
theorem C09_leading_zeros_fixed (L n : Nat) (h : n < 256 ^ L) :
    (natToBytes L n).length = L ∧ beNat (natToBytes L n) = n := by
  rw [natToBytes_length, beNat_natToBytes, Nat.mod_eq_of_lt h]; exact ⟨rfl, rfl⟩

/-- general form of `C09_pub`/`C09_shared` for a well-formed group -/
theorem C09_dh_value (g : DhGroup) (hg : g.WF) (base x : Nat) :
    ∃ bs, leftPad g.len (natBytesMin (modPow base x g.prime)) = .ok bs ∧
      bs.length = g.len ∧ beNat bs = base ^ x % g.prime ∧ bs = Spec.dhValue g.prime g.len base x := by
  have hlt : modPow base x g.prime < 256 ^ g.len := by
    rw [modPow_eq]; exact Nat.lt_of_lt_of_le (Nat.mod_lt _ hg.1) hg.2
  obtain ⟨bs, h1, h2, h3, h4⟩ := C09_leading_zeros g.len _ hlt
  refine ⟨bs, h1, h2, ?_, ?_⟩
  · rw [h3, modPow_eq]
  · rw [h4, modPow_eq]; rfl

/-- C09, public value: for both groups and EVERY exponent `x` (0, 1, p−1, p,
anything larger — no bound), `GetPublicValue` does not fault and returns a
string of exactly the modulus length (128 / 256 octets) whose big-endian value
is `2^x mod p` with `p` the RFC prime; it is the RFC's value as a fixed-width
string (`Spec.dhValue`), so leading zero octets are preserved. -/
theorem C09_pub (x : Nat) :
    (∃ bs, dhPub dhGroup2 x = .ok bs ∧ bs.length = 128 ∧ beNat bs = 2 ^ x % Spec.rfc2409Group2 ∧
        bs = Spec.dhValue Spec.rfc2409Group2 128 2 x) ∧
    (∃ bs, dhPub dhGroup14 x = .ok bs ∧ bs.length = 256 ∧ beNat bs = 2 ^ x % Spec.rfc3526Group14 ∧
        bs = Spec.dhValue Spec.rfc3526Group14 256 2 x) := by
  -- `dhPub g x` is by definition `leftPad g.len (natBytesMin (modPow g.gen x g.prime))`, and `len`, `gen`, `prime` of
  -- the two descriptors unfold to 128 / 256, 2 and the generated primes: `this` is the goal once the generated
  -- prime is replaced by the RFC's (`C09_primes`)
  have hp := C09_primes
  constructor
  · have := C09_dh_value dhGroup2 C09_groups_wf.1 dhGroup2.gen x
    rw [← hp.1]; exact this
  · have := C09_dh_value dhGroup14 C09_groups_wf.2 dhGroup14.gen x
    rw [← hp.2.1]; exact this

/-- C09, shared secret: for both groups, every exponent `x` and EVERY peer
value `y` (including 0, 1, p−1, p and values ≥ p — no bound), `GetSharedKey`
does not fault and returns exactly 128 / 256 octets whose value is
`y^x mod p`. -/
theorem C09_shared (x y : Nat) :
    (∃ bs, dhShared dhGroup2 x y = .ok bs ∧ bs.length = 128 ∧ beNat bs = y ^ x % Spec.rfc2409Group2 ∧
        bs = Spec.dhValue Spec.rfc2409Group2 128 y x) ∧
    (∃ bs, dhShared dhGroup14 x y = .ok bs ∧ bs.length = 256 ∧ beNat bs = y ^ x % Spec.rfc3526Group14 ∧
        bs = Spec.dhValue Spec.rfc3526Group14 256 y x) := by
  -- as for `C09_pub`: `dhShared g x y` is `leftPad g.len (natBytesMin (modPow y x g.prime))` by definition
  have hp := C09_primes
  constructor
  · have := C09_dh_value dhGroup2 C09_groups_wf.1 y x
    rw [← hp.1]; exact this
  · have := C09_dh_value dhGroup14 C09_groups_wf.2 y x
    rw [← hp.2.1]; exact this

/-- the same for any well-formed group descriptor (prime positive, fits `len` octets) -/
theorem C09_pub_shared_general (g : DhGroup) (hg : g.WF) (x y : Nat) :
    (∃ bs, dhPub g x = .ok bs ∧ bs.length = g.len ∧ beNat bs = g.gen ^ x % g.prime) ∧
    (∃ bs, dhShared g x y = .ok bs ∧ bs.length = g.len ∧ beNat bs = y ^ x % g.prime) := by
  obtain ⟨b1, h1, h2, h3, _⟩ := C09_dh_value g hg g.gen x
  obtain ⟨b2, k1, k2, k3, _⟩ := C09_dh_value g hg y x
  exact ⟨⟨b1, h1, h2, h3⟩, ⟨b2, k1, k2, k3⟩⟩

/-- the `Fixed` variants of the model (used by the key-derivation model) are the same strings -/
theorem C09_fixed_eq (g : DhGroup) (hg : g.WF) (x y : Nat) :
    dhPub g x = .ok (dhPubFixed g x) ∧ dhShared g x y = .ok (dhSharedFixed g x y) := by
  have hlt : ∀ b, modPow b x g.prime < 256 ^ g.len := fun b => by
    rw [modPow_eq]; exact Nat.lt_of_lt_of_le (Nat.mod_lt _ hg.1) hg.2
  exact ⟨leftPad_natBytesMin _ _ (hlt _), leftPad_natBytesMin _ _ (hlt _)⟩

/-- C09, agreement: in any well-formed group (in particular groups 2 and 14),
for all exponents `a`, `b`: both public values exist, and the shared secret
party A computes from B's public value (parsed back with `SetBytes` = `beNat`)
is octet-for-octet the one B computes from A's public value; its value is
`gen^(a·b) mod p`. -/
theorem C09_agree (g : DhGroup) (hg : g.WF) (a b : Nat) :
    ∃ pa pb s, dhPub g a = .ok pa ∧ dhPub g b = .ok pb ∧
      dhShared g a (beNat pb) = .ok s ∧ dhShared g b (beNat pa) = .ok s ∧
      s.length = g.len ∧ beNat s = g.gen ^ (a * b) % g.prime := by
  obtain ⟨pa, ha1, _, ha3, _⟩ := C09_dh_value g hg g.gen a
  obtain ⟨pb, hb1, _, hb3, _⟩ := C09_dh_value g hg g.gen b
  obtain ⟨s, hs1, hs2, hs3, hs4⟩ := C09_dh_value g hg (beNat pb) a
  obtain ⟨s', ht1, _, ht3, ht4⟩ := C09_dh_value g hg (beNat pa) b
  have hval : beNat pb ^ a % g.prime = beNat pa ^ b % g.prime := by
    rw [ha3, hb3, ← Nat.pow_mod, ← Nat.pow_mod, ← Nat.pow_mul, ← Nat.pow_mul, Nat.mul_comm]
  have hss : s = s' := by
    rw [hs4, ht4]; unfold Spec.dhValue; rw [hval]
  refine ⟨pa, pb, s, ha1, hb1, hs1, hss ▸ ht1, hs2, ?_⟩
  rw [hs3, hb3, ← Nat.pow_mod, ← Nat.pow_mul, Nat.mul_comm]

/-- agreement instantiated for the two registered groups -/
theorem C09_agree_groups (a b : Nat) :
    (∃ pa pb s, dhPub dhGroup2 a = .ok pa ∧ dhPub dhGroup2 b = .ok pb ∧
      dhShared dhGroup2 a (beNat pb) = .ok s ∧ dhShared dhGroup2 b (beNat pa) = .ok s ∧ s.length = 128) ∧
    (∃ pa pb s, dhPub dhGroup14 a = .ok pa ∧ dhPub dhGroup14 b = .ok pb ∧
      dhShared dhGroup14 a (beNat pb) = .ok s ∧ dhShared dhGroup14 b (beNat pa) = .ok s ∧ s.length = 256) := by
  obtain ⟨pa, pb, s, h1, h2, h3, h4, h5, _⟩ := C09_agree dhGroup2 C09_groups_wf.1 a b
  obtain ⟨qa, qb, t, k1, k2, k3, k4, k5, _⟩ := C09_agree dhGroup14 C09_groups_wf.2 a b
  exact ⟨⟨pa, pb, s, h1, h2, h3, h4, h5⟩, ⟨qa, qb, t, k1, k2, k3, k4, k5⟩⟩

/-- non-vacuity on a toy group (p = 23, g = 5, one octet): a = 6, b = 15 share 2 -/
example : (⟨23, 5, 1⟩ : DhGroup).WF ∧
    dhShared ⟨23, 5, 1⟩ 6 (beNat [19]) = .ok [2] ∧ dhShared ⟨23, 5, 1⟩ 15 (beNat [8]) = .ok [2] ∧
    dhPub ⟨23, 5, 1⟩ 6 = .ok [8] ∧ dhPub ⟨23, 5, 1⟩ 15 = .ok [19] := by
  simp only [dhShared, dhPub, modPow_eq]; decide

/-- C09, exponent = first accepted draw: the loop returns `r` exactly when the
outcomes of its `rand.Int` calls are: some numbers all `≤ min` (each redrawn),
then `r > min` — i.e. `r` is the FIRST draw above the minimum; whatever
follows is not consumed. -/
theorem C09_random_first (ds : List (Option Nat)) (r : Nat) :
    genRandom randMin ds = some (.ok r) ↔
      ∃ (pre : List Nat) (post : List (Option Nat)),
        ds = pre.map some ++ some r :: post ∧ (∀ v ∈ pre, v ≤ randMin) ∧ randMin < r :=
  genRandom_ok_iff randMin ds r

/-- C09, exponent range: with `rand.Int`'s contract (every returned number is
`< max`; trusted, `hInt`), a returned exponent satisfies `min < r < max`, that
is `2^128 ≤ r < 2^2048 − 1` (the property text's "between 2^128 and 2^2048"). -/
theorem C09_random_range (ds : List (Option Nat)) (r : Nat)
    (hInt : ∀ v, some v ∈ ds → v < randMax) (h : genRandom randMin ds = some (.ok r)) :
    2 ^ 128 ≤ r ∧ r < 2 ^ 2048 - 1 := by
  obtain ⟨pre, post, hds, _, hr⟩ := (genRandom_ok_iff randMin ds r).mp h
  have hmem : some r ∈ ds := by rw [hds]; simp
  have := hInt r hmem
  unfold randMin at hr
  unfold randMax at this
  have h128 : 0 < 2 ^ 128 := Nat.pow_pos (by omega)
  omega

/-- C09, failing source: the call returns an error (and no number) exactly when
a `rand.Int` call fails before any draw was accepted; it never faults. -/
theorem C09_random_fail (ds : List (Option Nat)) :
    (genRandom randMin ds = some .err ↔
      ∃ (pre : List Nat) (post : List (Option Nat)),
        ds = pre.map some ++ none :: post ∧ (∀ v ∈ pre, v ≤ randMin)) ∧
    genRandom randMin ds ≠ some .fault :=
  ⟨genRandom_err_iff randMin ds, genRandom_ne_fault randMin ds⟩

/-- C09, no retained state: `genRandom` is a function of the outcomes of THIS
call's `rand.Int` calls only (it has no other argument), and only of the
prefix it consumed: appending anything after the decisive draw changes
nothing. -/
theorem C09_random_local (ds extra : List (Option Nat)) (x : Res Nat)
    (h : genRandom randMin ds = some x) : genRandom randMin (ds ++ extra) = some x :=
  genRandom_prefix randMin ds extra x h

/-- the loop can run on: only small draws so far -/
theorem C09_random_pending (pre : List Nat) (h : ∀ v ∈ pre, v ≤ randMin) :
    genRandom randMin (pre.map some) = none := by
  have := genRandom_skip randMin pre [] h
  rwa [List.append_nil] at this

example : genRandom randMin [some 5, some (2 ^ 128 - 1), some (2 ^ 128), some 7] = some (.ok (2 ^ 128)) := by decide +kernel
example : genRandom randMin [some 5, none, some (2 ^ 128)] = some .err := by decide

end Ike
