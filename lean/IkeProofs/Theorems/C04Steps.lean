import IkeProofs.Lemmas.Steps

/-!
# C04 — "after work bounded by the input length … never loops forever"

`C04.lean` settles *value or error, never a fault*; totality of the model gives
termination.  This file settles the quantitative half of the clause: for every
loop of every decoding entry point, an explicit closed-form bound on the number
of loop-body executions in terms of the length of the octet string the loop
works on — for **all** inputs, without hypothesis.

The counters (`IkeProofs/Lemmas/Steps.lean`) have the same recursion structure
and the same guards as the decoders.  They count loop bodies that are *started*:
the iteration that ends in `return err` is counted too.  That is why the bounds
read `⌈len / k⌉ = (len + k - 1) / k` rather than `len / k`: a loop over 1..k-1
left-over octets enters its body once more and fails there.  When the decoder
succeeds there is no such iteration and the bound is `len / k` (stated for the payload
chain, `C04_steps_chain`).  The divisor `k` is the least number of octets a *completed*
iteration consumes: 4 (generic payload header; CP attribute header; AKA'
attribute: type, length and at least 2 more octets), 8 (proposal and transform
headers), 16 (a traffic selector is 16 or 40 octets; a CBC block), 4 (one SPI).

Two loops are driven by a count field instead of the remaining length
(traffic selectors: 8-bit count; Delete: 16-bit count).  The selector loop
re-checks the remaining length in every iteration, Delete checks
`4 + spiSize·count ≤ len` before its loop, so both are bounded by the length as
well as by the count.

How the bounds compose (`C04_steps_decodeMsg`, `C04_steps_unprotect`): an
iteration of the chain loop on a payload of declared length `pl ≥ 4` costs
`1 + payloadIters t body` with `|body| = pl - 4`, and
`payloadIters t body ≤ ⌈|body| / 4⌉` (`C04_steps_payload_body`), so the iteration
costs at most `pl / 2` and consumes `pl` octets; summing over the chain gives
`chainWork t b ≤ ⌈len / 2⌉`.

Where a theorem bundles the bounds of several loops, its one octet-string variable is read in
each conjunct as the input of the loop named there; the conjuncts are independent.
-/

namespace Ike

/-! ### the loops one by one -/

/-- **Payload chain** (`IKEPayloadContainer.Decode`, `for len(b) > 0`): for every first type
and every octet string, at most `⌈len/4⌉` iterations are started.  When decoding succeeds every
returned payload was produced by one iteration and the count is at most `len/4`. -/
theorem C04_steps_chain (t : UInt8) (b : Bytes) :
    chainIters t b ≤ (b.length + 3) / 4 ∧
    ∀ ps, decodeChain t b = .ok ps → ps.length ≤ chainIters t b ∧ chainIters t b ≤ b.length / 4 := by
  have h := chainIters_le t b
  refine ⟨by omega, fun ps hps => ?_⟩
  have := chainIters_tie t b ps hps
  omega

/-- **Security Association** (`SecurityAssociation.Unmarshal`): the proposal loop starts at most
`⌈len/8⌉` iterations on any input, the transform loop at most `⌈len/8⌉` on any transform data, and
both levels together (`saWork`: proposal iterations plus the iterations of every nested transform
loop) at most `⌈len/4⌉`.  On success the proposal loop ran exactly once per proposal, and `saWork`
accounts for every proposal and every transform of the result. -/
theorem C04_steps_sa (b : Bytes) :
    propIters b ≤ (b.length + 7) / 8 ∧ transIters b ≤ (b.length + 7) / 8 ∧ saWork b ≤ (b.length + 3) / 4 ∧
    (∀ ps, unmarshalProposals b = .ok ps →
      propIters b = ps.length ∧ ps.length + (ps.map (fun p => p.transforms.length)).sum ≤ saWork b) ∧
    (∀ p q, unmarshalTransforms b p = .ok q → q.transforms.length ≤ p.transforms.length + transIters b) := by
  have h1 := propIters_le b
  have h2 := transIters_le b
  have h3 := saWork_le b
  exact ⟨by omega, by omega, by omega, fun ps h => ⟨propIters_tie b ps h, saWork_tie b ps h⟩,
    fun p q h => transIters_tie b p q h⟩

/-- **Configuration** (`Configuration.Unmarshal`, `for len(configurationAttributeData) > 0`):
at most `⌈len/4⌉` iterations on any attribute data, at most `len/4` on any payload body;
on success exactly one per attribute. -/
theorem C04_steps_cp (d : Bytes) :
    cpIters d ≤ (d.length + 3) / 4 ∧ cpBodyIters d ≤ d.length / 4 ∧
    ∀ l, unmarshalCPAttrs d = .ok l → cpIters d = l.length := by
  have h1 := cpIters_le d
  have h2 := cpBodyIters_le d
  exact ⟨by omega, by omega, fun l h => cpIters_tie d l h⟩

/-- **Traffic selectors** (`for ; numberOfSPI > 0; numberOfSPI--`): for every count `n` and every
octet string at most `min n (len/16 + 1)` iterations (with a positive count the body is entered
once even when nothing is left, and fails); for a payload body at most `⌈(len-4)/16⌉ + 1 ≤ 255`;
on success exactly one per selector. -/
theorem C04_steps_ts (n : Nat) (b : Bytes) :
    tsIters n b ≤ n ∧ tsIters n b ≤ b.length / 16 + 1 ∧
    tsBodyIters b ≤ (b.length + 12) / 16 ∧ tsBodyIters b ≤ 255 ∧
    ∀ l, unmarshalTSels n b = .ok l → tsIters n b = l.length := by
  have h1 := tsIters_le n b
  have h2 := tsBodyIters_le b
  exact ⟨tsIters_le_n n b, by omega, by omega, h2.2, fun l h => tsIters_tie n b l h⟩

/-- **Delete** (`for i := 0; i < 4*int(numberOfSPI); i += 4`): the SPI loop runs at most `n`
times for count `n`; inside `Delete.Unmarshal` — whose guards `4 + spiSize·n ≤ len` and
`spiSize = 4` precede the loop — at most `(len-4)/4` times; on success exactly one per SPI. -/
theorem C04_steps_delete (n : Nat) (b : Bytes) :
    deleteIters n b ≤ n ∧ deleteIters n b ≤ b.length / 4 + 1 ∧ deleteBodyIters b ≤ (b.length - 4) / 4 ∧
    ∀ l, deleteSPIs n b = .ok l → deleteIters n b = l.length := by
  have h1 := deleteIters_le n b
  have h2 := deleteBodyIters_le b
  exact ⟨deleteIters_le_n n b, by omega, by omega, fun l h => deleteIters_tie n b l h⟩

/-- **EAP-AKA'** (`EapAkaPrime.Unmarshal`, `for { ReadByte … }`): the loop leaves when fewer than
2 octets remain and every completed iteration consumes at least 4, so at most `(len+2)/4`
iterations on any attribute data; inside an AKA' body and inside an EAP packet at most `len/4`.
On success every attribute of the map was stored by one iteration. -/
theorem C04_steps_aka (r : Bytes) :
    akaIters r ≤ (r.length + 2) / 4 ∧ akaBodyIters r ≤ r.length / 4 ∧ eapBodyIters r ≤ r.length / 4 ∧
    ∀ acc l, unmarshalAkaAttrs r acc = .ok l → l.length ≤ acc.length + akaIters r := by
  have h1 := akaIters_le r
  have h2 := akaBodyIters_le r
  have h3 := eapBodyIters_le r
  exact ⟨by omega, by omega, by omega, fun acc l h => akaIters_tie r acc l h⟩

/-- **CBC** (`CryptBlocks` under `EncrAesCbcCrypto.Decrypt`): exactly `len/16` block iterations
on any ciphertext; `Decrypt` itself runs them on the part after the IV, so at most `(len-16)/16`.
For any block function with 16-octet output each iteration emits one block. -/
theorem C04_steps_cbc (ct : Bytes) :
    cbcBlocks ct = ct.length / 16 ∧ cbcDecryptBlocks ct ≤ (ct.length - 16) / 16 ∧
    ∀ (P : Prims), P.Lawful → ∀ (key iv : Bytes), iv.length = 16 →
      (cbcDec (P.dec key) iv ct).length = 16 * cbcBlocks ct := by
  have h := cbcDecryptBlocks_le ct
  exact ⟨cbcBlocks_eq ct, by omega, fun P hP key iv hiv => cbcBlocks_tie _ (hP.dec_len key) iv ct hiv⟩

/-! ### nested loops and whole entry points -/

/-- **Each payload body**: all loop iterations inside `unmarshalPayload t nx body`, nested ones
included, for every type code and every body: at most `⌈len/4⌉` (zero for the eleven payload
kinds without a loop).  `payloadIters_dispatch` shows the counter dispatches as the decoder does. -/
theorem C04_steps_payload_body (t : UInt8) (body : Bytes) :
    payloadIters t body ≤ (body.length + 3) / 4 := by
  have := payloadIters_le t body
  omega

/-- **Payload chain with everything nested** (`chainWork` = chain iterations + the iterations of
every loop run inside every payload body): at most `⌈len/2⌉` for every first type and every input;
and it dominates the chain loop alone. -/
theorem C04_steps_decodeChain (t : UInt8) (b : Bytes) :
    chainWork t b ≤ (b.length + 1) / 2 ∧ chainIters t b ≤ chainWork t b := by
  have := chainWork_le t b
  exact ⟨by omega, chainIters_le_chainWork t b⟩

/-- **Whole message** (`IKEMessage.Decode`): the total number of loop iterations performed by
`decodeMsg b` — chain loop plus all loops nested in payload bodies; `ParseHeader` has none — is at
most `(len - 27)/2 ≤ len/2`, for every octet string. -/
theorem C04_steps_decodeMsg (b : Bytes) : msgWork b ≤ (b.length - 27) / 2 ∧ 2 * msgWork b ≤ b.length := by
  have := msgWork_le b
  exact ⟨by omega, by omega⟩

/-- **Unprotection** (`DecodeDecrypt`), any primitives, any key set or none, either role, header
supplied or not: the total number of loop iterations — decoding the datagram (`msgWork` /
`chainWork`), the scan for the Encrypted payload, the CBC blocks, and decoding the decrypted
chain with everything nested — is at most `21/16 · len ≤ 2 · len`.  No hypothesis on `P`: the
count of *loop iterations* does not depend on the primitives being lawful (the work inside one
call of a primitive is not counted, see the header of `Lemmas/Steps.lean`). -/
theorem C04_steps_unprotect (P : Prims) (sa : Option SAKey) (role : Bool) (hdr : Option Header) (msg : Bytes) :
    16 * unprotectWork P sa role hdr msg ≤ 21 * msg.length ∧ unprotectWork P sa role hdr msg ≤ 2 * msg.length := by
  have := unprotectWork_le P sa role hdr msg
  exact ⟨this, by omega⟩

/-- the pieces of `unprotectWork` are tied to `unprotect`: its first phase decodes exactly the
message `unprotect` decodes, and when `decryptMsg` succeeds every payload it returns was produced
by a counted iteration -/
theorem C04_steps_unprotect_tied (P : Prims) (k : SAKey) (role : Bool) (hdr : Option Header) (msg : Bytes) :
    (unprotectPhase1 hdr msg).1 =
      (match hdr with
       | none => decodeMsg msg
       | some h => do
         let body ← goFrom msg Facts.ikeHeaderLen
         let ps ← decodeChain h.next body
         .ok ⟨h, ps⟩) ∧
    ∀ m m', (decryptMsg P k role msg m).2.2 = .ok m' → m'.payloads.length ≤ decryptWork P k role msg m :=
  ⟨unprotectPhase1_fst hdr msg, fun m m' h => decryptWork_tie P k role msg m m' h⟩

/-- the per-body counters (guards in front of a loop, then the loop) are tied to the body
decoders: when Configuration / Traffic Selector / Delete bodies decode, the counter equals the
number of attributes / selectors / SPIs returned (stated for TSi; `tsBodyIters_tie` holds for either selector payload) -/
theorem C04_steps_bodies_tied (b : Bytes) :
    (∀ ct attrs, unmarshalCP b = .ok (.cp ct attrs) → cpBodyIters b = attrs.length) ∧
    (∀ l, unmarshalTS .tsi b = .ok (.tsi l) → tsBodyIters b = l.length) ∧
    (∀ proto spiSize num spis, unmarshalDelete b = .ok (.delete proto spiSize num spis) →
      deleteBodyIters b = spis.length) :=
  ⟨fun ct attrs h => cpBodyIters_tie b ct attrs h,
   fun l h => by obtain ⟨_, e, ht⟩ := tsBodyIters_tie .tsi b _ h; cases e; exact ht,
   fun proto spiSize num spis h => deleteBodyIters_tie b proto spiSize num spis h⟩

/-! ### non-vacuity: the counters on concrete inputs -/

/-- IKE_SA_INIT-like datagram of 68 octets: header, an SA payload (one proposal of 28 octets
with two transforms of 12 and 8 octets), a Nonce payload of 8 octets. -/
def C04_steps_sample : Bytes :=
  [1, 2, 3, 4, 5, 6, 7, 8,  0, 0, 0, 0, 0, 0, 0, 0,  33, 0x20, 34, 0x08,  0, 0, 0, 0,  0, 0, 0, 68,
   40, 0, 0, 32,
     0, 0, 0, 28, 1, 1, 0, 2,
       3, 0, 0, 12, 1, 0, 0, 12, 0x80, 14, 0, 128,
       0, 0, 0, 8, 2, 0, 0, 5,
   0, 0, 0, 8, 1, 2, 3, 4]

/-- it decodes, to two payloads, the first an SA with one proposal carrying two transforms -/
example : (decodeMsg C04_steps_sample).map (fun m => m.payloads.map Payload.typeCode) = .ok [33, 40] := by
  decide +kernel

example : (decodeMsg C04_steps_sample).map (fun m => m.payloads.head?) =
    .ok (some (.sa [⟨1, 1, [], [⟨1, 12, true, 1, 14, 128, []⟩], [⟨2, 5, false, 0, 0, 0, []⟩], [], [], []⟩])) := by
  decide +kernel

/-- 2 chain iterations, 1 proposal iteration, 2 transform iterations: 5 in all, bound 20 -/
example : chainIters 33 (C04_steps_sample.drop 28) = 2 ∧ propIters ((C04_steps_sample.drop 32).take 28) = 1 ∧
    transIters ((C04_steps_sample.drop 40).take 20) = 2 ∧ saWork ((C04_steps_sample.drop 32).take 28) = 3 ∧
    chainWork 33 (C04_steps_sample.drop 28) = 5 ∧ msgWork C04_steps_sample = 5 ∧
    (C04_steps_sample.length - 27) / 2 = 20 := by
  decide +kernel

/-- the chain bound is attained: three minimal payloads (header only) in 12 octets … -/
example : chainIters 40 [40, 0, 0, 4, 40, 0, 0, 4, 0, 0, 0, 4] = 3 ∧
    decodeChain 40 [40, 0, 0, 4, 40, 0, 0, 4, 0, 0, 0, 4] = .ok [.nonce [], .nonce [], .nonce []] := by
  decide +kernel

/-- … and the rounding is needed: 13 octets start a fourth iteration, which fails -/
example : chainIters 40 [40, 0, 0, 4, 40, 0, 0, 4, 40, 0, 0, 4, 9] = 4 ∧
    decodeChain 40 [40, 0, 0, 4, 40, 0, 0, 4, 40, 0, 0, 4, 9] = .err := by
  decide +kernel

/-- the bounds for transforms (`len/8`), CP attributes (`len/4`) and AKA' attributes (`len/4`) are
attained; the two-level SA total stays below its bound `⌈len/4⌉` (2 of 4, 3 of 5) because a proposal
that carries a transform loop also carries 8 octets of its own header -/
example : transIters [3, 0, 0, 8, 1, 0, 0, 12, 0, 0, 0, 8, 2, 0, 0, 5] = 2 ∧
    saWork [0, 0, 0, 16, 1, 1, 0, 1, 0, 0, 0, 8, 2, 0, 0, 5] = 2 ∧
    saWork [0, 0, 0, 17, 1, 1, 0, 1, 0, 0, 0, 8, 2, 0, 0, 5, 9] = 3 ∧
    cpIters [0, 1, 0, 0, 0, 2, 0, 0] = 2 ∧
    akaIters [24, 1, 0, 1, 24, 1, 0, 1] = 2 := by
  decide +kernel

/-- count-driven loops: the count says 3, the octets allow one selector / two SPIs' worth of checking -/
example : tsBodyIters ([3, 0, 0, 0] ++ [7, 0, 0, 16, 0, 0, 0xff, 0xff, 10, 0, 0, 1, 10, 0, 0, 2]) = 2 ∧
    deleteBodyIters [3, 4, 0, 2, 0, 0, 0, 1, 0, 0, 0, 2] = 2 ∧
    deleteBodyIters [3, 4, 0xff, 0xff, 0, 0, 0, 1, 0, 0, 0, 2] = 0 := by
  decide +kernel

/-- unprotection of the sample without keys: the 5 iterations of decoding, nothing else; with a
supplied header whose NextPayload is 0 the SA payload is skipped as unknown: 2 iterations -/
example : unprotectWork Prims.real none true none C04_steps_sample = 5 ∧
    unprotectWork Prims.real none true (some default) C04_steps_sample = 2 := by decide +kernel

/-- CBC: two blocks after the IV -/
example : cbcDecryptBlocks (zeros 48) = 2 ∧ cbcBlocks (zeros 47) = 2 := by decide +kernel

end Ike
