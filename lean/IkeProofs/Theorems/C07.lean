import IkeProofs.Lemmas.Keys
import IkeProofs.Lemmas.PrimsReal

/-!
# C07 — IKE SA keys follow RFC 7296 §2.13–2.14

`Spec.T`, `Spec.prfPlus`, `Spec.prfPlusN`, `Spec.skeyseed`, `Spec.ikeKeys`
(IkeModel/Spec/Keys.lean) transcribe the RFC.  The model functions are
`prfPlus` (`lib.PrfPlus` on a stateful `hash.Hash`), `genKeyForIKESA`
(`GenerateKeyForIKESA`).  All theorems hold for every instance `P` of the
primitives satisfying `P.Lawful`, every octet string, every descriptor record
(the registry tables enter only in `C07_keys_registry` and the examples).

The prf of an SA with PRF descriptor `p` is `P.mac p.hash`; its output length is
`P.macLen p.hash`.
-/

namespace Ike

/-- C07 (a), prf+.  `lib.PrfPlus(prf, s, n)` run on a hash object in ANY state —
key `h.key`, arbitrary pending write buffer `h.buf` — returns the first `n`
octets of the RFC stream prf+(K,S) = T1 | T2 | …, and leaves key and algorithm of
the object unchanged.  No bound on `n` is needed: beyond 255 blocks the Go
`byte(i)` and the specification's one-octet counter wrap identically; within the
RFC's range the counter does not wrap (`C07_prfplus_counter`).  The only
hypothesis is a non-zero digest length (otherwise the Go loop does not terminate). -/
theorem C07_prfplus (P : Prims) (hP : P.Lawful) (h : HashObj) (s : Bytes) (n : Nat)
    (hL : 0 < P.macLen h.alg) :
    (prfPlus P h s n).2 = .ok (Spec.prfPlusN (P.mac h.alg) (P.macLen h.alg) h.key s n)
      ∧ (prfPlus P h s n).1.alg = h.alg ∧ (prfPlus P h s n).1.key = h.key :=
  prfPlus_spec P hP h s n hL

/-- C07 (a), the right-hand side above is the RFC recursion: the stream is the
concatenation `T 1 | T 2 | … | T m` of the blocks `T 1 = prf(K, S | 0x01)`,
`T (k+1) = prf(K, T k | S | k+1)`, cut to `n` octets, with `m = ⌈n / outLen⌉`;
`m` blocks suffice and the last one is needed. -/
theorem C07_prfplus_rfc (prf : Spec.PRF) (L : Nat) (K S : Bytes) (n : Nat) :
    Spec.prfPlusN prf L K S n
        = ((List.range (Spec.blocksFor n L)).flatMap (fun j => Spec.T prf K S (j + 1))).take n
      ∧ Spec.T prf K S 1 = prf K (S ++ [0x01])
      ∧ (∀ k, Spec.T prf K S (k + 1) = prf K (Spec.T prf K S k ++ S ++ [UInt8.ofNat (k + 1)]))
      ∧ (0 < L → n ≤ Spec.blocksFor n L * L)
      ∧ (0 < L → 0 < n → (Spec.blocksFor n L - 1) * L < n) := by
  refine ⟨?_, ?_, fun _ => rfl, Spec.blocksFor_covers n L, fun hL hn => Spec.blocksFor_tight n L hn hL⟩
  · rw [Spec.prfPlusN, Spec.prfPlus_eq_T]
  · simp [Spec.T]

/-- C07 (a), range of the counter: for `n ≤ 255 · outLen` at most 255 blocks are
computed, so every counter octet `UInt8.ofNat (j+1)` written by the code is the
number `j+1` itself (no wrap-around). -/
theorem C07_prfplus_counter (n L : Nat) (hL : 0 < L) (hn : n ≤ 255 * L) :
    Spec.blocksFor n L ≤ 255 ∧ ∀ j, j < Spec.blocksFor n L → (UInt8.ofNat (j + 1)).toNat = j + 1 := by
  have h := Spec.blocksFor_le_255 n L hL hn
  exact ⟨h, fun j hj => toNat_ofNat_u8 (j + 1) (by omega)⟩

set_option linter.unusedVariables false in
/-- C07 (a), independence of the object's state: two hash objects with the same
algorithm and key yield the same stream whatever their buffers hold.  It holds for every `P`
(`prfPlus_sim`): `hP` and `hL` are not used. -/
theorem C07_prfplus_buffer (P : Prims) (hP : P.Lawful) (alg : Nat) (K buf buf' s : Bytes) (n : Nat)
    (hL : 0 < P.macLen alg) :
    (prfPlus P ⟨alg, K, buf⟩ s n).2 = (prfPlus P ⟨alg, K, buf'⟩ s n).2 :=
  (prfPlus_sim P ⟨alg, K, buf⟩ ⟨alg, K, buf'⟩ ⟨rfl, rfl⟩ s n).1

/-- C07 (b), keys, general form.  For ANY previous contents of the SA object
and arbitrary descriptors: with non-empty nonces `Ni|Nr`, non-empty shared secret
and a non-zero total key length, `GenerateKeyForIKESA` succeeds and
SK_d | SK_ai | SK_ar | SK_ei | SK_er | SK_pi | SK_pr are the consecutive slices, of
lengths (prfKey, integKey, integKey, encKey, encKey, prfKey, prfKey), of
prf+(SKEYSEED, Ni|Nr|SPIi|SPIr) with SKEYSEED = prf(Ni|Nr, g^ir) (`ikeKeysG`, which
is `Spec.ikeKeys` with the prf's output length kept apart from its key length).
The key-length guards of `INTEGType.Init` and `NewCrypto` are always met, because
the slices have exactly the descriptor lengths: no hypothesis is needed for them. -/
theorem C07_keys (P : Prims) (hP : P.Lawful) (sa : SAKey) (nonce secret : Bytes) (spiI spiR : UInt64)
    (hL : 0 < P.macLen sa.prfInfo.hash) (hn : nonce.length ≠ 0) (hs : secret.length ≠ 0)
    (ht : 0 < sa.keyTotal) :
    let r := genKeyForIKESA P sa nonce secret spiI spiR
    let k := ikeKeysG (P.mac sa.prfInfo.hash) (P.macLen sa.prfInfo.hash) sa.prfInfo.keyLen sa.integInfo.keyLen
      sa.encrInfo.keyLen nonce secret spiI spiR
    r.2 = .ok () ∧ r.1.sk_d = k.d ∧ r.1.sk_ai = k.ai ∧ r.1.sk_ar = k.ar ∧ r.1.sk_ei = k.ei ∧ r.1.sk_er = k.er
      ∧ r.1.sk_pi = k.pi ∧ r.1.sk_pr = k.pr := by
  intro r k
  have h : r = _ := genKeyForIKESA_ok P hP sa nonce secret spiI spiR hL hn hs ht
  rw [h]
  exact ⟨rfl, rfl, rfl, rfl, rfl, rfl, rfl, rfl⟩

/-- C07 (b), keys, RFC form.  When the PRF's key length is its output length
(true of every registered PRF, `prfTable_keyLen_eq_outLen`) the key set is
literally `Spec.ikeKeys` — the transcription of RFC 7296 §2.14 — and the total
length is automatically non-zero. -/
theorem C07_keys_rfc (P : Prims) (hP : P.Lawful) (sa : SAKey) (nonce secret : Bytes) (spiI spiR : UInt64)
    (hL : 0 < P.macLen sa.prfInfo.hash) (hPrf : sa.prfInfo.keyLen = P.macLen sa.prfInfo.hash)
    (hn : nonce.length ≠ 0) (hs : secret.length ≠ 0) :
    genKeyForIKESA P sa nonce secret spiI spiR =
      (SAKey.ofKeys sa.encrInfo sa.integInfo sa.prfInfo
        (Spec.ikeKeys (P.mac sa.prfInfo.hash) sa.prfInfo.keyLen sa.integInfo.keyLen sa.encrInfo.keyLen
          nonce secret spiI spiR), .ok ()) := by
  have ht : 0 < sa.keyTotal := by unfold SAKey.keyTotal; omega
  rw [genKeyForIKESA_ok P hP sa nonce secret spiI spiR hL hn hs ht, ← hPrf, ikeKeysG_eq_spec]

/-- C07 (b), all negotiable suites (3 encryption × 3 integrity × 3 PRF rows), uniformly from the generated registry:
for every encryption, integrity and PRF entry of the tables, every SA object
carrying these descriptors, and primitives whose digest lengths are the
registry's output lengths, the derivation succeeds with the RFC key set
`Spec.ikeKeys` for the entry's lengths.  Only the PRF entry's membership is used
(key length = output length > 0); the encryption and integrity entries `e`, `i`
may be any entries, in particular all of `Facts.encrTable`, `Facts.integTable`. -/
theorem C07_keys_registry (P : Prims) (hP : P.Lawful)
    (hMac : ∀ q ∈ Facts.prfTable, P.macLen (PrfInfo.ofEntry q).hash = (PrfInfo.ofEntry q).outLen)
    (e : UInt16 × Nat) (i : UInt16 × Nat × Nat × Nat)
    (p : UInt16 × Nat × Nat × Nat) (hp : p ∈ Facts.prfTable)
    (sa : SAKey) (hse : sa.encrInfo = EncrInfo.ofEntry e) (hsi : sa.integInfo = IntegInfo.ofEntry i)
    (hsp : sa.prfInfo = PrfInfo.ofEntry p)
    (nonce secret : Bytes) (spiI spiR : UInt64) (hn : nonce.length ≠ 0) (hs : secret.length ≠ 0) :
    genKeyForIKESA P sa nonce secret spiI spiR =
      (SAKey.ofKeys (EncrInfo.ofEntry e) (IntegInfo.ofEntry i) (PrfInfo.ofEntry p)
        (Spec.ikeKeys (P.mac (PrfInfo.ofEntry p).hash) (PrfInfo.ofEntry p).keyLen (IntegInfo.ofEntry i).keyLen
          (EncrInfo.ofEntry e).keyLen nonce secret spiI spiR), .ok ()) := by
  obtain ⟨h1, h2⟩ := prfTable_keyLen_eq_outLen p hp
  have hm := hMac p hp
  have hL : 0 < P.macLen sa.prfInfo.hash := by rw [hsp, hm]; exact h2
  have hPrf : sa.prfInfo.keyLen = P.macLen sa.prfInfo.hash := by rw [hsp, hm]; exact h1
  rw [C07_keys_rfc P hP sa nonce secret spiI spiR hL hPrf hn hs, hse, hsi, hsp]

/-- C07 (c), objects.  After a successful `GenerateKeyForIKESA` the descriptors
are unchanged and the seven ready-to-use objects are keyed with exactly the seven
slices: `Prf_d`, `Prf_i`, `Prf_r` are HMAC objects of the PRF's hash with keys
SK_d, SK_pi, SK_pr; `Integ_i`, `Integ_r` are HMAC objects of the integrity
algorithm's hash with keys SK_ai, SK_ar (never nil); `Encr_i`, `Encr_r` are cipher
objects with keys SK_ei, SK_er; all write buffers are empty.  Nothing of the
object's previous contents survives: the state is `SAKey.fresh` of descriptors and keys. -/
theorem C07_objects (P : Prims) (hP : P.Lawful) (sa : SAKey) (nonce secret : Bytes) (spiI spiR : UInt64)
    (hL : 0 < P.macLen sa.prfInfo.hash) (hn : nonce.length ≠ 0) (hs : secret.length ≠ 0)
    (ht : 0 < sa.keyTotal) :
    let s := (genKeyForIKESA P sa nonce secret spiI spiR).1
    s = SAKey.fresh sa.encrInfo sa.integInfo sa.prfInfo s.sk_d s.sk_ai s.sk_ar s.sk_ei s.sk_er s.sk_pi s.sk_pr
      ∧ s.prf_d = ⟨sa.prfInfo.hash, s.sk_d, []⟩
      ∧ s.integ_i = ⟨sa.integInfo.hash, s.sk_ai, []⟩ ∧ s.integ_r = ⟨sa.integInfo.hash, s.sk_ar, []⟩
      ∧ s.encr_i = ⟨s.sk_ei⟩ ∧ s.encr_r = ⟨s.sk_er⟩
      ∧ s.prf_i = ⟨sa.prfInfo.hash, s.sk_pi, []⟩ ∧ s.prf_r = ⟨sa.prfInfo.hash, s.sk_pr, []⟩
      ∧ s.encrInfo = sa.encrInfo ∧ s.integInfo = sa.integInfo ∧ s.prfInfo = sa.prfInfo := by
  intro s
  have h : s = _ := congrArg Prod.fst (genKeyForIKESA_ok P hP sa nonce secret spiI spiR hL hn hs ht)
  rw [h]
  exact ⟨rfl, rfl, rfl, rfl, rfl, rfl, rfl, rfl, rfl, rfl, rfl⟩

/-- C07 (d), agreement.  An initiator and a responder whose SA objects carry the
same three descriptors (anything else in the objects may differ), holding the
same nonces, the same SPIs and — hypothesis `hShared`, supplied by DH agreement
(C09) — the same shared secret, get the same outcome from `GenerateKeyForIKESA`,
and on success IDENTICAL SA objects: equal keys, equal PRF / integrity / cipher
objects, hence whatever one party protects the other verifies and decrypts. -/
theorem C07_agree (P : Prims) (hP : P.Lawful) (saI saR : SAKey)
    (he : saI.encrInfo = saR.encrInfo) (hi : saI.integInfo = saR.integInfo) (hp : saI.prfInfo = saR.prfInfo)
    (nonce secretI secretR : Bytes) (spiI spiR : UInt64) (hShared : secretI = secretR)
    (hL : 0 < P.macLen saI.prfInfo.hash) :
    (genKeyForIKESA P saI nonce secretI spiI spiR).2 = (genKeyForIKESA P saR nonce secretR spiI spiR).2
      ∧ ((genKeyForIKESA P saI nonce secretI spiI spiR).2 = .ok () →
          (genKeyForIKESA P saI nonce secretI spiI spiR).1 = (genKeyForIKESA P saR nonce secretR spiI spiR).1) := by
  subst hShared
  have hL' : 0 < P.macLen saR.prfInfo.hash := by rw [← hp]; exact hL
  have htot : saI.keyTotal = saR.keyTotal := by simp only [SAKey.keyTotal, he, hi, hp]
  by_cases hbad : nonce.length = 0 ∨ secretI.length = 0 ∨ saI.keyTotal = 0
  · rw [genKeyForIKESA_err P hP saI nonce secretI spiI spiR hL hbad,
      genKeyForIKESA_err P hP saR nonce secretI spiI spiR hL' (by rw [← htot]; exact hbad)]
    exact ⟨rfl, fun h => by cases h⟩
  · have hn : nonce.length ≠ 0 := fun h => hbad (Or.inl h)
    have hs : secretI.length ≠ 0 := fun h => hbad (Or.inr (Or.inl h))
    have ht : 0 < saI.keyTotal := Nat.pos_of_ne_zero fun h => hbad (Or.inr (Or.inr h))
    rw [genKeyForIKESA_ok P hP saI nonce secretI spiI spiR hL hn hs ht,
      genKeyForIKESA_ok P hP saR nonce secretI spiI spiR hL' hn hs (by rw [← htot]; exact ht), he, hi, hp]
    exact ⟨rfl, fun _ => rfl⟩

/-- a lawful instance of the primitives exists, with the registry's digest lengths -/
example : Prims.toy.Lawful ∧
    ∀ q ∈ Facts.prfTable, Prims.toy.macLen (PrfInfo.ofEntry q).hash = (PrfInfo.ofEntry q).outLen :=
  ⟨Prims.toy_lawful, by decide⟩

/-- the executable primitives have the registry's digest lengths -/
example : ∀ q ∈ Facts.prfTable, Prims.real.macLen (PrfInfo.ofEntry q).hash = (PrfInfo.ofEntry q).outLen := by
  decide +kernel

/-- an SA object (AES-256, HMAC-SHA2-256-128, PRF-HMAC-SHA1; stale keys and a dirty
`Prf_d` buffer) meeting the hypotheses of `C07_keys`, `C07_objects`, `C07_agree` -/
example :
    let sa : SAKey := { (SAKey.fresh ⟨12, 32⟩ ⟨12, 32, 16, 2⟩ ⟨2, 20, 20, 1⟩ [1] [2] [3] [4] [5] [6] [7]) with
                          prf_d := ⟨1, [1], [9, 9]⟩ }
    0 < Prims.toy.macLen sa.prfInfo.hash ∧ sa.prfInfo.keyLen = Prims.toy.macLen sa.prfInfo.hash
      ∧ ([1, 2, 3] : Bytes).length ≠ 0 ∧ 0 < sa.keyTotal
      ∧ (genKeyForIKESA Prims.toy sa [1, 2, 3] [4, 5] 7 8).2 = .ok () := by
  decide +kernel

/-- the descriptor hypotheses of `C07_keys_registry` are met by registry members -/
example : ((12 : UInt16), 24) ∈ Facts.encrTable ∧ ((1 : UInt16), 16, 12, 0) ∈ Facts.integTable
    ∧ ((5 : UInt16), 32, 32, 2) ∈ Facts.prfTable := by decide

/-- `C07_prfplus_counter`: 255 blocks of 20 octets is within range, and needs all 255 blocks -/
example : (5100 : Nat) ≤ 255 * 20 ∧ Spec.blocksFor 5100 20 = 255 := by decide +kernel

/-- prf+ on a dirty object, concretely: 45 octets from a 20-octet digest = 3 blocks cut to 45 -/
example : (prfPlus Prims.toy ⟨1, [7], [1, 2, 3]⟩ [5] 45).2
    = .ok (Spec.prfPlusN (Prims.toy.mac 1) 20 [7] [5] 45) := by decide +kernel

/-- The hypothesis `P.Lawful` of the theorems above (prf+ and the IKE SA key schedule) is not an assumption about the
primitives the model actually runs: the executable SHA-256 / SHA-1 / MD5 / HMAC / AES of
`IkeModel/Crypto` — the ones the correspondence suites compare byte for byte with Go's standard
library — satisfy it (digest lengths; AES block length; `dec k (enc k b) = b` for every key and
block, proved from FIPS-197's inverse structure in `Lemmas/PrimsReal.lean`). -/
theorem C07_real_lawful : Prims.real.Lawful := Prims.real_lawful

end Ike
