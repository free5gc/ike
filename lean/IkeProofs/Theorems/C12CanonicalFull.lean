import IkeProofs.Theorems.C12Canonical
import IkeProofs.Theorems.C05ParseFull

/-! C12, third clause, with "canonical datagram" defined without any library function: accepted by
`Spec.parseFull` (IkeModel/Spec/ParseFull.lean), whose import closure holds no definition of the
model of the library, not even for the EAP packet of an EAP payload. -/

namespace Ike

/-- **C12, canonical datagrams** (third clause), canonical judged by the fully independent strict
parser: every datagram `Spec.parseFull` accepts, with fields in the encodable domain, is decoded by
the library, and re-encoding the decoded message is byte-identical to the input. -/
theorem C12_canonical_datagram_full (bs : Bytes) (m : Msg) (hd : m.Dom) (hp : Spec.parseFull bs = some m) :
    ∃ m' h', decodeMsg bs = .ok m' ∧ encodeMsg m' = .ok (bs, h') :=
  C12_canonical_datagram bs m hd (C05_full_refines bs m hp)

theorem C12_canonical_datagram_full_fields (bs : Bytes) (m : Msg) (hd : m.Dom) (hp : Spec.parseFull bs = some m) :
    ∃ m', decodeMsg bs = .ok m' ∧ m'.payloads = m.payloads :=
  C12_canonical_datagram_fields bs m hd (C05_full_refines bs m hp)

/-- on the encodable domain `C12_canonical_datagram` and `C12_canonical_datagram_full` speak about
the same datagrams -/
theorem C12_canonical_full_same_class (bs : Bytes) (m : Msg) (hd : m.Dom) :
    Spec.parseFull bs = some m ↔ Spec.parse bs = some m :=
  C05_full_agree_on_domain bs m hd

/-- not vacuous: the encoding of `c05pSample` (ten payload kinds, EAP among them) -/
example : ∃ bs, Spec.parseFull bs = some ⟨{ c05pSample.hdr with next := 33, payloadBytes := bs.drop 28 }, c05pSample.payloads⟩
    ∧ 28 < bs.length :=
  let ⟨bs, h, hl⟩ := c05pSample_encodes
  ⟨bs, C05_full_parse_spec_encode c05pSample c05pSample_dom bs h, hl⟩

end Ike
