import IkeProofs.Theorems.C15
import IkeProofs.Theorems.C14Parse

/-! # C15 on the wire: canonical packets from any sender

For every octet string the strict parser `Spec.parseEap` accepts as an EAP-AKA' packet carrying AT_MAC, the
receiver's `CalcEapAkaPrimeAtMAC` on the decoded packet is the RFC 5448 §3.4 value `Spec.atMac` over those very
octets.  Finding D15 is the complement: wire forms the strict parser rejects (`C15_D15_witness`). -/

namespace Ike

/-- **C15, receiver clause, for every canonical wire packet**: the code the receiver computes from
the decoded packet equals the independent RFC transcription `Spec.atMac` applied to the octets as
received. -/
theorem C15_receiver_canonical_wire (P : Prims) (wire key m : Bytes) (code ident : UInt8) (a : Aka)
    (hp : Spec.parseEap wire = some ⟨code, ident, .aka a⟩)
    (hm : akaGetAttr a Facts.atMac = .ok m) :
    ∃ mac, recvEapAkaPrimeAtMAC P wire key = .ok mac ∧ Spec.atMac P key wire = some mac := by
  have hdec := C14_parser_decoder_agree wire _ hp
  have hb : AkaBuilt a := (C14_parse_getattr wire code ident a hp).1
  have hw : marshalEap ⟨code, ident, .aka a⟩ = .ok wire := C14_parse_strict wire _ hp
  obtain ⟨mac, h1, h2, _⟩ := C15_is_rfc P code ident a key wire m hb hm hw
  refine ⟨mac, ?_, h2⟩
  unfold recvEapAkaPrimeAtMAC
  rw [hdec]
  exact h1

/-- and the receiver's comparison succeeds exactly when the AT_MAC value on the wire is that RFC value:
the value it reads from the decoded packet is the one the strict parser reads from the octets -/
theorem C15_receiver_canonical_wire_compare (P : Prims) (wire key m : Bytes) (code ident : UInt8) (a : Aka)
    (hp : Spec.parseEap wire = some ⟨code, ident, .aka a⟩)
    (hm : akaGetAttr a Facts.atMac = .ok m) :
    ∃ d mac, unmarshalEap wire = .ok ⟨code, ident, .aka d⟩ ∧ akaGetAttr d Facts.atMac = .ok m ∧
      recvEapAkaPrimeAtMAC P wire key = .ok mac ∧ (m = mac ↔ Spec.atMac P key wire = some m) := by
  obtain ⟨mac, h1, h2⟩ := C15_receiver_canonical_wire P wire key m code ident a hp hm
  refine ⟨a, mac, C14_parser_decoder_agree wire _ hp, hm, h1, ?_⟩
  rw [h2]
  constructor
  · intro h; rw [h]
  · intro h; exact (Option.some.inj h).symm

/-- non-vacuity: a canonical Challenge with AT_RAND, AT_AUTN, AT_MAC, AT_KDF, AT_KDF_INPUT is accepted by
the strict parser and carries AT_MAC -/
example :
    let wire : Bytes := [1, 9, 0, 80, 50, 1, 0, 0] ++ ([1, 5, 0, 0] ++ List.replicate 16 0x11) ++ ([2, 5, 0, 0] ++ List.replicate 16 0x22) ++
      ([11, 5, 0, 0] ++ List.replicate 16 0xaa) ++ [23, 2, 0, 24, 97, 98, 99, 0] ++ [24, 1, 0, 1]
    (Spec.parseEap wire).isSome = true := by decide +kernel

end Ike
