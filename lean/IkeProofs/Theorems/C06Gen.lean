import IkeProofs.RefineSa.Transfer
import IkeProofs.Theorems.C06

/-! C06 over the translated `ike.go`: every datagram the translated `EncodeEncrypt` returns is the RFC 7296 §3.14
message (`Spec.skMessage`); every RFC message with ANY legal padding is accepted by the translated `DecodeDecrypt`. -/

namespace Ike
open Ike.RefineSa Ike.GenAbsSa Spec

theorem C06_gen_protect_is_rfc (P : Prims) (hP : P.Lawful) (k : Gen.security.IKESAKey) (hk : SaWF k)
    (hi : IntegRegistered k.IntegInfo) (hw : (absSa k).WF P) (role : Bool)
    (r : Rand) (m : Msg) (r' : Rand) (gm' : Gen.message.IKEMessage) (k' : Gen.security.IKESAKey) (bs : Bytes)
    (h : Gen.ike.EncodeEncrypt P r (GenAbs.repMsg m) (some k) role = .ok (r', gm', k', bs)) :
    ∃ inner padDraw iv r1, encodeChain m.payloads = .ok inner ∧
      r.draw (16 - inner.length % 16) = (r1, .ok padDraw) ∧ r1.draw 16 = (r', .ok iv) ∧
      iv.length = 16 ∧
      4 + (16 + (inner.length + (16 - inner.length % 16)) + (absSa k).integInfo.outLen) ≤ 0xFFFF ∧
      bs = skMessage P ((absSa k).skParams role) m.hdr (firstType m.payloads) inner iv
             (padDraw.take (16 - inner.length % 16 - 1)) ∧
      GenAbs.absMsg gm' = some ⟨skHeader P ((absSa k).skParams role) m.hdr (firstType m.payloads) inner iv
               (padDraw.take (16 - inner.length % 16 - 1)),
            [.sk (firstType m.payloads) (skEnc P ((absSa k).skParams role) m.hdr (firstType m.payloads) inner iv
               (padDraw.take (16 - inner.length % 16 - 1)))]⟩ := by
  obtain ⟨m', ha, hp⟩ := gen_protect_ok P hP k hk hi role r m r' gm' k' bs h
  obtain ⟨inner, padDraw, iv, r1, h1, h2, h3, h4, _, h6, h7, h8, _⟩ :=
    C06_protect_is_rfc P hP (absSa k) hw role r m _ r' bs m' hp
  exact ⟨inner, padDraw, iv, r1, h1, h2, h3, h4, h6, h7, by rw [ha, h8]⟩

/-- any legal padding: the RFC message built with parameters `p`, ARBITRARY padding octets and any 16-octet IV is
accepted by the translated `DecodeDecrypt` of a receiver whose peer-direction objects hold `p`'s keys — nil header
and parsed header — and yields the decoding of the inner payloads -/
theorem C06_gen_accepts_any_legal_padding (P : Prims) (hP : P.Lawful) (kb : Gen.security.IKESAKey) (hkb : SaWF kb)
    (hib : IntegRegistered kb.IntegInfo) (hw : (absSa kb).WF P) (rr : Bool)
    (p : SkParams) (hcl : (absSa kb).integInfo.outLen = p.icvLen) (halg : ((absSa kb).integObj (!rr)).alg = p.hash)
    (hka : ((absSa kb).integObj (!rr)).key = p.ka) (hke : ((absSa kb).encrObj (!rr)).key = p.ke)
    (h : Header) (hmaj : h.major.toNat < 16) (hmin : h.minor.toNat < 16) (ft : UInt8)
    (inner iv pad : Bytes) (hiv : iv.length = 16) (hpad : pad.length ≤ 255)
    (hal : (inner.length + pad.length + 1) % 16 = 0)
    (hfit : 4 + 16 + (inner.length + pad.length + 1) + p.icvLen ≤ 0xFFFF)
    (ps : List Payload) (hinner : decodeChain ft inner = .ok ps) :
    ∀ hdr, hdr = none ∨ hdr = some (skHeader P p h ft inner iv pad) →
      ∃ k' gmo, Gen.ike.DecodeDecrypt P (skMessage P p h ft inner iv pad) (hdr.map GenAbs.repHeader) (some kb) rr
          = .ok (k', gmo) ∧
        GenAbs.absMsg gmo = some ⟨skHeader P p h ft inner iv pad, ps⟩ := by
  intro hdr hh
  have hu := (C06_accepts_any_legal_padding P hP (absSa kb) hw rr p hcl halg hka hke h hmaj hmin ft inner iv pad
    hiv hpad hal hfit ps hinner).2.1 hdr hh
  exact gen_unprotect_of_model P hP kb hkb hib rr hdr _ _ _ _ hu

end Ike
