import IkeProofs.Lemmas.Cbc
import IkeProofs.Lemmas.PrimsReal

/-!
# C10 — AES-CBC transform

All statements are for an arbitrary primitive record `P` with `P.Lawful`
(block decryption inverts block encryption on 16-octet blocks, both keep the
block size), every key, every plaintext / ciphertext of any length, every
state of the random source (any octet stream, any position, any failure
point), and every call sequence on one object.

"No repeats across calls or objects" is a statement about the random source:
what the code contributes — every call reads 16 new octets from the source
for its IV, from a window disjoint from every other window it or any earlier
call read, and keeps no IV in the object — is `C10_fresh_iv` + `C10_history`.
-/

namespace Ike

/-- C10, inverse: whenever `Encrypt` returns a ciphertext, `Decrypt` on the same object
(equivalently any object with the same key) returns exactly the plaintext. -/
theorem C10_inverse (P : Prims) (hP : P.Lawful) (c : CipherObj) (r : Rand) (p ct : Bytes)
    (h : (cbcEncrypt P c r p).2 = .ok ct) : cbcDecrypt P c ct = .ok p := by
  obtain ⟨pad, hpad, hlen, hpl⟩ := cbcEncrypt_ok_plain P hP c r p ct h
  have h1 := (padLen_bounds p).1
  have h16 := (padLen_bounds p).2.1
  have e : p.length + pad.length + 1 = p.length + padLen p := by omega
  rw [← hpad] at hpl
  exact cbcDecrypt_of_plain P hP c ct p pad (by omega) (by rw [e]; exact (padLen_bounds p).2.2)
    (by rw [e]; exact hlen) hpl

/-- the success hypothesis of `C10_inverse` holds when the source does not fail at this call's two reads -/
theorem C10_encrypt_ok (P : Prims) (c : CipherObj) (r : Rand) (p : Bytes)
    (h1 : r.failAt ≠ some r.reads) (h2 : r.failAt ≠ some (r.reads + 1)) :
    ∃ ct, (cbcEncrypt P c r p).2 = .ok ct := by
  rw [cbcEncrypt_eq, if_neg h1, if_neg h2]; exact ⟨_, rfl⟩

/-- C10, inverse, as the property words it: a key of the negotiated size
(`NewCrypto` accepts it), any plaintext, a random source that does not fail ⇒
`Encrypt` succeeds and `Decrypt` of its result is the plaintext. -/
theorem C10_inverse_newCrypto (P : Prims) (hP : P.Lawful) (keyLen : Nat) (key : Bytes)
    (hk : key.length = keyLen) (r : Rand) (hr : r.failAt = none) (p : Bytes) :
    ∃ c ct, newCrypto keyLen key = .ok c ∧ (cbcEncrypt P c r p).2 = .ok ct ∧ cbcDecrypt P c ct = .ok p := by
  refine ⟨⟨key⟩, ?_⟩
  obtain ⟨ct, hct⟩ := C10_encrypt_ok P ⟨key⟩ r p (by rw [hr]; simp) (by rw [hr]; simp)
  refine ⟨ct, ?_, hct, C10_inverse P hP _ r p ct hct⟩
  unfold newCrypto; rw [if_neg (by omega)]

/-- the hypotheses of `C10_inverse_newCrypto` can be met -/
example : (⟨[1, 2, 3], 0, 0, none⟩ : Rand).failAt = none ∧ ([7, 7] : Bytes).length = 2 := by decide

/-- C10, size law: the IV plus the least whole number of blocks strictly longer than the plaintext.
The last conjunct is the bound the property states; the one before it is the sharp one. -/
theorem C10_size (P : Prims) (hP : P.Lawful) (c : CipherObj) (r : Rand) (p ct : Bytes)
    (h : (cbcEncrypt P c r p).2 = .ok ct) :
    ∃ k, ct.length = 16 + 16 * k ∧ p.length < 16 * k ∧ 16 * k ≤ p.length + 16 ∧ 16 * k ≤ p.length + 256 := by
  obtain ⟨pad, hpad, hlen, _⟩ := cbcEncrypt_ok_plain P hP c r p ct h
  obtain ⟨h1, h16, hal⟩ := padLen_bounds p
  obtain ⟨k, hk⟩ := Nat.dvd_of_mod_eq_zero hal
  clear hal
  refine ⟨k, ?_⟩
  rw [← hk]
  omega

/-- C10, textbook CBC: decrypting the blocks after the 16-octet IV with the textbook recurrence
(`cbcDec`, NIST SP 800-38A) gives the plaintext, then `16k − n − 1` octets, then the octet
`16k − n − 1`, where `|ct| = 16 + 16k`. -/
theorem C10_textbook (P : Prims) (hP : P.Lawful) (c : CipherObj) (r : Rand) (p ct : Bytes)
    (h : (cbcEncrypt P c r p).2 = .ok ct) :
    ∃ k pad, ct.length = 16 + 16 * k ∧ p.length < 16 * k ∧ pad.length = 16 * k - p.length - 1 ∧
      cbcDec (P.dec c.key) (ct.take 16) (ct.drop 16) = p ++ pad ++ [UInt8.ofNat (16 * k - p.length - 1)] := by
  obtain ⟨pad, hpad, hlen, hpl⟩ := cbcEncrypt_ok_plain P hP c r p ct h
  obtain ⟨h1, h16, hal⟩ := padLen_bounds p
  obtain ⟨k, hk⟩ := Nat.dvd_of_mod_eq_zero hal
  refine ⟨k, pad, ?_⟩
  rw [← hk, Nat.add_sub_cancel_left]
  exact ⟨hlen, Nat.lt_add_of_pos_right h1, hpad, hpl⟩

/-- the padding octets are the first `16k − n − 1` octets of this call's first draw -/
theorem C10_padding_drawn (P : Prims) (c : CipherObj) (r : Rand) (p ct : Bytes)
    (h : (cbcEncrypt P c r p).2 = .ok ct) :
    ∃ drawn, (r.draw (padLen p)).2 = .ok drawn ∧
      ct.drop 16 = cbcEnc (P.enc c.key) (ct.take 16)
        (p ++ drawn.take (padLen p - 1) ++ [UInt8.ofNat (padLen p - 1)]) := by
  obtain ⟨h1, _, hct⟩ := cbcEncrypt_ok_ct P c r p ct h
  refine ⟨cyc r.buf r.pos (padLen p), by unfold Rand.draw; rw [if_neg h1], ?_⟩
  rw [hct, take_prefix_eq _ _ _ (cyc_length _ _ _).symm, drop_prefix_eq _ _ _ (cyc_length _ _ _).symm]
  rfl

/-- C10, fresh IV: the first 16 octets of the ciphertext are the octets returned by the second
read of the random source in THIS call, stream positions `[pos + padLen, pos + padLen + 16)`.
The call leaves the source at the end of that window, so the IV windows of successive calls are
disjoint: no IV octet is taken from the object or from an earlier call. -/
theorem C10_fresh_iv (P : Prims) (c : CipherObj) (r : Rand) (p ct : Bytes)
    (h : (cbcEncrypt P c r p).2 = .ok ct) :
    (pkcs7Pad r p).1.draw 16 = ((cbcEncrypt P c r p).1, .ok (ct.take 16)) ∧
    ct.take 16 = cyc r.buf (r.pos + padLen p) 16 ∧
    (cbcEncrypt P c r p).1.pos = r.pos + padLen p + 16 ∧
    (cbcEncrypt P c r p).1.reads = r.reads + 2 ∧
    (cbcEncrypt P c r p).1.buf = r.buf ∧ (cbcEncrypt P c r p).1.failAt = r.failAt := by
  obtain ⟨h1, h2, hct⟩ := cbcEncrypt_ok_ct P c r p ct h
  have htake : ct.take 16 = cyc r.buf (r.pos + padLen p) 16 := by
    rw [hct, take_prefix_eq _ _ _ (cyc_length _ _ _).symm]
  have hst : cbcEncrypt P c r p = _ := cbcEncrypt_eq P c r p
  rw [if_neg h1, if_neg h2] at hst
  refine ⟨?_, htake, ?_, ?_, ?_, ?_⟩
  · rw [htake, hst]
    unfold pkcs7Pad Rand.draw
    simp only [if_neg h1]
    rw [if_neg (by simpa using h2)]
    rfl
  · rw [hst]
  · rw [hst]
  · rw [hst]
  · rw [hst]

/-- C10, the cipher object is never modified (the model's `Encrypt` / `Decrypt` return only the
random source and the result): in ANY call sequence on one object the outcome of each call is
that of the call alone on an object freshly built from the same key, given the random source as
the earlier calls left it. -/
theorem C10_history (P : Prims) (c : CipherObj) (r : Rand) (before after : List CbcOp) (op : CbcOp) :
    (cbcRun P c r (before ++ op :: after))[before.length]? =
      some (match op with
        | .enc p => (cbcEncrypt P ⟨c.key⟩ (cbcRandAfter P c r before) p).2
        | .dec ct => cbcDecrypt P ⟨c.key⟩ ct) := by
  rw [cbcRun_append]
  have hl := cbcRun_length P c r before
  rw [List.getElem?_append_right (by omega), hl, Nat.sub_self]
  cases op with
  | enc p => simp [cbcRun]
  | dec ct => simp [cbcRun]

/-- a history only advances the random source: same stream, same failure point -/
theorem C10_history_rand (P : Prims) (c : CipherObj) (r : Rand) (ops : List CbcOp) :
    (cbcRandAfter P c r ops).buf = r.buf ∧ (cbcRandAfter P c r ops).failAt = r.failAt ∧
    r.pos ≤ (cbcRandAfter P c r ops).pos ∧ r.reads ≤ (cbcRandAfter P c r ops).reads := by
  induction ops generalizing r with
  | nil => simp [cbcRandAfter]
  | cons op rest ih =>
    cases op with
    | dec ct => exact ih r
    | enc p =>
      simp only [cbcRandAfter]
      obtain ⟨i1, i2, i3, i4⟩ := ih (cbcEncrypt P c r p).1
      obtain ⟨e1, e2, e3, e4⟩ := cbcEncrypt_rand P c r p
      exact ⟨i1.trans e1, i2.trans e2, by omega, by omega⟩

/-- two successful encryptions in one history use IV windows of the stream that
do not overlap: the later one starts at or after the end of the earlier one -/
theorem C10_fresh_iv_disjoint (P : Prims) (c : CipherObj) (r : Rand) (p1 p2 : Bytes) (mid : List CbcOp) :
    let r1 := (cbcEncrypt P c r p1).1
    let r2 := cbcRandAfter P c r1 mid
    (cbcEncrypt P c r p1).2 ≠ .err →
      r.pos + padLen p1 + 16 ≤ r2.pos + padLen p2 := by
  intro r1 r2 hne
  have hmid := (C10_history_rand P c r1 mid).2.2.1
  have hst : cbcEncrypt P c r p1 = _ := cbcEncrypt_eq P c r p1
  have hpos : r1.pos = r.pos + padLen p1 + 16 := by
    by_cases h1 : r.failAt = some r.reads
    · rw [if_pos h1] at hst; rw [hst] at hne; simp at hne
    · rw [if_neg h1] at hst
      by_cases h2 : r.failAt = some (r.reads + 1)
      · rw [if_pos h2] at hst; rw [hst] at hne; simp at hne
      · rw [if_neg h2] at hst; simp only [r1]; rw [hst]
  show r.pos + padLen p1 + 16 ≤ (cbcRandAfter P c r1 mid).pos + padLen p2
  omega

/-- C10, failing random source: `Encrypt` returns an error exactly when the source fails at the
first read of the call (padding) or at the second (IV); it never faults. -/
theorem C10_rand_fail (P : Prims) (c : CipherObj) (r : Rand) (p : Bytes) :
    ((cbcEncrypt P c r p).2 = .err ↔ r.failAt = some r.reads ∨ r.failAt = some (r.reads + 1)) ∧
    (cbcEncrypt P c r p).2 ≠ .fault := by
  rw [cbcEncrypt_eq]
  by_cases h1 : r.failAt = some r.reads
  · rw [if_pos h1]; simp [h1]
  · rw [if_neg h1]
    by_cases h2 : r.failAt = some (r.reads + 1)
    · rw [if_pos h2]; simp [h2]
    · rw [if_neg h2]; simp [h1, h2]

example : (cbcEncrypt Prims.real ⟨[]⟩ ⟨[1], 0, 3, some 4⟩ [9]).2 = .err :=
  ((C10_rand_fail _ _ _ _).1.mpr (Or.inr rfl))

/-- C10, key size: `NewCrypto` returns an error exactly when the key has another length than the
descriptor's, and otherwise an object holding that key. -/
theorem C10_keysize (keyLen : Nat) (key : Bytes) :
    (newCrypto keyLen key = .err ↔ key.length ≠ keyLen) ∧
    (key.length = keyLen → newCrypto keyLen key = .ok ⟨key⟩) ∧ newCrypto keyLen key ≠ .fault := by
  unfold newCrypto
  by_cases h : key.length ≠ keyLen
  · rw [if_pos h]; simp [h]
  · rw [if_neg h]; simp at h; simp [h]

example : newCrypto 16 (zeros 24) = .err ∧ newCrypto 24 (zeros 24) = .ok ⟨zeros 24⟩ := by decide

/-- C10, `Decrypt` never faults (any key, any octet string): `cbcDecrypt_ne_fault`, the lemma of C04 -/
theorem C10_decrypt_no_fault (P : Prims) (hP : P.Lawful) (c : CipherObj) (ct : Bytes) :
    cbcDecrypt P c ct ≠ .fault := cbcDecrypt_ne_fault P hP c ct

/-- C10, refused ciphertexts: too short (less than an IV and one block), or not a whole number
of blocks after the IV, or the last octet of the textbook CBC decryption announces more padding
than there is plaintext; otherwise the textbook decryption without its last `last + 1` octets. -/
theorem C10_decrypt_err_iff (P : Prims) (hP : P.Lawful) (c : CipherObj) (ct : Bytes) :
    (cbcDecrypt P c ct = .err ↔
      ct.length < 32 ∨ (ct.length - 16) % 16 ≠ 0 ∨ (lastPlainOctet P c ct).toNat + 1 > ct.length - 16) ∧
    (¬ (ct.length < 32 ∨ (ct.length - 16) % 16 ≠ 0 ∨ (lastPlainOctet P c ct).toNat + 1 > ct.length - 16) →
      cbcDecrypt P c ct =
        .ok ((cbcDec (P.dec c.key) (ct.take 16) (ct.drop 16)).take
          (ct.length - 16 - ((lastPlainOctet P c ct).toNat + 1)))) := by
  rw [cbcDecrypt_eq P hP]
  by_cases h : ct.length < 32 ∨ (ct.length - 16) % 16 ≠ 0 ∨ (lastPlainOctet P c ct).toNat + 1 > ct.length - 16
  · rw [if_pos h]; simp [h]
  · rw [if_neg h]; simp [h, cbcPlain]

/-- `lastPlainOctet` is what the statement says: the last octet of the textbook
CBC decryption of the blocks after the IV -/
theorem C10_lastPlainOctet_def (P : Prims) (c : CipherObj) (ct : Bytes) :
    lastPlainOctet P c ct =
      byteAt (cbcDec (P.dec c.key) (ct.take 16) (ct.drop 16))
        ((cbcDec (P.dec c.key) (ct.take 16) (ct.drop 16)).length - 1) := rfl

/-- a lawful primitive record (identity "cipher", empty MAC) for the examples below -/
def C10_toyPrims : Prims := ⟨fun _ _ _ => [], fun _ => 0, fun _ b => b, fun _ b => b⟩

theorem C10_toyPrims_lawful : C10_toyPrims.Lawful := ⟨fun _ _ _ => rfl, fun _ _ h => h, fun _ _ h => h, fun _ _ _ => rfl⟩

/-- a concrete encryption (2-octet plaintext, stream 1,2,3,1,2,3,…: 14 octets of padding drawn,
then the IV) and its decryption -/
example : (cbcEncrypt C10_toyPrims ⟨[]⟩ ⟨[1, 2, 3], 0, 0, none⟩ [9, 9]).2 =
      .ok [3, 1, 2, 3, 1, 2, 3, 1, 2, 3, 1, 2, 3, 1, 2, 3, 10, 8, 3, 1, 2, 3, 1, 2, 3, 1, 2, 3, 1, 2, 3, 14] ∧
    cbcDecrypt C10_toyPrims ⟨[]⟩
      [3, 1, 2, 3, 1, 2, 3, 1, 2, 3, 1, 2, 3, 1, 2, 3, 10, 8, 3, 1, 2, 3, 1, 2, 3, 1, 2, 3, 1, 2, 3, 14] = .ok [9, 9] := by
  decide +kernel

example : cbcDecrypt C10_toyPrims ⟨[]⟩ (zeros 31) = .err ∧ cbcDecrypt C10_toyPrims ⟨[]⟩ (zeros 33) = .err ∧
    cbcDecrypt C10_toyPrims ⟨[]⟩ (zeros 31 ++ [16]) = .err ∧
    cbcDecrypt C10_toyPrims ⟨[]⟩ (zeros 31 ++ [3]) = .ok (zeros 12) := by
  decide +kernel

/-- the hypothesis `P.Lawful` holds of the executable primitives (`Lemmas/PrimsReal.lean`) -/
theorem C10_real_lawful : Prims.real.Lawful := Prims.real_lawful

end Ike
