import IkeProofs.Theorems.C03
import IkeModel.Spec.Chain

/-!
# C13 — unsupported payloads: skipped when not critical, message rejected when critical

The chain is framed by `Spec.encodeItems` (IkeModel/Spec/Chain.lean): the generic payload headers
are written from the RFC 7296 §3.2 figure, the bodies of implemented payloads are the model's own
`marshalPayload` (bodies under sender liberties are C05's subject).  It may place payloads of types
this library does not implement anywhere in the chain — front, middle, end,
several — with any body, any flag octet, and may set the critical bit and the
reserved bits on payloads of implemented types.  `C13_chain` decides the whole
property by induction over the chain: no bound on the number, position or
size of the inserted payloads.
-/

namespace Ike
open Spec

/-- **C13** for a whole chain: unknown non-critical payloads are skipped wherever they
appear, a critical unknown payload rejects the chain, flag octets of known payloads
(critical bit and reserved bits) are ignored. -/
theorem C13_chain (items : List Item) (bs : Bytes)
    (hk : ∀ p f, Item.known p f ∈ items → PayloadRT p ∧ p.isSK = false)
    (hu : ∀ t f b, Item.unknown t f b ∈ items → knownType t = false)
    (h : encodeItems items = .ok bs) :
    decodeChain (firstItemType items) bs =
      bif anyCriticalUnknown items then .err else .ok (knownPayloads items) := by
  induction items generalizing bs with
  | nil => cases h; unfold decodeChain; rfl
  | cons i rest ih =>
    obtain ⟨body, hb, h⟩ := Res.bind_eq_ok h
    by_cases hlen : 4 + body.length > 0xFFFF
    · rw [if_pos hlen] at h; cases h
    rw [if_neg hlen] at h
    obtain ⟨tl, hr, h⟩ := Res.bind_eq_ok h
    cases h
    have ihr := ih tl (fun p f hm => hk p f (by simp [hm])) (fun t f b hm => hu t f b (by simp [hm])) hr
    cases i with
    | known p f =>
      obtain ⟨hrt, hsk⟩ := hk p f (by simp)
      show decodeChain p.typeCode ([firstItemType rest, f] ++ _ ++ body ++ tl) = _
      rw [decodeChain_frame _ _ _ _ _ (by omega), ihr, if_pos (knownType_typeCode p), typeCode_ne_sk p hsk,
        hrt body _ hb]
      simp only [anyCriticalUnknown, knownPayloads]
      cases anyCriticalUnknown rest <;> rfl
    | unknown t f b =>
      cases hb
      show decodeChain t ([firstItemType rest, f] ++ _ ++ body ++ tl) = _
      rw [decodeChain_frame _ _ _ _ _ (by omega), ihr, if_neg (by rw [hu t f body (by simp)]; decide)]
      simp only [anyCriticalUnknown, knownPayloads, Item.critical, Item.flags]
      by_cases hc : (f &&& 0x80 != 0) = true
      · rw [if_pos hc, hc]; rfl
      · rw [if_neg hc, eq_false_of_ne_true hc]; rfl

/-- every inserted payload has an unimplemented type and every implemented payload lies in the encodable domain -/
def ItemsDom (items : List Item) : Prop :=
  (∀ p f, Item.known p f ∈ items → p.Dom) ∧ (∀ t f b, Item.unknown t f b ∈ items → knownType t = false)

/-- **skip** (the `false` value of the `bif` in `C13_chain`): when no unimplemented payload is marked critical, the chain decodes exactly as the
same chain without them — wherever they appear — and the flag octets of implemented payloads
(critical bit, reserved bits) have no influence. -/
theorem C13_skip (items : List Item) (bs : Bytes) (hd : ItemsDom items)
    (hc : anyCriticalUnknown items = false) (h : encodeItems items = .ok bs) :
    decodeChain (firstItemType items) bs = .ok (knownPayloads items) := by
  have := C13_chain items bs (fun p f hm => payloadRT_of_dom p (hd.1 p f hm)) hd.2 h
  rw [hc] at this
  exact this

/-- **reject** (its `true` value): if any unimplemented payload has the critical flag set, decoding fails with an error. -/
theorem C13_reject (items : List Item) (bs : Bytes) (hd : ItemsDom items)
    (hc : anyCriticalUnknown items = true) (h : encodeItems items = .ok bs) :
    decodeChain (firstItemType items) bs = .err := by
  have := C13_chain items bs (fun p f hm => payloadRT_of_dom p (hd.1 p f hm)) hd.2 h
  rw [hc] at this
  exact this

/-- the same at message level: header ‖ chain -/
theorem C13_message (hdr : Header) (items : List Item) (pb bs : Bytes) (hd : ItemsDom items)
    (hmaj : hdr.major.toNat < 16) (hmin : hdr.minor.toNat < 16)
    (hi : encodeItems items = .ok pb)
    (hm : marshalHeader { hdr with next := firstItemType items, payloadBytes := pb } = .ok bs) :
    decodeMsg bs = bif anyCriticalUnknown items then .err
      else .ok ⟨{ hdr with next := firstItemType items, payloadBytes := pb }, knownPayloads items⟩ := by
  rw [decodeMsg_marshalHeader { hdr with next := firstItemType items, payloadBytes := pb } bs hmaj hmin hm]
  show (do let ps ← decodeChain (firstItemType items) pb; Res.ok (⟨_, ps⟩ : Msg)) = _
  rw [C13_chain items pb (fun p f hm => payloadRT_of_dom p (hd.1 p f hm)) hd.2 hi]
  cases anyCriticalUnknown items <;> rfl

/-- the type codes the container does not implement are exactly those outside 33..48 -/
theorem C13_unknown_types (t : UInt8) : knownType t = false ↔ (t.toNat < 33 ∨ 48 < t.toNat) := by
  have h : knownType t = true ↔ (33 ≤ t.toNat ∧ t.toNat ≤ 48) := by
    unfold knownType
    simp only [Bool.or_eq_true, beq_iff_eq, ← UInt8.toNat_inj]
    -- the `show` only evaluates the sixteen type constants (`Facts.typeSA.toNat = 33`, …) so that `omega` sees numerals
    show (((((((((((((((t.toNat = 33 ∨ t.toNat = 34) ∨ t.toNat = 35) ∨ t.toNat = 36) ∨ t.toNat = 37) ∨
      t.toNat = 38) ∨ t.toNat = 39) ∨ t.toNat = 40) ∨ t.toNat = 41) ∨ t.toNat = 42) ∨ t.toNat = 43) ∨
      t.toNat = 44) ∨ t.toNat = 45) ∨ t.toNat = 46) ∨ t.toNat = 47) ∨ t.toNat = 48) ↔ _
    omega
  rw [← Bool.not_eq_true, h]
  omega

/-! non-vacuity: an unknown payload in front, one in the middle (with reserved bits), a critical flag on a known payload -/
def c13Sample : List Item :=
  [.unknown 200 0x00 [1, 2, 3], .known (.nonce [7, 7]) 0x80, .unknown 5 0x7f [], .known (.ke 2 [9]) 0x00]

example : (encodeItems c13Sample).isOk = true := by decide +kernel
example : anyCriticalUnknown c13Sample = false := by decide
example : knownPayloads c13Sample = [.nonce [7, 7], .ke 2 [9]] := by decide
example : anyCriticalUnknown (.unknown 200 0x80 [] :: c13Sample) = true := by decide

end Ike
