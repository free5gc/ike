import IkeProofs.Refine.Transfer
import IkeProofs.Theorems.C05
import IkeProofs.Theorems.C05Parse

/-! C05 for the code as translated from the current source (`tools/go2lean`): the statements of `Theorems/C05.lean`
carried over `genEncode_eq` / `genDecode_ok`. -/

namespace Ike
open Ike.Refine Ike.Gen.message Ike.Spec

/-- what the generated encoder writes is the RFC 7296 §3 wire form (independent specification, no
sender liberties), for every message of the encodable domain -/
theorem C05_gen_encode_is_rfc (m : Msg) (hd : m.Dom) :
    Prod.fst <$> genEncode m = Spec.encode canonical m := by
  rw [genEncode_eq]; exact C05_encode_is_rfc m hd

/-- every datagram the specification admits for `m` under any admissible sender liberties is decoded
to `m` by the generated decoder -/
theorem C05_gen_decode_liberal (ls : List Lib) (m : Msg) (bs : Bytes) (hd : m.Dom)
    (ha : LibsAdmissible ls m.payloads) (h : Spec.encode ls m = .ok bs) :
    ∃ m', genDecode bs = .ok (some m') ∧ m'.payloads = m.payloads ∧
      m'.hdr.ispi = m.hdr.ispi ∧ m'.hdr.rspi = m.hdr.rspi ∧ m'.hdr.major = m.hdr.major ∧
      m'.hdr.minor = m.hdr.minor ∧ m'.hdr.exch = m.hdr.exch ∧ m'.hdr.flags = m.hdr.flags ∧
      m'.hdr.mid = m.hdr.mid := by
  obtain ⟨m', k, rest⟩ := C05_decode_liberal ls m bs hd ha h
  exact ⟨m', genDecode_ok.mpr k, rest⟩

/-- the independent strict parser reads back what the generated encoder wrote -/
theorem C05_gen_independent_parser_recovers (m : Msg) (hd : m.Dom) (bs : Bytes) (h' : Header)
    (h : genEncode m = .ok (bs, h')) : Spec.parse bs = some ⟨h', m.payloads⟩ := by
  rw [genEncode_eq] at h; exact C05_independent_parser_recovers m hd bs h' h

end Ike
