import IkeProofs.Theorems.C20Appends

namespace Ike

/-- **C19 "each builder … leaves earlier payloads untouched", memory level**: no builder appends onto
a slice argument or onto a container other than the one it is asked to grow (regenerated fact, see
`C20Appends.lean`), so nothing is written into the spare capacity of memory an earlier payload may
share. -/
theorem C19_builders_do_not_append_onto_arguments :
    ∀ x ∈ Footprint.foreignAppends, x.1 ∉ ["message.IKEPayloadContainer.BuildNotify5G_QOS_INFO",
      "message.IKEPayloadContainer.BuildNotification", "message.ProposalContainer.BuildProposal",
      "message.TransformContainer.BuildTransform", "message.IKEPayloadContainer.BuildEAP5GNAS",
      "message.IndividualTrafficSelectorContainer.BuildIndividualTrafficSelector",
      "message.ConfigurationAttributeContainer.BuildConfigurationAttribute"] ∧ x ∈ c20DocumentedAppends := by
  intro x hx
  have h := C20_no_append_onto_caller_memory x hx
  refine ⟨?_, h⟩
  -- the one documented site is none of the seven named builders
  cases List.mem_singleton.mp h
  decide +kernel

end Ike
