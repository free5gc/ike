import IkeProofs.Theorems.C12
import IkeProofs.Theorems.C05Parse

/-! C12, third clause, with "canonical datagram" defined by a parser instead of the library's
encoder: a datagram the strict RFC 7296 parser `Spec.parse` (IkeModel/Spec/Parse.lean) accepts.
That parser reads the EAP packet of an EAP payload through the library model; C12CanonicalFull.lean
removes this. -/

namespace Ike

/-- **C12, canonical datagrams** (third clause): every datagram that the independent strict
RFC 7296 parser accepts, with fields in the encodable domain, is decoded by the library, and
re-encoding the decoded message is byte-identical to the input. -/
theorem C12_canonical_datagram (bs : Bytes) (m : Msg) (hd : m.Dom) (hp : Spec.parse bs = some m) :
    ∃ m' h', decodeMsg bs = .ok m' ∧ encodeMsg m' = .ok (bs, h') := by
  -- the parser's datagram is the strict sender's, which is what `Encode` returns on the domain
  have he := C05_encode_is_rfc m hd
  rw [show Spec.canonical = [] from rfl, C05_parse_strict bs m hp] at he
  cases hm : encodeMsg m with
  | err => rw [hm] at he; cases he
  | fault => rw [hm] at he; cases he
  | ok x =>
    rw [hm] at he
    cases he
    obtain ⟨m', k1, k2⟩ := C12_canonical m x.1 x.2 hd hm
    exact ⟨m', x.2, k1, k2⟩

/-- … and the decoded message carries the payloads the independent parser reads -/
theorem C12_canonical_datagram_fields (bs : Bytes) (m : Msg) (hd : m.Dom) (hp : Spec.parse bs = some m) :
    ∃ m', decodeMsg bs = .ok m' ∧ m'.payloads = m.payloads :=
  let ⟨m', h, hp', _⟩ := C05_parser_decoder_agree bs m hd hp
  ⟨m', h, hp'⟩

/-- not vacuous: the encoding of `c05pSample` (ten payload kinds) meets the hypotheses -/
example : ∃ bs, Spec.parse bs = some ⟨{ c05pSample.hdr with next := 33, payloadBytes := bs.drop 28 }, c05pSample.payloads⟩
    ∧ 28 < bs.length :=
  let ⟨bs, h, hl⟩ := c05pSample_encodes
  ⟨bs, C05_parse_spec_encode c05pSample c05pSample_dom bs h, hl⟩

end Ike
