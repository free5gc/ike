import IkeProofs.RefineEap.Crypto
import IkeProofs.Theorems.C16

/-! # C16 over the code as translated from the current source (`eap.EapAkaPrimePRF`)

The generated function is the model's `akaPrf` (`EapAkaPrimePRF_refines`, `RefineEap/Crypto.lean`), whence `C16`'s
statements about it. -/

namespace Ike
open Ike.RefineEap

/-- the five keys the generated PRF' returns, as the model's record -/
def genAkaPrf (P : Prims) (ik ck identity : Bytes) : Res AkaKeys :=
  (Gen.eap.EapAkaPrimePRF P ik ck identity).map
    (fun k => (⟨k.1, k.2.1, k.2.2.1, k.2.2.2.1, k.2.2.2.2⟩ : AkaKeys))

theorem C16_gen_prf_is_model (P : Prims) (ik ck identity : Bytes) : genAkaPrf P ik ck identity = akaPrf P ik ck identity :=
  EapAkaPrimePRF_refines P ik ck identity

/-- the generated `EapAkaPrimePRF` returns the RFC 5448 / 9048 key hierarchy -/
theorem C16_gen_prf_keys (P : Prims) (hP : P.Lawful) (h32 : P.macLen 2 = 32) (ik ck identity : Bytes)
    (hik : ik.length ≠ 0) (hck : ck.length ≠ 0) :
    genAkaPrf P ik ck identity = .ok (AkaKeys.ofSpec (Spec.akaPrimeKeys (P.mac 2) ik ck identity)) := by
  rw [C16_gen_prf_is_model]; exact C16_prf_keys P hP h32 ik ck identity hik hck

/-- an empty IK' or CK' is refused, and nothing else is -/
theorem C16_gen_err_iff (P : Prims) (hP : P.Lawful) (h32 : P.macLen 2 = 32) (ik ck identity : Bytes) :
    genAkaPrf P ik ck identity = .err ↔ (ik.length = 0 ∨ ck.length = 0) := by
  rw [C16_gen_prf_is_model]; exact C16_err_iff P hP h32 ik ck identity

end Ike
