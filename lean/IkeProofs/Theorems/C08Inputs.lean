import IkeProofs.Theorems.C20Appends

namespace Ike

/-- **C08 (and with it the other key-function properties C07, C09, C10, C16), memory level**: no key-derivation,
Diffie-Hellman, cipher-construction or PRF'
function keeps a reference to its nonce, secret, key, identity or exponent argument (regenerated fact, see
`C20_arguments_not_retained`): a result can only depend on the values the arguments had during the call, not on
what the caller writes into those buffers or numbers afterwards.  (Stated as: every retaining function is one of five
functions of the packages `ike` and `message`; none is in `security/*` or `eap`.) -/
theorem C08_key_functions_keep_no_argument :
    ∀ r ∈ Footprint.paramRetained,
      r.1 ∈ ["ike.DecodeDecrypt", "message.IKEPayloadContainer.BuildDeletePayload", "message.NewHeader",
             "message.ParseHeader", "message.NewMessage"] :=
  fun r hr => List.mem_map_of_mem (f := Prod.fst) (C20_arguments_not_retained r hr)

end Ike
