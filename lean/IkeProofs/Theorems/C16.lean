import IkeProofs.Lemmas.Keys

/-!
# C16 — EAP-AKA' key hierarchy follows PRF' of RFC 5448 / RFC 9048

`Spec.prfPrime hmac256 K S n` is the first `n` octets of
PRF'(K,S) = T1 | T2 | … with T1 = HMAC-SHA-256(K, S|0x01),
Tn = HMAC-SHA-256(K, Tn-1|S|n) (`Spec.T`, the same recursion as prf+, see
`C16_prfPrime_rfc`); `Spec.akaPrimeKeys` cuts MK = PRF'(IK'|CK', "EAP-AKA'"|Identity)
into K_encr, K_aut, K_re, MSK, EMSK.  HMAC-SHA-256 is `P.mac 2`; the hypothesis
`P.macLen 2 = 32` says that this primitive has SHA-256's digest length.
-/

namespace Ike

/-- C16, PRF'.  For every non-empty IK', every non-empty CK' (any lengths, equal or
not) and every identity string (any octets, including none): `EapAkaPrimePRF`
succeeds and K_encr, K_aut, K_re, MSK, EMSK are octets [0,16), [16,48), [48,80),
[80,144), [144,208) of PRF'(IK'|CK', "EAP-AKA'"|Identity). -/
theorem C16_prf (P : Prims) (hP : P.Lawful) (h32 : P.macLen 2 = 32) (ik ck identity : Bytes)
    (hik : ik.length ≠ 0) (hck : ck.length ≠ 0) :
    let mk := Spec.prfPrime (P.mac 2) (ik ++ ck) (Spec.akaPrimeLabel ++ identity) 208
    akaPrf P ik ck identity = .ok
      { kEncr := (mk.take 16).drop 0,
        kAut  := (mk.take 48).drop 16,
        kRe   := (mk.take 80).drop 48,
        msk   := (mk.take 144).drop 80,
        emsk  := (mk.take 208).drop 144 } := by
  intro mk
  rw [akaPrf_spec P hP h32 ik ck identity hik hck]
  simp only [AkaKeys.ofSpec, Spec.akaPrimeKeys, List.drop_take, List.drop_zero]
  rfl

/-- C16, the same statement against the specification's record `Spec.akaPrimeKeys`
(slices written as `(mk.drop lo).take len`). -/
theorem C16_prf_keys (P : Prims) (hP : P.Lawful) (h32 : P.macLen 2 = 32) (ik ck identity : Bytes)
    (hik : ik.length ≠ 0) (hck : ck.length ≠ 0) :
    akaPrf P ik ck identity = .ok (AkaKeys.ofSpec (Spec.akaPrimeKeys (P.mac 2) ik ck identity)) :=
  akaPrf_spec P hP h32 ik ck identity hik hck

/-- C16, `Spec.prfPrime` is the RFC's iterated construction: the first `n` octets of
`T 1 | T 2 | … | T ⌈n/32⌉` with `T 1 = HMAC(K, S | 0x01)`,
`T (k+1) = HMAC(K, T k | S | k+1)`; for `n = 208` that is seven blocks, and the
MK has exactly 208 octets. -/
theorem C16_prfPrime_rfc (hmac256 : Spec.PRF) (K S : Bytes) (n : Nat) :
    Spec.prfPrime hmac256 K S n
        = ((List.range (Spec.blocksFor n 32)).flatMap (fun j => Spec.T hmac256 K S (j + 1))).take n
      ∧ Spec.T hmac256 K S 1 = hmac256 K (S ++ [0x01])
      ∧ (∀ k, Spec.T hmac256 K S (k + 1) = hmac256 K (Spec.T hmac256 K S k ++ S ++ [UInt8.ofNat (k + 1)]))
      ∧ Spec.blocksFor 208 32 = 7
      ∧ ((∀ k d, (hmac256 k d).length = 32) → (Spec.prfPrime hmac256 K S n).length = n) := by
  refine ⟨?_, ?_, fun _ => rfl, by decide, fun h => Spec.prfPlusN_length hmac256 32 h (by omega) K S n⟩
  · rw [Spec.prfPrime, Spec.prfPlusN, Spec.prfPlus_eq_T]
  · simp [Spec.T]

/-- C16, refusal.  An empty IK' or an empty CK' is refused with an error, for every
identity and all primitives. -/
theorem C16_empty (P : Prims) (ik ck identity : Bytes) (h : ik.length = 0 ∨ ck.length = 0) :
    akaPrf P ik ck identity = .err := by
  unfold akaPrf
  have hc : (ik.length = 0 || ck.length = 0) = true := by
    rcases h with h | h <;> simp [h]
  rw [hc]
  rfl

/-- C16: the model errs ONLY on empty keys (given a 32-octet HMAC); with non-empty keys it returns the key set
(`C16_prf_keys`), so it never faults. -/
theorem C16_err_iff (P : Prims) (hP : P.Lawful) (h32 : P.macLen 2 = 32) (ik ck identity : Bytes) :
    akaPrf P ik ck identity = .err ↔ (ik.length = 0 ∨ ck.length = 0) := by
  constructor
  · intro herr
    by_cases hik : ik.length = 0
    · exact Or.inl hik
    by_cases hck : ck.length = 0
    · exact Or.inr hck
    rw [akaPrf_spec P hP h32 ik ck identity hik hck] at herr
    cases herr
  · exact C16_empty P ik ck identity

/-- lawful primitives with a 32-octet `mac 2` exist, and `mac 2` of the executable primitives has 32 octets too -/
example : Prims.toy.Lawful ∧ Prims.toy.macLen 2 = 32 ∧ Prims.real.macLen 2 = 32 :=
  ⟨Prims.toy_lawful, rfl, rfl⟩

/-- unequal key lengths, non-ASCII identity: hypotheses met, and the model does succeed -/
example : ([1, 2, 3] : Bytes).length ≠ 0 ∧ ([4] : Bytes).length ≠ 0
    ∧ (akaPrf Prims.toy [1, 2, 3] [4] [0xff, 0x00, 0x80]).isOk = true := by decide +kernel

/-- the label is the ASCII string "EAP-AKA'" in model and specification alike -/
example : akaLabel = Spec.akaPrimeLabel
    ∧ akaLabel = ['E', 'A', 'P', '-', 'A', 'K', 'A', '\''].map (fun c => UInt8.ofNat c.toNat) := by decide +kernel

example : akaPrf Prims.toy [] [1] [2] = .err ∧ akaPrf Prims.toy [1] [] [] = .err := by decide +kernel

end Ike
