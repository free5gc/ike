import IkeProofs.Refine.Transfer
import IkeProofs.Theorems.C13

/-! C13 for the code as translated from the current source (`tools/go2lean`): the statements of `Theorems/C13.lean`
carried over `genDecodeChain_eq` / `genDecode_eq`. -/

namespace Ike
open Ike.Refine Ike.Gen.message Ike.Spec

/-- the generated chain walker skips non-critical unsupported payloads, rejects critical ones and
ignores the critical flag on supported ones: any number, position and size of insertions -/
theorem C13_gen_chain (items : List Item) (bs : Bytes) (hd : ItemsDom items) (h : encodeItems items = .ok bs) :
    genDecodeChain (firstItemType items) bs =
      bif anyCriticalUnknown items then .err else .ok (some (knownPayloads items)) := by
  rw [genDecodeChain_eq]
  cases hc : anyCriticalUnknown items
  · rw [C13_skip items bs hd hc h]; rfl
  · rw [C13_reject items bs hd hc h]; rfl

/-- the same through `IKEMessage.Decode` -/
theorem C13_gen_message (hdr : Header) (items : List Item) (pb bs : Bytes) (hd : ItemsDom items)
    (hmaj : hdr.major.toNat < 16) (hmin : hdr.minor.toNat < 16)
    (hi : encodeItems items = .ok pb)
    (hm : marshalHeader { hdr with next := firstItemType items, payloadBytes := pb } = .ok bs) :
    genDecode bs = bif anyCriticalUnknown items then .err
      else .ok (some ⟨{ hdr with next := firstItemType items, payloadBytes := pb }, knownPayloads items⟩) := by
  rw [genDecode_eq, C13_message hdr items pb bs hd hmaj hmin hi hm]
  cases anyCriticalUnknown items <;> rfl

end Ike
