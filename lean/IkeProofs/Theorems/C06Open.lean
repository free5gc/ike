import IkeProofs.Lemmas.SkOpen
import IkeProofs.Theorems.C06
import IkeProofs.Theorems.C05Parse

/-! C06, receiving side.  `Spec.skOpen` (IkeModel/Spec/SkOpen.lean) is the receiver of RFC 7296
§3.14 written from the RFC: it shares no definition with the model of the library's `DecodeDecrypt`
or of its decoder.  It opens what `EncodeEncrypt` returns, accepts nothing but the §3.14 layout
with a correct checksum, and whatever it accepts the library accepts with the same result.
`Spec.skOpenPayloads` continues with `Spec.parseChain`, the chain parser of `Spec.parse`, which is
independent of the library's decoder except for the EAP packet of an EAP payload (C05Parse.lean). -/

namespace Ike
open Spec

/-- **Producer and receiver specification agree**: the opener, holding the same parameters `k`,
reads the RFC message `Spec.skMessage` — with ANY padding of at most 255 octets that fills the
last block — back to its header fields, first inner type, inner octets and padding. -/
theorem C06_open_spec_message (P : Prims) (hP : P.Lawful) (k : SkParams) (hicv : k.icvLen ≤ P.macLen k.hash)
    (h : Header) (hmaj : h.major.toNat < 16) (hmin : h.minor.toNat < 16) (first : UInt8)
    (inner iv pad : Bytes) (hiv : iv.length = 16) (hpad : pad.length ≤ 255)
    (hal : (inner.length + pad.length + 1) % 16 = 0)
    (hfit : 4 + 16 + (inner.length + pad.length + 1) + k.icvLen ≤ 0xFFFF) :
    skOpen P k (skMessage P k h first inner iv pad) = some (skHeader P k h first inner iv pad, first, inner, pad) ∧
    (skHeader P k h first inner iv pad).ispi = h.ispi ∧ (skHeader P k h first inner iv pad).rspi = h.rspi ∧
    (skHeader P k h first inner iv pad).major = h.major ∧ (skHeader P k h first inner iv pad).minor = h.minor ∧
    (skHeader P k h first inner iv pad).exch = h.exch ∧ (skHeader P k h first inner iv pad).flags = h.flags ∧
    (skHeader P k h first inner iv pad).mid = h.mid ∧ (skHeader P k h first inner iv pad).next = 46 ∧
    (skHeader P k h first inner iv pad).payloadBytes = (skMessage P k h first inner iv pad).drop 28 :=
  have hopen := skOpen_skMessage P hP k hicv h hmaj hmin first inner iv pad hiv hpad hal hfit
  -- the header the opener returns is the header read from the datagram
  have ⟨_, _, _, _, _, _, _, hhd, _⟩ := (skOpen_eq_some_iff _ _ _ _ _ _ _).mp hopen
  ⟨hopen, rfl, rfl, rfl, rfl, rfl, rfl, rfl, rfl, (congrArg Header.payloadBytes hhd).trans (readHeader_payloadBytes _)⟩

/-- … and with the strict chain parser of C05 behind it, back to the payloads -/
theorem C06_open_spec_payloads (P : Prims) (hP : P.Lawful) (k : SkParams) (hicv : k.icvLen ≤ P.macLen k.hash)
    (h : Header) (hmaj : h.major.toNat < 16) (hmin : h.minor.toNat < 16)
    (ps : List Payload) (hd : ∀ p ∈ ps, p.Dom) (inner : Bytes) (henc : encodePayloads [] ps = .ok inner)
    (iv pad : Bytes) (hiv : iv.length = 16) (hpad : pad.length ≤ 255)
    (hal : (inner.length + pad.length + 1) % 16 = 0)
    (hfit : 4 + 16 + (inner.length + pad.length + 1) + k.icvLen ≤ 0xFFFF) :
    skOpenPayloads P k (skMessage P k h (firstPayloadType ps) inner iv pad) =
      some ⟨skHeader P k h (firstPayloadType ps) inner iv pad, ps⟩ := by
  unfold skOpenPayloads
  rw [skOpen_skMessage P hP k hicv h hmaj hmin _ inner iv pad hiv hpad hal hfit]
  simp only
  rw [C05_parse_chain ps hd inner henc]

/-- **C06, "an independent implementation holding the keys verifies, decrypts and parses it to the
original payloads"**: for every message of the encodable domain, whatever `EncodeEncrypt` returns is
accepted by the independent receiver given only the SENDER-direction parameters `sa.skParams role`
(both roles, every random source): the checksum verifies, the body decrypts, the padding is legal
and the strict parser reads the inner chain back to `m.payloads`; the header it reads is the one
`EncodeEncrypt` leaves in the message. -/
theorem C06_independent_peer_opens (P : Prims) (hP : P.Lawful) (sa : SAKey) (hw : sa.WF P) (role : Bool)
    (r : Rand) (m : Msg) (hd : m.Dom) (sa' : SAKey) (r' : Rand) (bs : Bytes) (mo : Msg)
    (h : protect P sa role r m = (sa', r', .ok (bs, mo))) :
    skOpenPayloads P (sa.skParams role) bs = some ⟨mo.hdr, m.payloads⟩ ∧
    (∃ inner pad, encodeChain m.payloads = .ok inner ∧ pad.length = 16 - inner.length % 16 - 1 ∧
      skOpen P (sa.skParams role) bs = some (mo.hdr, firstType m.payloads, inner, pad)) ∧
    mo.hdr.ispi = m.hdr.ispi ∧ mo.hdr.rspi = m.hdr.rspi ∧ mo.hdr.major = m.hdr.major ∧
    mo.hdr.minor = m.hdr.minor ∧ mo.hdr.exch = m.hdr.exch ∧ mo.hdr.flags = m.hdr.flags ∧
    mo.hdr.mid = m.hdr.mid ∧ mo.hdr.next = 46 ∧ mo.hdr.payloadBytes = bs.drop 28 := by
  obtain ⟨inner, padDraw, iv, r1, henc, hd1, hd2, hiv, hpadl, hfit, hbs, hmo, _⟩ :=
    C06_protect_is_rfc P hP sa hw role r m sa' r' bs mo h
  have hicv : (sa.skParams role).icvLen ≤ P.macLen (sa.skParams role).hash := WF_integObj P sa hw role
  have hcl : (sa.skParams role).icvLen = sa.integInfo.outLen := rfl
  have hspec : encodePayloads [] m.payloads = .ok inner := by
    rw [← C05_encode_chain_is_rfc m.payloads hd.2.2]; exact henc
  generalize hpd : padDraw.take (16 - inner.length % 16 - 1) = pad at *
  have hpad : pad.length ≤ 255 := by omega
  have hal : (inner.length + pad.length + 1) % 16 = 0 := by omega
  have hfit' : 4 + 16 + (inner.length + pad.length + 1) + sa.integInfo.outLen ≤ 0xFFFF := by omega
  obtain ⟨hopen, _, _, _, _, _, _, _, _, hpb⟩ := C06_open_spec_message P hP (sa.skParams role) hicv m.hdr hd.1 hd.2.1
    (firstType m.payloads) inner iv pad hiv hpad hal hfit'
  have hpay := C06_open_spec_payloads P hP (sa.skParams role) hicv m.hdr hd.1 hd.2.1 m.payloads hd.2.2 inner hspec
    iv pad hiv hpad hal hfit'
  rw [firstPayloadType_eq] at hpay
  subst hbs hmo
  exact ⟨hpay, ⟨inner, pad, henc, hpadl, hopen⟩, rfl, rfl, rfl, rfl, rfl, rfl, rfl, rfl, hpb⟩

/-- the sender-direction parameters depend on descriptors and keys only -/
theorem skParams_sim {sa sb : SAKey} (hsim : sa ≈ₛ sb) (role : Bool) : sb.skParams role = sa.skParams role := by
  have hi := hsim.integObj role
  unfold SAKey.skParams
  rw [← hsim.encrObj role, hi.1, hi.2, hsim.integInfo]

/-- the same for a peer whose own SA object holds the same descriptors and keys, whatever the
history of its hash-object buffers -/
theorem C06_independent_peer_opens_sim (P : Prims) (hP : P.Lawful) (sa sb : SAKey) (hw : sa.WF P) (hsim : sa ≈ₛ sb)
    (role : Bool) (r : Rand) (m : Msg) (hd : m.Dom) (sa' : SAKey) (r' : Rand) (bs : Bytes) (mo : Msg)
    (h : protect P sa role r m = (sa', r', .ok (bs, mo))) :
    skOpenPayloads P (sb.skParams role) bs = some ⟨mo.hdr, m.payloads⟩ := by
  rw [skParams_sim hsim role]
  exact (C06_independent_peer_opens P hP sa hw role r m hd sa' r' bs mo h).1

/-- **The opener accepts only the §3.14 layout** (no hypothesis on the primitives): sizes, header
Length, a single Encrypted payload with flag octet 0, the trailing octets ARE the truncated HMAC of
all preceding ones, and the result is the cut `inner ‖ pad ‖ [|pad|]` of the CBC decryption. -/
theorem C06_open_accepts_only_rfc_layout (P : Prims) (k : SkParams) (msg : Bytes) (hd : Header) (first : UInt8)
    (inner pad : Bytes) (h : skOpen P k msg = some (hd, first, inner, pad)) :
    28 + 4 + 16 + 16 + k.icvLen ≤ msg.length ∧
    beNat ((msg.drop 24).take 4) = msg.length ∧ byteAt msg 16 = 46 ∧ byteAt msg 29 = 0 ∧
    (byteAt msg 30).toNat * 256 + (byteAt msg 31).toNat = msg.length - 28 ∧
    msg.drop (msg.length - k.icvLen) =
      (P.mac k.hash k.ka (msg.take (msg.length - k.icvLen))).take k.icvLen ∧
    (msg.length - 48 - k.icvLen) % 16 = 0 ∧
    hd = readHeader msg ∧ first = byteAt msg 28 ∧ pad.length ≤ 255 ∧
    inner ++ pad ++ [UInt8.ofNat pad.length] =
      cbcDec (P.dec k.ke) ((msg.drop 32).take 16) ((msg.drop 48).take (msg.length - 48 - k.icvLen)) :=
  (skOpen_eq_some_iff P k msg hd first inner pad).mp h

/-- **A wrong checksum is refused**, for any datagram (and, by the opener's definition, nothing
has been decrypted: the comparison precedes the CBC step) -/
theorem C06_open_rejects_bad_checksum (P : Prims) (k : SkParams) (msg : Bytes)
    (hbad : msg.drop (msg.length - k.icvLen) ≠
      (P.mac k.hash k.ka (msg.take (msg.length - k.icvLen))).take k.icvLen) :
    skOpen P k msg = none := by
  cases hs : skOpen P k msg with
  | none => rfl
  | some x =>
    obtain ⟨hd, ft, inner, pad⟩ := x
    obtain ⟨_, _, _, _, _, hicv, _⟩ := (skOpen_eq_some_iff P k msg hd ft inner pad).mp hs
    exact absurd hicv hbad

/-- … in particular the RFC message with its checksum replaced: `icv' ≠ …` is all that separates
this from `C06_open_spec_message` -/
theorem C06_open_rejects_replaced_checksum (P : Prims) (k : SkParams) (h : Header) (first : UInt8)
    (inner iv pad icv' : Bytes) (hlen : icv'.length = k.icvLen)
    (hne : icv' ≠ (P.mac k.hash k.ka (skSigned P k h first inner iv pad)).take k.icvLen) :
    skOpen P k (skSigned P k h first inner iv pad ++ icv') = none := by
  obtain ⟨e1, e2⟩ := skExpectedIcv_append P k (skSigned P k h first inner iv pad) icv' hlen
  apply C06_open_rejects_bad_checksum
  rw [e1]
  exact fun hc => hne (hc.trans e2)

/-- **The library's receiver accepts whatever the independent opener accepts, with the same
result** (arbitrary datagrams): `DecodeDecrypt` by a receiver whose PEER-direction objects hold
`k`'s keys, with a nil header or with `hd`, verifies, calls the cipher once and returns `hd` with
the library's decoding of the same `inner` from the same `first`.
The converse does not hold and is not claimed: the opener is STRICT (header Length = datagram
size, flag octet 0, a single Encrypted payload) where the library is liberal
(`C05_decode_liberal`); and the opener parses `inner` with `Spec.parseChain`, the library with
`decodeChain` — these agree on the encodable domain (`C05_parser_decoder_agree`). -/
theorem C06_open_implies_unprotect (P : Prims) (hP : P.Lawful) (sb : SAKey) (hw : sb.WF P) (rr : Bool)
    (k : SkParams) (hcl : sb.integInfo.outLen = k.icvLen) (halg : (sb.integObj (!rr)).alg = k.hash)
    (hka : (sb.integObj (!rr)).key = k.ka) (hke : (sb.encrObj (!rr)).key = k.ke)
    (msg : Bytes) (hd : Header) (first : UInt8) (inner pad : Bytes)
    (h : skOpen P k msg = some (hd, first, inner, pad)) :
    ∀ hdr, hdr = none ∨ hdr = some hd →
      unprotect P (some sb) rr hdr msg =
        (some (sb.setInteg (!rr) ⟨k.hash, k.ka, msg.take (msg.length - k.icvLen)⟩), 1,
         (do let ps ← decodeChain first inner; Res.ok (⟨hd, ps⟩ : Msg))) :=
  fun hdr hh => unprotect_of_skOpen P hP sb hw rr k hcl halg hka hke msg hd first inner pad h hdr hh

/-! toy lawful primitives `Prims.skToy` and the values `SkEx.*` are those of Lemmas/Sk.lean -/

/-- the datagram `SkEx.bs = protect Prims.skToy SkEx.sa true SkEx.rnd SkEx.msg`, opened by the
independent receiver with the initiator-direction parameters, by evaluation: header fields,
first inner type 40 (Nonce), the 12 inner octets, the 3 padding octets -/
example : skOpen Prims.skToy (SkEx.sa.skParams true) SkEx.bs =
    some (SkEx.dec.hdr, 40, [43, 0, 0, 7, 1, 2, 3, 0, 0, 0, 5, 9], [7, 8, 9]) := by decide +kernel

/-- … and parsed: the original payloads -/
example : skOpenPayloads Prims.skToy (SkEx.sa.skParams true) SkEx.bs = some ⟨SkEx.dec.hdr, SkEx.msg.payloads⟩ := by
  decide +kernel

/-- `C06_independent_peer_opens` applied -/
example : ∃ mo, skOpenPayloads Prims.skToy (SkEx.sa.skParams true) SkEx.bs = some ⟨mo, SkEx.msg.payloads⟩ := by
  obtain ⟨sa', r', mo, h⟩ := SkEx.protect_bs_full
  have hd : SkEx.msg.Dom := by decide +kernel
  exact ⟨mo.hdr, (C06_independent_peer_opens Prims.skToy Prims.skToy_lawful SkEx.sa SkEx.sa_wf true SkEx.rnd SkEx.msg hd
    sa' r' SkEx.bs mo h).1⟩

/-- `C06_open_implies_unprotect` applied: the responder `SkEx.sa` (same keys) on the initiator's datagram -/
example : (unprotect Prims.skToy (some SkEx.sa) false none SkEx.bs).2 =
    (1, (do let ps ← decodeChain 40 [43, 0, 0, 7, 1, 2, 3, 0, 0, 0, 5, 9]; Res.ok (⟨SkEx.dec.hdr, ps⟩ : Msg))) := by
  rw [C06_open_implies_unprotect Prims.skToy Prims.skToy_lawful SkEx.sa SkEx.sa_wf false (SkEx.sa.skParams true)
    rfl rfl rfl rfl SkEx.bs SkEx.dec.hdr 40 [43, 0, 0, 7, 1, 2, 3, 0, 0, 0, 5, 9] [7, 8, 9] (by decide +kernel)
    none (Or.inl rfl)]

/-! refused, in this order: the WRONG direction's keys (responder-direction parameters on an
initiator's datagram); other keys (`SkEx.sb`); one flipped bit in the signed octets (octet 7,
initiator SPI: 1 → 0; the toy MAC covers its key and the first octets only); one flipped checksum
bit (last octet: 0 → 128); a truncated datagram; a datagram with a trailing octet -/
example : skOpen Prims.skToy (SkEx.sa.skParams false) SkEx.bs = none := by decide +kernel
example : skOpen Prims.skToy (SkEx.sb.skParams true) SkEx.bs = none := by decide +kernel
example : skOpen Prims.skToy (SkEx.sa.skParams true) (SkEx.bs.take 7 ++ [0] ++ SkEx.bs.drop 8) = none := by
  decide +kernel
example : skOpen Prims.skToy (SkEx.sa.skParams true) (SkEx.bs.take 75 ++ [128]) = none := by
  decide +kernel
example : skOpen Prims.skToy (SkEx.sa.skParams true) (SkEx.bs.take 60) = none := by decide +kernel
example : skOpen Prims.skToy (SkEx.sa.skParams true) (SkEx.bs ++ [0]) = none := by decide +kernel

/-- `C06_open_spec_message` with NON-minimal padding (12 inner octets, 19 arbitrary pad octets),
by the theorem and by evaluation -/
example : skOpen Prims.skToy (SkEx.sa.skParams true)
    (skMessage Prims.skToy (SkEx.sa.skParams true) SkEx.msg.hdr 40
      [43, 0, 0, 7, 1, 2, 3, 0, 0, 0, 5, 9] (List.replicate 16 0xAA) (List.replicate 19 0x55)) =
    some (skHeader Prims.skToy (SkEx.sa.skParams true) SkEx.msg.hdr 40
      [43, 0, 0, 7, 1, 2, 3, 0, 0, 0, 5, 9] (List.replicate 16 0xAA) (List.replicate 19 0x55), 40,
      [43, 0, 0, 7, 1, 2, 3, 0, 0, 0, 5, 9], List.replicate 19 0x55) :=
  (C06_open_spec_message Prims.skToy Prims.skToy_lawful (SkEx.sa.skParams true) (by decide) SkEx.msg.hdr
    (by decide) (by decide) 40 [43, 0, 0, 7, 1, 2, 3, 0, 0, 0, 5, 9] (List.replicate 16 0xAA) (List.replicate 19 0x55)
    rfl (by decide) (by decide) (by decide)).1

example : (skOpenPayloads Prims.skToy (SkEx.sa.skParams true)
    (skMessage Prims.skToy (SkEx.sa.skParams true) SkEx.msg.hdr 40
      [43, 0, 0, 7, 1, 2, 3, 0, 0, 0, 5, 9] (List.replicate 16 0xAA) (List.replicate 19 0x55))).map (·.payloads) =
    some SkEx.msg.payloads := by decide +kernel

/-- `C06_open_rejects_replaced_checksum` applied -/
example : skOpen Prims.skToy (SkEx.sa.skParams true)
    (skSigned Prims.skToy (SkEx.sa.skParams true) SkEx.msg.hdr 40 [43, 0, 0, 7, 1, 2, 3, 0, 0, 0, 5, 9]
      (List.replicate 16 0xAA) (List.replicate 3 0x55) ++ List.replicate 12 0) = none :=
  C06_open_rejects_replaced_checksum Prims.skToy (SkEx.sa.skParams true) SkEx.msg.hdr 40
    [43, 0, 0, 7, 1, 2, 3, 0, 0, 0, 5, 9] (List.replicate 16 0xAA) (List.replicate 3 0x55) (List.replicate 12 0) rfl
    (by decide +kernel)

end Ike
