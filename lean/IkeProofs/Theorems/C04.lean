import IkeProofs.Lemmas.NoFault
import IkeProofs.Lemmas.PrimsReal

/-!
# C04 — decoders survive arbitrary bytes

`Res.fault` is the model's outcome for every Go panic (index / slice out of
range, negative bound, nil dereference) *and* for every read beyond `len` (the
checked primitives of `GoSem.lean` never look past the list).  Each theorem
below is universally quantified over the input octet string — any length, no
bound — so "never panics" and "independent of spare capacity" hold for the
model on all inputs.  Termination and work bounded by the input length: every
walker is a total Lean function accepted with `termination_by` on the
remaining length (each iteration consumes ≥ 1 octet: `C04_progress` for the four
loops whose guard asks for it; the selector loop runs on its count and the AKA'
loop consumes the two octets it matches on); there is no fuel and no `partial`
in the model.  The closed-form work bounds are in `C04Steps.lean`.
-/

namespace Ike

/-- whole message: `(*IKEMessage).Decode` -/
theorem C04_no_fault_decodeMsg (b : Bytes) : decodeMsg b ≠ .fault := decodeMsg_ne_fault b

/-- `ParseHeader` -/
theorem C04_no_fault_parseHeader (b : Bytes) : parseHeader b ≠ .fault := parseHeader_ne_fault b

/-- payload chain `(*IKEPayloadContainer).Decode(t, b)`, every first-payload type -/
theorem C04_no_fault_decodeChain (t : UInt8) (b : Bytes) : decodeChain t b ≠ .fault :=
  decodeChain_ne_fault t b

/-- each payload body decoder (all 16 payload kinds, selected by type code `t`) -/
theorem C04_no_fault_unmarshalPayload (t nx : UInt8) (b : Bytes) : unmarshalPayload t nx b ≠ .fault :=
  (unmarshalPayload_safe t nx b).ne_fault

/-- the nested decoders, individually -/
theorem C04_no_fault_payload_bodies (b : Bytes) :
    unmarshalSA b ≠ .fault ∧ unmarshalKE b ≠ .fault ∧ unmarshalNotify b ≠ .fault ∧
    unmarshalDelete b ≠ .fault ∧ unmarshalCP b ≠ .fault ∧
    (∀ mk, unmarshalTS mk b ≠ .fault) ∧ (∀ mk, unmarshalT4 mk b ≠ .fault) ∧ (∀ mk, unmarshalT1 mk b ≠ .fault) :=
  ⟨(unmarshalSA_safe b).ne_fault, (unmarshalKE_safe b).ne_fault, (unmarshalNotify_safe b).ne_fault,
   (unmarshalDelete_safe b).ne_fault, (unmarshalCP_safe b).ne_fault, fun mk => (unmarshalTS_safe mk b).ne_fault,
   fun mk => (unmarshalT4_safe mk b).ne_fault, fun mk => (unmarshalT1_safe mk b).ne_fault⟩

/-- EAP packet -/
theorem C04_no_fault_unmarshalEap (b : Bytes) : unmarshalEap b ≠ .fault := unmarshalEap_ne_fault b

/-- each EAP method body: Identity / Notification / Nak, Expanded, EAP-AKA' -/
theorem C04_no_fault_eap_methods (b : Bytes) :
    (∀ code mk, unmarshalSimple code mk b ≠ .fault) ∧ unmarshalExpanded b ≠ .fault ∧ unmarshalAka b ≠ .fault :=
  ⟨fun c mk => unmarshalSimple_ne_fault c mk b, unmarshalExpanded_ne_fault b, unmarshalAka_ne_fault b⟩

/-- cipher decryption, for every key and every ciphertext (lawful block cipher) -/
theorem C04_no_fault_cbcDecrypt (P : Prims) (hP : P.Lawful) (c : CipherObj) (ct : Bytes) :
    cbcDecrypt P c ct ≠ .fault := cbcDecrypt_ne_fault P hP c ct

/-- unprotection without a pre-parsed header, with any key set or none, either role -/
theorem C04_no_fault_unprotect (P : Prims) (hP : P.Lawful) (sa : Option SAKey)
    (hw : ∀ k, sa = some k → k.WF P) (role : Bool) (msg : Bytes) :
    (unprotect P sa role none msg).2.2 ≠ .fault := unprotect_ne_fault P hP sa hw role none msg nofun

/-- unprotection with a header handed in; of `hh` only `28 ≤ msg.length` is used (`unprotect_ne_fault`) -/
theorem C04_no_fault_unprotect_hdr (P : Prims) (hP : P.Lawful) (sa : Option SAKey)
    (hw : ∀ k, sa = some k → k.WF P) (role : Bool) (msg : Bytes) (h : Header)
    (hh : parseHeader msg = .ok h) :
    (unprotect P sa role (some h) msg).2.2 ≠ .fault :=
  unprotect_ne_fault P hP sa hw role (some h) msg fun _ => (parseHeader_inv msg h hh).2

/-- every walker consumes at least one octet per iteration and never more than remains
(the facts Lean's termination checker was given; they bound the work by the input length) -/
theorem C04_progress (t : UInt8) (b : Bytes) :
    (∀ op nx n, chainStep t b = .ok (op, nx, n) → 0 < n ∧ n ≤ b.length) ∧
    (8 ≤ b.length → ∀ p n, parseProposal b = .ok (p, n) → 0 < n ∧ n ≤ b.length) ∧
    (8 ≤ b.length → ∀ x n, parseTransform b = .ok (x, n) → 0 < n ∧ n ≤ b.length) ∧
    (4 ≤ b.length → ∀ a n, parseCPAttr b = .ok (a, n) → 0 < n ∧ n ≤ b.length) :=
  ⟨fun op nx n h => chainStep_len t b op nx n h,
   fun h8 p n h => parseProposal_len b h8 p n h,
   fun h8 x n h => parseTransform_len b h8 x n h,
   fun h4 a n h => parseCPAttr_len b h4 a n h⟩

/-- non-vacuity of `SAKey.WF` (checksum length ≤ digest length): it holds for every row
`(transform id, key length, checksum length, hash)` of the regenerated integrity registry, with the
digest lengths of the executable primitives -/
theorem C04_registry_wf :
    ∀ e ∈ Facts.integTable, e.2.2.1 ≤ Prims.real.macLen e.2.2.2 := by decide

example : decodeMsg [] = .err := by decide
example : parseHeader (List.replicate 28 0) = .err := by decide

/-- `P.Lawful` above is no assumption about the primitives the model runs: the executable ones satisfy it
(`Lemmas/PrimsReal.lean`) -/
theorem C04_real_lawful : Prims.real.Lawful := Prims.real_lawful

end Ike
