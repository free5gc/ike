import IkeProofs.Lemmas.Eap

/-! # C14 — EAP codec round trip and RFC 3748 / 4187 / 5448 framing, EAP-AKA' attributes

Domain `DomEap` (`IkeProofs/Lemmas/Eap.lean`): any code and identifier, Success / Failure without data;
method data none, Identity / Notification / Nak with ≥ 1 octet, Expanded with a vendor id `< 2^24`, EAP-AKA'
packets reachable through the setter (`AkaReach` ⇔ `AkaBuilt`) with values for which the 8-bit word count is
exact: AT_KDF_INPUT ≤ 1016 octets, AT_CHECKCODE a multiple of 4 and ≤ 1016 (the property asks for 0..300 and
0, 20, 32).  No other size or step bound: all value lengths, all `SetAttr` histories. -/

namespace Ike

/-! ## round trip -/

/-- **C14, clause "decoding the encoding of an EAP packet returns the same code, identifier and
method data"**, for every packet of the domain. -/
theorem C14_roundtrip (e : Eap) (bs : Bytes) (hd : DomEap e) (h : marshalEap e = .ok bs) :
    unmarshalEap bs = .ok e :=
  rt_eap_payload e bs hd h

/-- … for every code octet: the codec never looks at it. -/
theorem C14_roundtrip_anycode (e : Eap) (bs : Bytes) (hdd : DomEapData e.data)
    (hsz : 4 + eapDataSize e.data ≤ 65535) (h : marshalEap e = .ok bs) : unmarshalEap bs = .ok e :=
  rt_eap_anycode e bs hdd hsz h

/-- Non-vacuity of the round trip: every packet of the domain does encode. -/
theorem C14_encodable (e : Eap) (hd : DomEap e) : ∃ bs, marshalEap e = .ok bs := by
  obtain ⟨code, ident, data⟩ := e
  have h : ∃ td, marshalEapData data = .ok td := by
    have hdd : DomEapData data := hd.2.1
    cases data with
    | none => exact ⟨_, rfl⟩
    | identity d => exact ⟨_, if_neg (Nat.ne_of_gt hdd)⟩
    | notification d => exact ⟨_, if_neg (Nat.ne_of_gt hdd)⟩
    | nak d => exact ⟨_, if_neg (Nat.ne_of_gt hdd)⟩
    | expanded vid vt d => exact ⟨_, rfl⟩
    | aka a => exact ⟨_, rfl⟩
  obtain ⟨td, h⟩ := h
  exact ⟨_, by rw [marshalEap, h]; rfl⟩

/-- The API-level reading of the domain: a packet is `AkaBuilt` exactly when it is the result of
a sequence of successful `SetAttr` calls (values in the exact-length range) on a fresh
`EapAkaPrime{subType}`. -/
theorem C14_domain_is_reachability (a : Aka) : AkaReach a ↔ AkaBuilt a := by
  constructor
  · intro h
    induction h with
    | fresh st => exact ⟨rfl, List.Pairwise.nil, nofun⟩
    | set t v _ hv hs ih => exact akaBuilt_set ih hv hs
  · obtain ⟨st, rs, attrs⟩ := a
    rintro ⟨rfl, hs, hall⟩
    induction attrs with
    | nil => exact AkaReach.fresh st
    | cons x rest ih =>
      -- replay the list from its end: each head is smaller than what is already stored
      obtain ⟨hx, hrest⟩ := List.pairwise_cons.mp hs
      have hb := hall x (List.mem_cons_self ..)
      refine AkaReach.set x.atype x.value (ih hrest (fun y hy => hall y (List.mem_cons_of_mem x hy))) hb.1 ?_
      rw [akaSetAttr_ok_iff]
      exact ⟨x, hb.2, by rw [akaInsert_front _ _ hx]⟩

/-- a Response carrying RAND, a 5-octet RES (padded on the wire), a 3-octet network name
(padded), KDF and a 20-octet checkcode is in the domain … -/
example : DomEap ⟨2, 7, .aka ⟨1, 0,
    [⟨1, 5, 0, zeros 16⟩, ⟨3, 3, 40, [1, 2, 3, 4, 5]⟩, ⟨23, 2, 24, [97, 98, 99]⟩, ⟨24, 1, 0, [0, 1]⟩,
     ⟨134, 6, 0, zeros 20⟩]⟩⟩ := by decide +kernel

/-- … and so are Success without data, Identity, and an expanded EAP-5G-like packet. -/
example : DomEap ⟨3, 1, .none⟩ ∧ DomEap ⟨1, 2, .identity [0x61]⟩ ∧
    DomEap ⟨2, 3, .expanded 10415 3 [2, 0, 0]⟩ := by decide +kernel

/-! ## well-formedness of the encoding -/

/-- **C14, clause "the length field equals the packet size"** (RFC 3748 §4). -/
theorem C14_wf_length (e : Eap) (bs : Bytes) (hd : DomEap e) (h : marshalEap e = .ok bs) :
    byteAt bs 0 = e.code ∧ byteAt bs 1 = e.ident ∧
    (byteAt bs 2).toNat * 256 + (byteAt bs 3).toNat = bs.length ∧
    bs.length = 4 + eapDataSize e.data ∧
    ∃ td, marshalEapData e.data = .ok td ∧ bs.drop 4 = td := by
  obtain ⟨td, hm, rfl⟩ := marshalEap_eq e bs h
  have hsize := marshalEapData_size _ _ hm
  have hsz := hd.2.2
  have hl : (UInt16.ofNat (4 + td.length)).toNat = 4 + td.length := toNat_ofNat_u16 _ (by omega)
  generalize UInt16.ofNat (4 + td.length) = pl at hl
  have hlen : ([e.code, e.ident] ++ put16 pl ++ td).length = 4 + td.length := by
    rw [List.length_append, List.length_append, put16_length]; rfl
  exact ⟨rfl, rfl, (octets16_toNat _ (Nat.le_of_lt_succ pl.toNat_lt)).trans (hl.trans hlen.symm), hlen.trans (by rw [hsize]), td, hm, rfl⟩

example : DomEap ⟨1, 2, .identity [0x61]⟩ := by decide +kernel

/-- **C14, clause "Success/Failure carry no data"** (and so for any packet without method data). -/
theorem C14_wf_success_failure (e : Eap) (bs : Bytes) (hd : DomEap e)
    (hc : (e.code = Facts.eapCodeSuccess ∨ e.code = Facts.eapCodeFailure) ∨ e.data = .none)
    (h : marshalEap e = .ok bs) : bs = [e.code, e.ident, 0, 4] := by
  have hn : e.data = .none := by
    rcases hc with hc | hc
    · exact hd.1 hc
    · exact hc
  unfold marshalEap at h
  rw [hn] at h
  simp only [marshalEapData, Res.bind_ok, Res.ok.injEq] at h
  rw [← h]; rfl

example : DomEap ⟨3, 9, .none⟩ ∧ marshalEap ⟨3, 9, .none⟩ = .ok [3, 9, 0, 4] := by decide +kernel

/-- … and the decoder reads every accepted 4-octet packet as "no data". -/
theorem C14_wf_four_octets_decode (bs : Bytes) (e : Eap) (hl : bs.length = 4) (h : unmarshalEap bs = .ok e) :
    e = ⟨byteAt bs 0, byteAt bs 1, .none⟩ := by
  rw [unmarshalEap_eq, if_neg (by omega), if_neg (by omega)] at h
  obtain ⟨_, h⟩ := Res.ite_err_eq_ok h
  obtain ⟨_, h⟩ := Res.ite_err_eq_ok h
  rw [if_pos hl] at h
  exact (Res.ok.inj h).symm

/-- **C14, clause "expanded types carry a 24-bit vendor id and 32-bit vendor type"** (RFC 3748 §5.7). -/
theorem C14_wf_expanded (code ident : UInt8) (vid vt : UInt32) (d bs : Bytes) (hv : vid.toNat < 16777216)
    (h : marshalEap ⟨code, ident, .expanded vid vt d⟩ = .ok bs) :
    bs = [code, ident] ++ put16 (UInt16.ofNat (4 + (8 + d.length))) ++
      [254, UInt8.ofNat (vid.toNat / 65536), UInt8.ofNat (vid.toNat / 256 % 256), UInt8.ofNat (vid.toNat % 256)] ++
      put32 vt ++ d := by
  obtain ⟨td, hm, rfl⟩ := marshalEap_eq _ bs h
  rw [marshalEapData_size _ _ hm]
  rw [marshalEapData, put32_expanded_word vid hv] at hm
  rw [← Res.ok.inj hm, List.append_assoc, List.append_assoc]
  rfl

example : marshalEap ⟨2, 3, .expanded 10415 3 [2, 0, 0]⟩
    = .ok [2, 3, 0, 15, 254, 0, 0x28, 0xaf, 0, 0, 0, 3, 2, 0, 0] := by decide +kernel

/-- **C14, clause "every EAP-AKA' attribute occupies a multiple of four octets with its length
field in words, zero padding, and for AT_RES / AT_KDF_INPUT the exact value length in bits"**,
for every value `v` the setter accepts for type `t` (`x` = what it stores); last conjunct: byte for
byte what the independent RFC 4187 / 5448 encoder writes. -/
theorem C14_wf_attr (t : UInt8) (v : Bytes) (x : AkaAttr) (hv : AkaValOk t v) (h : akaMkAttr t v = .ok x) :
    (marshalAkaAttr x).length = 4 * x.length.toNat ∧
    (∃ pad, pad < 4 ∧
      marshalAkaAttr x =
        (if t = Facts.atKdf then [t, x.length] ++ v else [t, x.length] ++ put16 x.reserved ++ v ++ zeros pad) ∧
      ((t = Facts.atRes ∨ t = Facts.atKdfInput) → x.reserved.toNat = 8 * v.length) ∧
      (¬ (t = Facts.atRes ∨ t = Facts.atKdfInput) → x.reserved = 0 ∧ pad = 0)) ∧
    marshalAkaAttr x = Spec.encodeAkaAttr t v := by
  have hb := akaAttrBuilt_of_mk hv h
  obtain ⟨ht, hvv⟩ := akaMkAttr_ok_fields h
  have hlen := (akaAttrBuilt_wire hb).1
  refine ⟨by rw [marshalAkaAttr_cons, List.length_cons, List.length_cons]; omega, ?_,
    by rw [marshalAkaAttr_eq_spec hb, ht, hvv]⟩
  subst ht hvv
  clear hv h hlen
  have happ : ∀ (a b : UInt8) (r : Bytes), a :: b :: r = [a, b] ++ r ++ zeros 0 := fun _ _ r => (List.append_nil _).symm
  rw [marshalAkaAttr_cons]
  rcases (akaAttrBuilt_iff x).mp hb with ⟨t, v, ht, hl, rfl⟩ | ⟨t, len, bits, v, ht, _, _, h1, h2, hbits, rfl⟩ |
    ⟨v, hl, rfl⟩ | ⟨len, v, _, hlen, rfl⟩
  · have hnk : t ≠ Facts.atKdf := by rcases ht with rfl | rfl | rfl <;> decide
    have hnp : ¬ (t = Facts.atRes ∨ t = Facts.atKdfInput) := by rcases ht with rfl | rfl | rfl <;> decide
    dsimp only
    exact ⟨0, by decide, by rw [(parse_marshal_fixed16 t v ht hl).1, if_neg hnk, happ]; simp only [List.append_assoc],
      fun h' => absurd h' hnp, fun _ => ⟨rfl, rfl⟩⟩
  · have hnk : t ≠ Facts.atKdf := by rcases ht with rfl | rfl <;> decide
    dsimp only
    refine ⟨4 * len.toNat - 4 - v.length, by omega, ?_, fun _ => by rw [hbits]; exact Nat.mul_comm .., fun h' => absurd ht h'⟩
    rw [(parse_marshal_padded_exact t len bits v ht hbits h1).1, if_neg hnk]
    simp only [List.cons_append, List.nil_append, List.append_assoc]
  · dsimp only
    exact ⟨0, by decide, by rw [(parse_marshal_kdf 1 v hl).1, if_pos rfl]; rfl,
      fun h' => absurd h' (by decide), fun _ => ⟨rfl, rfl⟩⟩
  · dsimp only
    refine ⟨0, by decide, ?_, fun h' => absurd h' (by decide), fun _ => ⟨rfl, rfl⟩⟩
    rw [(parse_marshal_checkcode len v hlen).1, if_neg (by decide), happ]
    simp only [List.append_assoc]

/-- a 5-octet RES is accepted and emitted as `3 ‖ 3 ‖ 0x0028 ‖ RES ‖ 000000` (12 octets, 40 bits) -/
example : AkaValOk 3 [1, 2, 3, 4, 5] ∧
    (akaMkAttr 3 [1, 2, 3, 4, 5]).map marshalAkaAttr = .ok [3, 3, 0, 40, 1, 2, 3, 4, 5, 0, 0, 0] := by decide +kernel

/-- **C14, framing of a whole EAP-AKA' packet**: byte for byte the RFC 3748 frame around the RFC 4187 §8.1
header and the RFC encodings of the attributes in ascending type order. -/
theorem C14_wf_aka_is_spec (code ident : UInt8) (a : Aka) (hb : AkaBuilt a) :
    marshalEap ⟨code, ident, .aka a⟩ =
      .ok (Spec.encodeEapAka code ident a.subtype (a.attrs.map (fun x => (x.atype, x.value)))) := by
  rw [marshalEap, marshalEapData, marshalAka, hb.1, marshalAkaAttrs_eq_spec _ hb.2.2]
  rfl

/-! ## get ∘ set -/

/-- **C14, clause "an attribute value read back from a message — freshly set … — is exactly the
value that was set"** (no padding octets inside the value). -/
theorem C14_getset_same (a a' : Aka) (t : UInt8) (v : Bytes) (h : akaSetAttr a t v = .ok a') :
    akaGetAttr a' t = .ok v :=
  (akaGetAttr_set h).1

/-- … and `SetAttr(t, ·)` leaves every other attribute's value (or absence) as it was. -/
theorem C14_getset_other (a a' : Aka) (t t' : UInt8) (v : Bytes) (h : akaSetAttr a t v = .ok a') (hne : t' ≠ t) :
    akaGetAttr a' t' = akaGetAttr a t' :=
  (akaGetAttr_set h).2 t' hne

/-- a refused `SetAttr` changes nothing (it returns no packet at all in the model; in Go the map
is not touched before the size checks) -/
theorem C14_getset_refused (a : Aka) (t : UInt8) (v : Bytes) (h : akaMkAttr t v = .err) :
    akaSetAttr a t v = .err := by
  rw [akaSetAttr, h]; rfl

/-- **C14, clause "… or decoded …"**: set, encode under any code and identifier, decode, get. -/
theorem C14_getset_decoded (code ident : UInt8) (a a' : Aka) (t : UInt8) (v bs : Bytes)
    (hb : AkaBuilt a) (hv : AkaValOk t v) (hs : akaSetAttr a t v = .ok a')
    (hm : marshalEap ⟨code, ident, .aka a'⟩ = .ok bs) :
    ∃ d, unmarshalEap bs = .ok ⟨code, ident, .aka d⟩ ∧ akaGetAttr d t = .ok v ∧
      ∀ t', akaGetAttr d t' = akaGetAttr a' t' := by
  have hb' := akaBuilt_set hb hv hs
  have hsz := akaBuilt_size hb'
  refine ⟨a', rt_eap_anycode _ bs hb' (by dsimp only; omega) hm, C14_getset_same a a' t v hs, fun _ => rfl⟩

example : AkaBuilt ⟨1, 0, [⟨1, 5, 0, zeros 16⟩]⟩ ∧ AkaValOk 23 [97, 98, 99] ∧
    (akaSetAttr ⟨1, 0, [⟨1, 5, 0, zeros 16⟩]⟩ 23 [97, 98, 99]).isOk = true := by decide +kernel

/-! ## the setter's refusals -/

/-- **C14, clause "the setter refuses wrong sizes for the fixed-size attributes (RAND, AUTN, MAC:
16 octets; KDF: 2; RES: 4..16)"**, as an exact characterisation over all types and all value lengths;
it never panics; and when it does not refuse it stores exactly `(t, v)`. -/
theorem C14_setter (a : Aka) (t : UInt8) (v : Bytes) :
    (akaSetAttr a t v = .err ↔
      ((t = Facts.atRand ∨ t = Facts.atAutn ∨ t = Facts.atMac) ∧ v.length ≠ 16) ∨
      (t = Facts.atKdf ∧ v.length ≠ 2) ∨
      (t = Facts.atRes ∧ (v.length < 4 ∨ 16 < v.length)) ∨
      ¬ akaSettable t) ∧
    akaSetAttr a t v ≠ .fault ∧
    (∀ a', akaSetAttr a t v = .ok a' → akaGetAttr a' t = .ok v) := by
  refine ⟨?_, ?_, fun a' h => C14_getset_same a a' t v h⟩
  · rw [← akaMkAttr_err_iff, akaSetAttr]
    cases akaMkAttr t v <;> simp
  · exact Res.bind_ne_fault (akaMkAttr_ne_fault t v) (fun _ _ => nofun)

/-- `akaSettable` in the RFCs' numbers -/
theorem C14_setter_types (t : UInt8) :
    akaSettable t ↔ t = 1 ∨ t = 2 ∨ t = 3 ∨ t = 11 ∨ t = 23 ∨ t = 24 ∨ t = 134 := Iff.rfl

-- the depth is what `decide` without `+kernel` needs for `zeros 300`
set_option maxRecDepth 20000 in
/-- refusals and acceptances at the boundaries -/
example : akaMkAttr 1 (zeros 15) = .err ∧ akaMkAttr 2 (zeros 17) = .err ∧ akaMkAttr 11 (zeros 300) = .err ∧
    akaMkAttr 24 (zeros 3) = .err ∧ akaMkAttr 3 (zeros 3) = .err ∧ akaMkAttr 3 (zeros 17) = .err ∧
    akaMkAttr 5 (zeros 16) = .err ∧
    (akaMkAttr 3 (zeros 4)).isOk = true ∧ (akaMkAttr 3 (zeros 16)).isOk = true ∧
    (akaMkAttr 23 []).isOk = true ∧ (akaMkAttr 23 (zeros 300)).isOk = true := by decide +kernel

/-! ## determinism and emission order -/

/-- run a whole history of `SetAttr` calls (refused calls leave the packet as it was) -/
def C14_akaApply (a : Aka) (ops : List (UInt8 × Bytes)) : Aka :=
  ops.foldl (fun a op => match akaSetAttr a op.1 op.2 with
    | .ok a' => a'
    | _ => a) a

/-- **C14, clause "encoding the same unmodified message twice gives identical bytes"**:
(i) the encoder is a function of the packet value — in the model the Go map is the association
list `attrs`, and Go's sort over the map keys is the invariant (ii): after any history of `SetAttr`
calls, accepted or refused, the list is strictly ascending by type, so the emission order does not
depend on the order of the calls; (iii) the same for every packet the decoder returns. -/
theorem C14_deterministic :
    (∀ e b1 b2, marshalEap e = .ok b1 → marshalEap e = .ok b2 → b1 = b2) ∧
    (∀ st rs ops, AkaSorted (C14_akaApply ⟨st, rs, []⟩ ops).attrs) ∧
    (∀ raw a, unmarshalAka raw = .ok a → AkaSorted a.attrs) := by
  refine ⟨?_, ?_, unmarshalAka_sorted⟩
  · intro e b1 b2 h1 h2
    exact Res.ok.inj (h1.symm.trans h2)
  · intro st rs ops
    have key : ∀ (ops : List (UInt8 × Bytes)) (a : Aka), AkaSorted a.attrs → AkaSorted (C14_akaApply a ops).attrs := by
      intro ops
      induction ops with
      | nil => intro a h; exact h
      | cons op rest ih =>
        intro a h
        unfold C14_akaApply
        rw [List.foldl_cons]
        apply ih
        cases hs : akaSetAttr a op.1 op.2 with
        | ok a' =>
          obtain ⟨na, _, rfl⟩ := (akaSetAttr_ok_iff _ _ _ _).mp hs
          exact akaInsert_sorted _ _ h
        | err => exact h
        | fault => exact h
    exact key ops _ List.Pairwise.nil

/-- two histories that store the same final values in different orders give the same packet,
hence the same octets -/
example : C14_akaApply ⟨1, 0, []⟩ [(24, [0, 1]), (1, zeros 16), (23, [97])] =
          C14_akaApply ⟨1, 0, []⟩ [(23, [98]), (1, zeros 16), (23, [97]), (24, [0, 1]), (7, [])] := by decide +kernel

end Ike
