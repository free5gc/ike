import IkeProofs.Refine.Transfer
import IkeProofs.Theorems.C03

/-! C03 for the code as translated from the current source (`tools/go2lean`): the statements of `Theorems/C03.lean`
carried over `genEncode_eq` / `genDecode_eq`. -/

namespace Ike
open Ike.Refine Ike.Gen.message

/-- encoding by the generated `IKEMessage.Encode` followed by the generated `IKEMessage.Decode`
returns the payload list and the header fields, for every message of the encodable domain -/
theorem C03_gen_roundtrip (m : Msg) (bs : Bytes) (h' : Header) (hd : m.Dom)
    (h : genEncode m = .ok (bs, h')) :
    ∃ m', genDecode bs = .ok (some m') ∧ m'.payloads = m.payloads ∧
      m'.hdr.ispi = m.hdr.ispi ∧ m'.hdr.rspi = m.hdr.rspi ∧ m'.hdr.major = m.hdr.major ∧
      m'.hdr.minor = m.hdr.minor ∧ m'.hdr.exch = m.hdr.exch ∧ m'.hdr.flags = m.hdr.flags ∧
      m'.hdr.mid = m.hdr.mid := by
  rw [genEncode_eq] at h
  obtain ⟨m', k, rest⟩ := C03_roundtrip m bs h' hd h
  exact ⟨m', genDecode_ok.mpr k, rest⟩

/-- the generated encoder and decoder are the model's, on every input -/
theorem C03_gen_codec_is_model (m : Msg) (b : Bytes) :
    genEncode m = encodeMsg m ∧ genDecode b = (decodeMsg b).map some := ⟨genEncode_eq m, genDecode_eq b⟩

end Ike
