import IkeProofs.RefineSa.Transfer
import IkeProofs.Theorems.C01

/-! C01, the protected round trip, with both ends the functions translated from `ike.go`: whatever `EncodeEncrypt`
returns, `DecodeDecrypt` of the opposite role accepts (nil header, or the header parsed from the datagram) and returns
the original payloads and header fields.  The receiver's object may be any in the `≈ₛ` class of the sender's.  The two `_nokey_` theorems restate
`Enc.EncodeEncrypt_nil_key` and `Dec.DecodeDecrypt_nil_key`. -/

namespace Ike
open Ike.RefineSa Ike.GenAbsSa

theorem C01_gen_roundtrip (P : Prims) (hP : P.Lawful) (ka kb : Gen.security.IKESAKey)
    (hka : SaWF ka) (hkb : SaWF kb) (hia : IntegRegistered ka.IntegInfo) (hib : IntegRegistered kb.IntegInfo)
    (hwa : (absSa ka).WF P) (hsim : absSa ka ≈ₛ absSa kb)
    (role : Bool) (r : Rand) (m : Msg)
    (hmaj : m.hdr.major.toNat < 16) (hmin : m.hdr.minor.toNat < 16)
    (hrt : ∀ p ∈ m.payloads, PayloadRT p ∧ p.isSK = false)
    (r' : Rand) (gm' : Gen.message.IKEMessage) (ka' : Gen.security.IKESAKey) (bs : Bytes)
    (h : Gen.ike.EncodeEncrypt P r (GenAbs.repMsg m) (some ka) role = .ok (r', gm', ka', bs)) :
    ∃ hd mo, parseHeader bs = .ok hd ∧
      (∃ kb' gmo, Gen.ike.DecodeDecrypt P bs none (some kb) (!role) = .ok (kb', gmo) ∧
        GenAbs.absMsg gmo = some mo) ∧
      (∃ kb' gmo, Gen.ike.DecodeDecrypt P bs (some (GenAbs.repHeader hd)) (some kb) (!role) = .ok (kb', gmo) ∧
        GenAbs.absMsg gmo = some mo) ∧
      mo.payloads = m.payloads ∧
      mo.hdr.ispi = m.hdr.ispi ∧ mo.hdr.rspi = m.hdr.rspi ∧ mo.hdr.major = m.hdr.major ∧
      mo.hdr.minor = m.hdr.minor ∧ mo.hdr.exch = m.hdr.exch ∧ mo.hdr.flags = m.hdr.flags ∧
      mo.hdr.mid = m.hdr.mid := by
  obtain ⟨m', _, hp⟩ := gen_protect_ok P hP ka hka hia role r m r' gm' ka' bs h
  obtain ⟨mo, sb', hd, hph, hu1, hu2, e0, e1, e2, e3, e4, e5, e6, e7⟩ :=
    C01_roundtrip_sim P hP (absSa ka) (absSa kb) hwa hsim role r m hmaj hmin hrt _ r' bs m' hp
  obtain ⟨k1, g1, hd1, ha1⟩ := gen_unprotect_of_model P hP kb hkb hib (!role) none bs _ _ _ hu1
  obtain ⟨k2, g2, hd2, ha2⟩ := gen_unprotect_of_model P hP kb hkb hib (!role) (some hd) bs _ _ _ hu2
  exact ⟨hd, mo, hph, ⟨k1, g1, hd1, ha1⟩, ⟨k2, g2, hd2, ha2⟩, e0, e1, e2, e3, e4, e5, e6, e7⟩

/-- non-vacuity of the round trip: payloads that encode, a source that does not fail, an SK payload that fits the
16-bit length ⇒ the translated `EncodeEncrypt` succeeds -/
theorem C01_gen_encodable (P : Prims) (hP : P.Lawful) (k : Gen.security.IKESAKey) (hk : SaWF k)
    (hi : IntegRegistered k.IntegInfo) (hw : (absSa k).WF P) (role : Bool)
    (r : Rand) (hr : r.failAt = none) (m : Msg) (inner : Bytes)
    (henc : encodeChain m.payloads = .ok inner)
    (hfit : 4 + (16 + (inner.length + (16 - inner.length % 16)) + (absSa k).integInfo.outLen) ≤ 0xFFFF) :
    ∃ r' gm' k' bs, Gen.ike.EncodeEncrypt P r (GenAbs.repMsg m) (some k) role = .ok (r', gm', k', bs) := by
  obtain ⟨sa', r', bs, m', hp⟩ := C01_encodable P hP (absSa k) hw role r hr m inner henc hfit
  obtain ⟨gm', k', hg, _, _⟩ := gen_protect_of_model P hP k hk hi role r m sa' r' bs m' hp
  exact ⟨r', gm', k', bs, hg⟩

/-- with a nil key the translated `EncodeEncrypt` is `IKEMessage.Encode` (the model's `encodePlain`); the random
source is not read -/
theorem C01_gen_nokey_encode (P : Prims) (r : Rand) (m : Msg) (role : Bool) :
    (Gen.ike.EncodeEncrypt P r (GenAbs.repMsg m) none role).map (fun x => (x.2.2.2, GenAbs.absMsg x.2.1)) =
      (encodePlain m).map (fun y => (y.1, some y.2)) :=
  Enc.EncodeEncrypt_nil_key r m role P

theorem C01_gen_nokey_decode (P : Prims) (role : Bool) (h : Option Header) (bs : Bytes) :
    (Gen.ike.DecodeDecrypt P bs (h.map GenAbs.repHeader) none role).map (fun x => GenAbs.absMsg x.2) =
      (match unprotect P none role h bs with
       | (_, _, .ok m) => .ok (some m)
       | (_, _, .err) => .err
       | (_, _, .fault) => .fault) :=
  Dec.DecodeDecrypt_nil_key P role h bs

/-- the SA object that comes back differs from the one passed in only in the write buffers of its two integrity
hash objects -/
theorem C01_gen_sa_frame (P : Prims) (k : Gen.security.IKESAKey) (hk : SaWF k) (role : Bool) (r : Rand)
    (gm : Gen.message.IKEMessage) (r' : Rand) (gm' : Gen.message.IKEMessage) (k' : Gen.security.IKESAKey) (out : Bytes)
    (h : Gen.ike.EncodeEncrypt P r gm (some k) role = .ok (r', gm', k', out)) :
    SaWF k' ∧ k'.EncrInfo = k.EncrInfo ∧ k'.IntegInfo = k.IntegInfo ∧ k'.PrfInfo = k.PrfInfo ∧
    k'.Encr_i = k.Encr_i ∧ k'.Encr_r = k.Encr_r ∧ k'.Integ_i.key = k.Integ_i.key ∧ k'.Integ_r.key = k.Integ_r.key := by
  obtain ⟨w, _, e1, e2, e3, _, _, _, c1, c2, _, _, _, _, _, _, _, _, a1, _, a2, _⟩ :=
    Enc.EncodeEncrypt_frame P k hk role r gm r' gm' k' out h
  exact ⟨w, e1, e2, e3, c1, c2, a1, a2⟩

end Ike
