import IkeProofs.Theorems.C14
import IkeProofs.Lemmas.EapParse
import IkeModel.Spec.Parse

/-! # C14 — the independent strict EAP parser `Spec.parseEap` (`IkeModel/Spec/EapParse.lean`)

It accepts exactly the library's encodings of the packets of `DomEap` (`C14_parse_iff`); the library's decoder
agrees with it there and accepts strictly more (examples at the end); it inverts the independent encoder
`Spec.encodeEapAka` (`C14_parse_spec_aka`, no library function in the statement).  Nothing here is partial. -/

namespace Ike

/-! ## parser ∘ library encoder -/

/-- **C14, the framing clause in its strongest form** ("the encoded packet is well-formed: …"): the
independent strict RFC parser accepts the octets the library wrote and recovers the packet. -/
theorem C14_parse_marshal (e : Eap) (bs : Bytes) (hd : DomEap e) (h : marshalEap e = .ok bs) :
    Spec.parseEap bs = some e :=
  parseEap_complete hd h

/-- the hypotheses are satisfiable: a Response with RAND, a padded RES, a padded network name, KDF
and a checkcode is in the domain, it encodes, and the parser (evaluated by the kernel) returns it -/
example : DomEap ⟨2, 7, .aka ⟨1, 0,
      [⟨1, 5, 0, zeros 16⟩, ⟨3, 3, 40, [1, 2, 3, 4, 5]⟩, ⟨23, 2, 24, [97, 98, 99]⟩, ⟨24, 1, 0, [0, 1]⟩,
       ⟨134, 6, 0, zeros 20⟩]⟩⟩ ∧
    (marshalEap ⟨2, 7, .aka ⟨1, 0,
      [⟨1, 5, 0, zeros 16⟩, ⟨3, 3, 40, [1, 2, 3, 4, 5]⟩, ⟨23, 2, 24, [97, 98, 99]⟩, ⟨24, 1, 0, [0, 1]⟩,
       ⟨134, 6, 0, zeros 20⟩]⟩⟩).map Spec.parseEap =
    .ok (some ⟨2, 7, .aka ⟨1, 0,
      [⟨1, 5, 0, zeros 16⟩, ⟨3, 3, 40, [1, 2, 3, 4, 5]⟩, ⟨23, 2, 24, [97, 98, 99]⟩, ⟨24, 1, 0, [0, 1]⟩,
       ⟨134, 6, 0, zeros 20⟩]⟩⟩) := by decide +kernel

/-- **C14, strictness**: no octet string outside the image of `marshalEap` on `DomEap` is accepted. -/
theorem C14_parse_strict (bs : Bytes) (e : Eap) (h : Spec.parseEap bs = some e) :
    marshalEap e = .ok bs :=
  (parseEap_sound h).2

/-- … and the value returned lies in the domain of the property -/
theorem C14_parse_domain (bs : Bytes) (e : Eap) (h : Spec.parseEap bs = some e) : DomEap e :=
  (parseEap_sound h).1

/-- **C14, exact characterisation** of what the independent parser accepts. -/
theorem C14_parse_iff (bs : Bytes) (e : Eap) :
    Spec.parseEap bs = some e ↔ DomEap e ∧ marshalEap e = .ok bs :=
  ⟨parseEap_sound, fun h => parseEap_complete h.1 h.2⟩

/-- each accepted packet has one wire form, the canonical one -/
theorem C14_parse_injective (b1 b2 : Bytes) (e : Eap)
    (h1 : Spec.parseEap b1 = some e) (h2 : Spec.parseEap b2 = some e) : b1 = b2 := by
  have m1 := C14_parse_strict b1 e h1
  have m2 := C14_parse_strict b2 e h2
  rw [m1] at m2
  simpa using m2

/-- the encoder is injective on the domain (it has left inverses: the decoder, and the parser) -/
theorem C14_marshal_injective (e1 e2 : Eap) (bs : Bytes) (d1 : DomEap e1) (d2 : DomEap e2)
    (m1 : marshalEap e1 = .ok bs) (m2 : marshalEap e2 = .ok bs) : e1 = e2 :=
  marshalEap_inj d1 d2 m1 m2

/-- **C14, "the length field equals the packet size"**, read off the parser. -/
theorem C14_parse_length (bs : Bytes) (e : Eap) (h : Spec.parseEap bs = some e) :
    byteAt bs 0 = e.code ∧ byteAt bs 1 = e.ident ∧
    (byteAt bs 2).toNat * 256 + (byteAt bs 3).toNat = bs.length ∧ 4 ≤ bs.length ∧ bs.length ≤ 65535 := by
  have hd := C14_parse_domain bs e h
  obtain ⟨h0, h1, h2, h3, _⟩ := C14_wf_length e bs hd (C14_parse_strict bs e h)
  have := hd.2.2
  exact ⟨h0, h1, h2, by omega, by omega⟩

/-! ## parser and library decoder -/

/-- **C14, round trip seen from the wire**: every canonical packet is decoded by the library to the
very same value. -/
theorem C14_parser_decoder_agree (bs : Bytes) (e : Eap) (h : Spec.parseEap bs = some e) :
    unmarshalEap bs = .ok e :=
  C14_roundtrip e bs (C14_parse_domain bs e h) (C14_parse_strict bs e h)

/-- on the encodings of the domain, decoder and parser return the same packet -/
theorem C14_decoder_parser_agree (e : Eap) (bs : Bytes) (hd : DomEap e) (h : marshalEap e = .ok bs) :
    unmarshalEap bs = .ok e ∧ Spec.parseEap bs = some e :=
  ⟨C14_roundtrip e bs hd h, C14_parse_marshal e bs hd h⟩

/-- attribute values through the parser: `GetAttr(t)` on the parsed value and on the library-decoded
value agree (they are the same value) -/
theorem C14_parse_getattr (bs : Bytes) (code ident : UInt8) (a : Aka)
    (h : Spec.parseEap bs = some ⟨code, ident, .aka a⟩) :
    AkaBuilt a ∧ ∃ d, unmarshalEap bs = .ok ⟨code, ident, .aka d⟩ ∧ ∀ t, akaGetAttr d t = akaGetAttr a t :=
  ⟨(C14_parse_domain bs _ h).2.1, a, C14_parser_decoder_agree bs _ h, fun _ => rfl⟩

/-! ## parser ∘ independent encoder (no library function in the statement) -/

/-- **C14, specification level**: parser ∘ encoder on every EAP-AKA' packet the independent encoder can
express (code other than Success / Failure, types strictly ascending, value sizes the setter accepts);
per attribute the parser returns type, word count, actual-length field and the unpadded value. -/
theorem C14_parse_spec_aka (code ident st : UInt8) (attrs : List (UInt8 × Bytes))
    (hc : code ≠ 3 ∧ code ≠ 4)
    (hs : attrs.Pairwise (fun p q => p.1 < q.1))
    (hv : ∀ p ∈ attrs, AkaValOk p.1 p.2) :
    Spec.parseEap (Spec.encodeEapAka code ident st attrs) =
      some ⟨code, ident, .aka ⟨st, 0, attrs.map (fun p => Spec.akaAttrOf p.1 p.2)⟩⟩ := by
  obtain ⟨hb, hmap⟩ := akaAttrOf_list st attrs hs hv
  have hm := C14_wf_aka_is_spec code ident _ hb
  dsimp only at hm
  rw [hmap] at hm
  exact C14_parse_marshal _ _ (domEap_aka code ident _ hc hb) hm

/-- the side conditions are satisfiable (RAND, 5-octet RES, 3-octet name, KDF, 20-octet checkcode) -/
example : ((2 : UInt8) ≠ 3 ∧ (2 : UInt8) ≠ 4) ∧
    [((1 : UInt8), zeros 16), (3, [1, 2, 3, 4, 5]), (23, [97, 98, 99]), (24, [0, 1]), (134, zeros 20)].Pairwise
      (fun p q => p.1 < q.1) ∧
    ∀ p ∈ [((1 : UInt8), zeros 16), (3, [1, 2, 3, 4, 5]), (23, [97, 98, 99]), (24, [0, 1]), (134, zeros 20)],
      AkaValOk p.1 p.2 := by decide +kernel

/-- **converse**: every EAP-AKA' packet the parser accepts is an output of the independent encoder -/
theorem C14_parse_aka_is_spec (bs : Bytes) (code ident : UInt8) (a : Aka)
    (h : Spec.parseEap bs = some ⟨code, ident, .aka a⟩) :
    bs = Spec.encodeEapAka code ident a.subtype (a.attrs.map (fun x => (x.atype, x.value))) := by
  have hb : AkaBuilt a := (C14_parse_domain bs _ h).2.1
  have h1 := C14_parse_strict bs _ h
  rw [C14_wf_aka_is_spec code ident a hb] at h1
  simpa using h1.symm

example : Spec.parseEap (Spec.encodeEapAka 2 7 1 [(3, [1, 2, 3, 4, 5]), (23, [97, 98, 99])])
    = some ⟨2, 7, .aka ⟨1, 0, [⟨3, 3, 40, [1, 2, 3, 4, 5]⟩, ⟨23, 2, 24, [97, 98, 99]⟩]⟩⟩ := by decide +kernel

/-! ## the parser without the liberties -/

/-- `Spec.parseEapRfc` (codes 1..4 only, a Request / Response carries a Type, checkcode of 0, 20 or
32 octets) accepts exactly the packets `Spec.parseEap` accepts whose value has the RFC shape; hence
all theorems above hold for it. -/
theorem C14_parse_rfc_iff (bs : Bytes) (e : Eap) :
    Spec.parseEapRfc bs = some e ↔ Spec.parseEap bs = some e ∧ Spec.eapRfcShape e = true := by
  unfold Spec.parseEapRfc
  cases hp : Spec.parseEap bs with
  | none => simp
  | some x =>
    dsimp only
    by_cases hs : Spec.eapRfcShape x = true
    · rw [if_pos hs]
      constructor
      · intro h; simp only [Option.some.injEq] at h; subst h; exact ⟨rfl, hs⟩
      · intro h; exact h.1
    · rw [if_neg hs]
      constructor
      · intro h; simp at h
      · intro h
        have : x = e := by simpa using h.1
        rw [this] at hs
        exact absurd h.2 hs

example : Spec.parseEapRfc [2, 7, 0, 20, 50, 1, 0, 0, 3, 3, 0, 40, 1, 2, 3, 4, 5, 0, 0, 0]
      = some ⟨2, 7, .aka ⟨1, 0, [⟨3, 3, 40, [1, 2, 3, 4, 5]⟩]⟩⟩ ∧
    -- the liberties: code 9, a Request without a Type, a 4-octet checkcode
    Spec.parseEap [9, 7, 0, 6, 1, 0x61] = some ⟨9, 7, .identity [0x61]⟩ ∧ Spec.parseEapRfc [9, 7, 0, 6, 1, 0x61] = none ∧
    Spec.parseEap [1, 7, 0, 4] = some ⟨1, 7, .none⟩ ∧ Spec.parseEapRfc [1, 7, 0, 4] = none ∧
    Spec.parseEap [1, 7, 0, 16, 50, 1, 0, 0, 134, 2, 0, 0, 1, 2, 3, 4]
      = some ⟨1, 7, .aka ⟨1, 0, [⟨134, 2, 0, [1, 2, 3, 4]⟩]⟩⟩ ∧
    Spec.parseEapRfc [1, 7, 0, 16, 50, 1, 0, 0, 134, 2, 0, 0, 1, 2, 3, 4] = none := by decide +kernel

/-! ## use inside the RFC 7296 parser (C05): replacing the trusted step of `Spec.parseEAP` -/

/-- `Spec.parseEAP` (`IkeModel/Spec/Parse.lean`) reads the EAP packet of an EAP payload with the
model's `unmarshalEap` and keeps it when `marshalEap` re-creates the octets.  The independent
parser refines it: whatever `Spec.parseEap` accepts, `Spec.parseEAP` accepts with the same value
(the converse fails only outside the domain, e.g. an unknown attribute type, which the library
decodes and re-encodes unchanged). -/
theorem C14_parse_refines_trusted (bs : Bytes) (e : Eap) (h : Spec.parseEap bs = some e) :
    Spec.parseEAP bs = some (.eap e) :=
  eapStep_refines bs (.eap e) (by rw [Spec.parseEapPayload, h]; rfl)

example : Spec.parseEap [1, 7, 0, 12, 50, 1, 0, 0, 7, 1, 0, 0] = none ∧
    Spec.parseEAP [1, 7, 0, 12, 50, 1, 0, 0, 7, 1, 0, 0] = some (.eap ⟨1, 7, .aka ⟨1, 0, [⟨7, 1, 0, []⟩]⟩⟩) := by
  decide +kernel

/-- the two facts `IkeProofs/Lemmas/Parse.lean` uses about `Spec.parseEAP` (`parseEAP_encode`,
`encodeEAP_parse`) hold for the library-free `Spec.parseEapPayload`: it reads the encoding of every
packet of the domain back, and whatever it accepts the encoder writes again octet for octet. -/
theorem C14_parse_payload (bs : Bytes) :
    (∀ e, DomEap e → marshalEap e = .ok bs → Spec.parseEapPayload bs = some (.eap e)) ∧
    (∀ p, Spec.parseEapPayload bs = some p → ∃ e, p = .eap e ∧ DomEap e ∧ marshalEap e = .ok bs) := by
  unfold Spec.parseEapPayload
  constructor
  · intro e hd h
    rw [C14_parse_marshal e bs hd h]; rfl
  · intro p h
    obtain ⟨e, hp, rfl⟩ := parseEapPayload_some h
    exact ⟨e, rfl, parseEap_sound hp⟩

example : Spec.parseEapPayload [2, 2, 0, 6, 3, 50] = some (.eap ⟨2, 2, .nak [50]⟩) := by decide +kernel

/-! ## concrete packets of every method (evaluated by the kernel) -/

example : Spec.parseEap [1, 2, 0, 6, 1, 0x61] = some ⟨1, 2, .identity [0x61]⟩ := by decide +kernel
example : Spec.parseEap [3, 9, 0, 4] = some ⟨3, 9, .none⟩ := by decide +kernel
example : DomEap ⟨2, 3, .expanded 10415 3 [2, 0, 0]⟩ ∧ DomEap ⟨1, 2, .nak [50]⟩ := by decide +kernel
example : Spec.parseEap [2, 3, 0, 15, 254, 0, 0x28, 0xaf, 0, 0, 0, 3, 2, 0, 0]
    = some ⟨2, 3, .expanded 10415 3 [2, 0, 0]⟩ := by decide +kernel
example : Spec.parseEap [2, 7, 0, 20, 50, 1, 0, 0, 3, 3, 0, 40, 1, 2, 3, 4, 5, 0, 0, 0]
    = some ⟨2, 7, .aka ⟨1, 0, [⟨3, 3, 40, [1, 2, 3, 4, 5]⟩]⟩⟩ := by decide +kernel
example : DomEap ⟨1, 2, .notification [0x61, 0x62]⟩ := by decide +kernel
example : Spec.parseEap [1, 7, 0, 12, 50, 1, 0, 0, 24, 1, 0, 1] = some ⟨1, 7, .aka ⟨1, 0, [⟨24, 1, 0, [0, 1]⟩]⟩⟩ := by
  decide +kernel
example : Spec.parseEap [1, 1, 0, 10, 1, 0x61, 0x40, 0x62, 0x2e, 0x63]
    = some ⟨1, 1, .identity [0x61, 0x40, 0x62, 0x2e, 0x63]⟩ := by decide +kernel
example : Spec.parseEap [1, 2, 0, 7, 2, 0x68, 0x69] = some ⟨1, 2, .notification [0x68, 0x69]⟩ := by decide +kernel
example : Spec.parseEap [2, 2, 0, 6, 3, 50] = some ⟨2, 2, .nak [50]⟩ := by decide +kernel
example : Spec.parseEap [1, 3, 0, 12, 254, 0, 0x28, 0xaf, 0, 0, 0, 3] = some ⟨1, 3, .expanded 10415 3 []⟩ := by
  decide +kernel
example : Spec.parseEap [3, 4, 0, 4] = some ⟨3, 4, .none⟩ ∧ Spec.parseEap [4, 5, 0, 4] = some ⟨4, 5, .none⟩ := by
  decide +kernel
/-- EAP-AKA' Challenge: RAND, AUTN, KDF_INPUT "abc" (24 bits, one octet of padding), KDF 1, MAC -/
example : Spec.parseEap ([1, 6, 0, 80, 50, 1, 0, 0] ++ [1, 5, 0, 0] ++ zeros 16 ++ [2, 5, 0, 0] ++ zeros 16 ++
      [11, 5, 0, 0] ++ zeros 16 ++ [23, 2, 0, 24, 97, 98, 99, 0] ++ [24, 1, 0, 1])
    = some ⟨1, 6, .aka ⟨1, 0, [⟨1, 5, 0, zeros 16⟩, ⟨2, 5, 0, zeros 16⟩, ⟨11, 5, 0, zeros 16⟩,
        ⟨23, 2, 24, [97, 98, 99]⟩, ⟨24, 1, 0, [0, 1]⟩]⟩⟩ := by decide +kernel
/-- a 32-octet checkcode (RFC 5448) and an empty one -/
example : Spec.parseEap ([2, 6, 0, 44, 50, 1, 0, 0, 134, 9, 0, 0] ++ zeros 32)
      = some ⟨2, 6, .aka ⟨1, 0, [⟨134, 9, 0, zeros 32⟩]⟩⟩ ∧
    Spec.parseEap [2, 6, 0, 12, 50, 1, 0, 0, 134, 1, 0, 0] = some ⟨2, 6, .aka ⟨1, 0, [⟨134, 1, 0, []⟩]⟩⟩ := by
  decide +kernel

/-! ## strictness, concretely: what the parser refuses — and the library's decoder accepts -/

/-- RFC 3748 §4: wrong Length (too small, too large), fewer than 4 octets, Success with data,
Identity / Nak without data, unknown method type, Expanded shorter than vendor id + vendor type -/
example :
    Spec.parseEap [1, 2, 0, 5, 1, 0x61] = none ∧ Spec.parseEap [1, 2, 0, 7, 1, 0x61] = none ∧
    Spec.parseEap [1, 2, 0] = none ∧ Spec.parseEap [] = none ∧
    Spec.parseEap [3, 2, 0, 6, 1, 0x61] = none ∧ Spec.parseEap [4, 2, 0, 6, 1, 0x61] = none ∧
    Spec.parseEap [1, 2, 0, 5, 1] = none ∧ Spec.parseEap [2, 2, 0, 5, 3] = none ∧
    Spec.parseEap [1, 2, 0, 6, 4, 0x61] = none ∧
    Spec.parseEap [1, 3, 0, 11, 254, 0, 0x28, 0xaf, 0, 0, 0] = none := by decide +kernel

/-- RFC 4187 / 5448: non-zero padding, non-zero header Reserved, non-zero attribute Reserved,
descending order, duplicate attribute, bit length not a multiple of 8, RES shorter than 32 bits,
word count larger than needed, attribute Length 0, attribute running past the packet, a lone
trailing octet, AT_KDF of two words, unknown attribute type -/
example :
    Spec.parseEap [2, 7, 0, 20, 50, 1, 0, 0, 3, 3, 0, 40, 1, 2, 3, 4, 5, 0, 0, 9] = none ∧
    Spec.parseEap [2, 7, 0, 20, 50, 1, 0, 1, 3, 3, 0, 40, 1, 2, 3, 4, 5, 0, 0, 0] = none ∧
    Spec.parseEap ([1, 7, 0, 28, 50, 1, 0, 0, 1, 5, 0, 1] ++ zeros 16) = none ∧
    Spec.parseEap [1, 7, 0, 20, 50, 1, 0, 0, 24, 1, 0, 1, 23, 2, 0, 24, 97, 98, 99, 0] = none ∧
    Spec.parseEap [1, 7, 0, 16, 50, 1, 0, 0, 24, 1, 0, 1, 24, 1, 0, 2] = none ∧
    Spec.parseEap [2, 7, 0, 20, 50, 1, 0, 0, 3, 3, 0, 41, 1, 2, 3, 4, 5, 0, 0, 0] = none ∧
    Spec.parseEap [2, 7, 0, 16, 50, 1, 0, 0, 3, 2, 0, 24, 1, 2, 3, 0] = none ∧
    Spec.parseEap [2, 7, 0, 20, 50, 1, 0, 0, 23, 3, 0, 24, 97, 98, 99, 0, 0, 0, 0, 0] = none ∧
    Spec.parseEap [1, 7, 0, 12, 50, 1, 0, 0, 24, 0, 0, 1] = none ∧
    Spec.parseEap [1, 7, 0, 12, 50, 1, 0, 0, 24, 2, 0, 1] = none ∧
    Spec.parseEap [1, 7, 0, 13, 50, 1, 0, 0, 24, 1, 0, 1, 77] = none ∧
    Spec.parseEap [1, 7, 0, 16, 50, 1, 0, 0, 24, 2, 1, 2, 3, 4, 5, 6] = none ∧
    Spec.parseEap [1, 7, 0, 12, 50, 1, 0, 0, 7, 1, 0, 0] = none := by decide +kernel

/-- **the library's decoder is not strict**: each of these non-canonical packets is refused by the
parser above and accepted by `unmarshalEap` — non-zero padding is dropped, a non-zero attribute
Reserved is dropped, descending order is sorted, of a duplicate the last wins, a lone trailing
octet is ignored, Identity without data, Success with data, an AT_KDF of two words (6-octet value).
None of them is in the image of the encoder on the domain, so the round-trip clause of C14 is not
affected; the values returned for the first five re-encode to different octets (the decoder is not
injective). -/
example :
    unmarshalEap [2, 7, 0, 20, 50, 1, 0, 0, 3, 3, 0, 40, 1, 2, 3, 4, 5, 0, 0, 9]
      = .ok ⟨2, 7, .aka ⟨1, 0, [⟨3, 3, 40, [1, 2, 3, 4, 5]⟩]⟩⟩ ∧
    unmarshalEap ([1, 7, 0, 28, 50, 1, 0, 0, 1, 5, 0, 1] ++ zeros 16) = .ok ⟨1, 7, .aka ⟨1, 0, [⟨1, 5, 0, zeros 16⟩]⟩⟩ ∧
    unmarshalEap [1, 7, 0, 20, 50, 1, 0, 0, 24, 1, 0, 1, 23, 2, 0, 24, 97, 98, 99, 0]
      = .ok ⟨1, 7, .aka ⟨1, 0, [⟨23, 2, 24, [97, 98, 99]⟩, ⟨24, 1, 0, [0, 1]⟩]⟩⟩ ∧
    unmarshalEap [1, 7, 0, 16, 50, 1, 0, 0, 24, 1, 0, 1, 24, 1, 0, 2] = .ok ⟨1, 7, .aka ⟨1, 0, [⟨24, 1, 0, [0, 2]⟩]⟩⟩ ∧
    unmarshalEap [1, 7, 0, 13, 50, 1, 0, 0, 24, 1, 0, 1, 77] = .ok ⟨1, 7, .aka ⟨1, 0, [⟨24, 1, 0, [0, 1]⟩]⟩⟩ ∧
    unmarshalEap [1, 2, 0, 5, 1] = .ok ⟨1, 2, .identity []⟩ ∧
    unmarshalEap [3, 2, 0, 6, 1, 0x61] = .ok ⟨3, 2, .identity [0x61]⟩ ∧
    unmarshalEap [1, 7, 0, 16, 50, 1, 0, 0, 24, 2, 1, 2, 3, 4, 5, 6]
      = .ok ⟨1, 7, .aka ⟨1, 0, [⟨24, 2, 0, [1, 2, 3, 4, 5, 6]⟩]⟩⟩ := by decide +kernel

/-- AT_KDF with Length octet 0: the decoder computes the value size `4·0 − 2` in 8-bit arithmetic
(= 254) and takes the next 254 octets as the KDF value; the strict parser refuses Length 0. -/
example : unmarshalEap ([1, 7, 1, 8, 50, 1, 0, 0, 24, 0] ++ zeros 254) = .ok ⟨1, 7, .aka ⟨1, 0, [⟨24, 0, 0, zeros 254⟩]⟩⟩ ∧
    Spec.parseEap ([1, 7, 1, 8, 50, 1, 0, 0, 24, 0] ++ zeros 254) = none := by decide +kernel

end Ike
