import IkeProofs.RefineSa.Select
import IkeProofs.RefineSa.RandNum
import IkeProofs.RefineReg.Registries
import IkeProofs.RefineReg.Dh
import IkeProofs.Theorems.C11

/-! C11 over the translated packages `encr`, `integ`, `prf`, `dh`, `esn` and the selection functions of `security`.
The registries are what the translated `init()` functions build (`encrG`, `integG`, `prfG`, `dhG`, `esnG`).  The
`_is_model` theorems and `C11_gen_registered` restate theorems of `RefineReg/Registries.lean`, `RefineReg/Dh.lean` and
`RefineSa/Select.lean` under the name the check looks for. -/

namespace Ike
open Ike.RefineReg Ike.Registry

/-- every decode-from-the-wire function of the translated registries is the model's, for EVERY transform -/
theorem C11_gen_decode_is_model (t : Transform) :
    (Gen.encr.DecodeTransform encrG t).map absEncr = .ok (decodeEncr t) ∧
    (Gen.encr.DecodeTransformChildSA encrG t).map absEncrK = .ok (decodeEncrChild t) ∧
    (Gen.integ.DecodeTransform integG t).map absInteg = .ok (decodeInteg t) ∧
    (Gen.integ.DecodeTransformChildSA integG t).map absIntegK = .ok (decodeIntegChild t) ∧
    (Gen.prf.DecodeTransform prfG t).map absPrf = .ok (decodePrf t) ∧
    (Gen.dh.DecodeTransform dhG t).map absDh = .ok (decodeDh t) ∧
    (Gen.esn.DecodeTransform esnG t).map absEsn = decodeEsn t :=
  ⟨encr_DecodeTransform_refines t, encr_DecodeTransformChildSA_refines t, integ_DecodeTransform_refines t,
   integ_DecodeTransformChildSA_refines t, prf_DecodeTransform_refines t, dh_DecodeTransform_refines t,
   esn_DecodeTransform_refines t⟩

/-- the translated `init()` functions register exactly the advertised algorithms -/
theorem C11_gen_registered :
    (Go.mapEntries encrG.encrTypes).map (fun p => absEncr p.2) = advertisedEncr.map some ∧
    (Go.mapEntries encrG.encrKTypes).map (fun p => absEncrK p.2) = advertisedEncrChild.map some ∧
    (Go.mapEntries integG.integTypes).map (fun p => absInteg p.2) = advertisedInteg.map some ∧
    (Go.mapEntries integG.integKTypes).map (fun p => absIntegK p.2) = advertisedIntegChild.map some ∧
    (Go.mapEntries prfG.prfTypes).map (fun p => absPrf p.2) = advertisedPrf.map some ∧
    (Go.mapEntries dhG.dhTypes).map (fun e => absDh e.2) = advertisedDh.map some ∧
    (Go.mapEntries esnG.esnTypes).map (fun p => absEsn p.2) = advertisedEsn :=
  ⟨encr_types_are_table, encr_ktypes_are_table, integ_types_are_table, integ_ktypes_are_table, prf_types_are_table,
   dh_types_advertised, esn_types_are_table⟩

/-- soundness of the translated encryption decoder: whatever it accepts is an advertised algorithm with the
transform's identifier and key length -/
theorem C11_gen_sound_encr (t : Transform) (x : Gen.encr.ENCRType) (a : EncrInfo)
    (h : Gen.encr.DecodeTransform encrG t = .ok x) (ha : absEncr x = some a) :
    a.tid = t.tid ∧ t.atype = 14 ∧ a.keyLen * 8 = t.aval.toNat ∧ a ∈ advertisedEncr := by
  have hr := encr_DecodeTransform_refines t
  rw [h] at hr
  simp only [Res.map, ha, Res.ok.injEq] at hr
  obtain ⟨h1, h2, h3, h4, _⟩ := C11_sound_encr t a hr.symm
  exact ⟨h1, h2, h3, h4⟩

open Ike.RefineSa in
/-- whatever `NewIKESAKey` returns without an error holds exactly the descriptors its four FIRST transforms denote
(`decDh` … `decPrf`: the closed forms of the translated `DecodeTransform`s on the initialised registries), all four
registered ones; the object is well-formed for `ike.go` -/
theorem C11_gen_newIkeSa_descriptors (P : Prims) (hP : P.Lawful) (r r' : Rand) (p : Proposal)
    (td te ti tp : Transform) (hd : p.dh.head? = some td) (he : p.encr.head? = some te)
    (hi : p.integ.head? = some ti) (hp : p.prf.head? = some tp)
    (ke nonce : Bytes) (si sr : UInt64) (k' : Gen.security.IKESAKey) (pub : Bytes)
    (h : Gen.security.NewIKESAKey P secG RefineReg.dhG RefineReg.encrG RefineReg.integG RefineReg.prfG r (some p)
        ke nonce si sr = .ok (r', k', pub)) :
    k'.DhInfo = decDh td ∧ k'.EncrInfo = decEncr te ∧ k'.IntegInfo = decInteg ti ∧ k'.PrfInfo = decPrf tp ∧
    SaRegistered k' ∧ GenAbsSa.SaWF k' := by
  obtain ⟨_, _, hwf, hreg, h1, h2, h3, h4, _⟩ :=
    NewIKESAKey_ok_wf P hP r r' p td te ti tp hd he hi hp ke nonce si sr k' pub h
  exact ⟨h1, h2, h3, h4, hreg, hwf⟩

open Ike.RefineSa in
/-- an unsupported transform in any of the four first positions never yields an SA object: DH, encryption and PRF
are refused at once; an unsupported INTEGRITY transform is not caught by `NewIKESAKey`'s own test (security.go tests
`EncrInfo` a second time) but by `GenerateKeyForIKESA` — after the exponent was drawn — with an error all the same -/
theorem C11_gen_newIkeSa_unsupported (P : Prims) (r : Rand) (p : Proposal)
    (td te ti tp : Transform) (hd : p.dh.head? = some td) (he : p.encr.head? = some te)
    (hi : p.integ.head? = some ti) (hp : p.prf.head? = some tp)
    (h : decDh td = .nil_ ∨ decEncr te = .nil_ ∨ decInteg ti = .nil_ ∨ decPrf tp = .nil_)
    (ke nonce : Bytes) (si sr : UInt64) :
    ∀ x, Gen.security.NewIKESAKey P secG RefineReg.dhG RefineReg.encrG RefineReg.integG RefineReg.prfG r (some p)
        ke nonce si sr ≠ .ok x := by
  intro x hx
  by_cases h3 : decDh td = .nil_ ∨ decEncr te = .nil_ ∨ decPrf tp = .nil_
  · rw [NewIKESAKey_unsupported P r p td te ti tp hd he hi hp h3 ke nonce si sr] at hx; cases hx
  · have hdn : decDh td ≠ .nil_ := fun e => h3 (Or.inl e)
    have hen : decEncr te ≠ .nil_ := fun e => h3 (Or.inr (Or.inl e))
    have hpn : decPrf tp ≠ .nil_ := fun e => h3 (Or.inr (Or.inr e))
    have hin : decInteg ti = .nil_ := by
      rcases h with h | h | h | h
      · exact absurd h hdn
      · exact absurd h hen
      · exact h
      · exact absurd h hpn
    rcases NewIKESAKey_unsupported_integ_not_ok P r p td te ti tp hd he hi hp hdn hen hpn hin ke nonce si sr with
      ⟨e, _⟩ | ⟨e, _⟩ <;> (rw [e] at hx; cases hx)

open Ike.RefineSa in
/-- the translated `NewChildSAKeyByProposal` IS the model's `selectChild`, for every proposal (and nil) -/
theorem C11_gen_selectChild_is_model (po : Option Proposal) :
    (Gen.security.NewChildSAKeyByProposal RefineReg.dhG RefineReg.encrG RefineReg.esnG RefineReg.integG po).map absChildSuite =
      (Registry.selectChild po).map some :=
  NewChildSAKeyByProposal_refines po

open Ike.RefineSa in
/-- the translated `IKESAKey.ToProposal` IS the model's `ikeToProposal` on objects with registered descriptors -/
theorem C11_gen_ikeToProposal_is_model (k : Gen.security.IKESAKey) (hk : SaRegistered k) (hdh : DhRegistered k.DhInfo) :
    Gen.security.IKESAKey.ToProposal k =
      Registry.ikeToProposal ⟨absDhInfo k.DhInfo, GenAbsSa.absEncrInfo k.EncrInfo, GenAbsSa.absIntegInfo k.IntegInfo,
        GenAbsSa.absPrfInfo k.PrfInfo⟩ :=
  IKESAKey_ToProposal_refines k hk hdh

open Ike.RefineSa in
/-- the translated `ChildSAKey.ToProposal` IS the model's `childToProposal` -/
theorem C11_gen_childToProposal_is_model (c : Gen.security.ChildSAKey) (s : Registry.ChildSuite)
    (h : absChildSuite c = some s) (hl : EncrKNonneg c.EncrKInfo) :
    Gen.security.ChildSAKey.ToProposal c = Registry.childToProposal s :=
  ChildSAKey_ToProposal_refines c s h hl

end Ike
