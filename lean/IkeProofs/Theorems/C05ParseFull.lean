import IkeProofs.Theorems.C05Parse
import IkeProofs.Theorems.C14Parse
import IkeProofs.Lemmas.ParseFull

/-! C05, parser side, without a trusted step; the theorems about `Spec.parseFull` carry `_full` in
their names.  `Spec.parse` reads the EAP packet of an EAP payload through the library model's
`unmarshalEap` / `marshalEap` (the trusted step `Spec.parseEAP`); `Spec.parseFull`
(IkeModel/Spec/ParseFull.lean) puts the independent strict EAP parser `Spec.parseEapPayload` in that
place, so its import closure holds no definition of the model of the library.  It accepts a subset
of what `Spec.parse` accepts, with the same result; the difference is exactly the datagrams with an
EAP packet outside the domain `DomEap` of C14. -/

namespace Ike
open Spec ParseFullLemmas

/-- **the two parsers are one definition at two EAP steps**: the trusted `Spec.parseEAP` (library
model) and the independent `Spec.parseEapPayload`.  The first equation is a theorem because
IkeModel/Spec/ParseFull.lean repeats, and does not import, the EAP-free definitions of
IkeModel/Spec/Parse.lean; the second holds by definition. -/
theorem C05_parse_is_parametrised :
    Spec.parse = Spec.Full.parseWith Spec.parseEAP ∧ Spec.parseFull = Spec.Full.parseWith Spec.parseEapPayload :=
  ⟨parse_eq_parseWith, rfl⟩

/-- **C05, "an independently written parser recovers exactly the fields that were encoded"**, with
the parser that calls no function of the library model — EAP payloads included, down to every
EAP-AKA' attribute -/
theorem C05_full_parser_recovers (m : Msg) (hd : m.Dom) (bs : Bytes) (h' : Header)
    (h : encodeMsg m = .ok (bs, h')) : Spec.parseFull bs = some ⟨h', m.payloads⟩ :=
  parseFull_of_parse bs _ (C05_independent_parser_recovers m hd bs h' h)
    (fun e he => hd.2.2 (.eap e) he)

/-- the same against the independent encoder -/
theorem C05_full_parse_spec_encode (m : Msg) (hd : m.Dom) (bs : Bytes) (h : Spec.encode [] m = .ok bs) :
    Spec.parseFull bs =
      some ⟨{ m.hdr with next := firstPayloadType m.payloads, payloadBytes := bs.drop 28 }, m.payloads⟩ :=
  parseFull_of_parse bs _ (C05_parse_spec_encode m hd bs h) (fun e he => hd.2.2 (.eap e) he)

/-- **C05, refinement**: so every theorem about the datagrams `Spec.parse` accepts holds of those
`Spec.parseFull` accepts -/
theorem C05_full_refines (bs : Bytes) (m : Msg) (h : Spec.parseFull bs = some m) : Spec.parse bs = some m :=
  parse_of_parseFull bs m h

/-- **C05, the fully independent parser is strict**, in the IKE framing (`C05_parse_strict`) and
inside EAP packets (`C14_parse_strict`: zero padding, ascending attributes, exact lengths, …) -/
theorem C05_full_parse_strict (bs : Bytes) (m : Msg) (h : Spec.parseFull bs = some m) : Spec.encode [] m = .ok bs :=
  C05_parse_strict bs m (parse_of_parseFull bs m h)

theorem C05_full_parse_injective (bs bs' : Bytes) (m : Msg) (h : Spec.parseFull bs = some m)
    (h' : Spec.parseFull bs' = some m) : bs = bs' :=
  C05_parse_injective bs bs' m (parse_of_parseFull bs m h) (parse_of_parseFull bs' m h')

/-- every EAP packet the fully independent parser returns lies in `DomEap`: Success / Failure without
data, Identity / Notification / Nak with data, EAP-AKA' as the setter builds it -/
theorem C05_full_eap_in_domain (bs : Bytes) (m : Msg) (h : Spec.parseFull bs = some m) (e : Eap)
    (he : .eap e ∈ m.payloads) : DomEap e :=
  parseFull_eap_dom bs m h e he

/-- **C05, exact relation of the two parsers** -/
theorem C05_full_iff (bs : Bytes) (m : Msg) :
    Spec.parseFull bs = some m ↔ Spec.parse bs = some m ∧ ∀ e, .eap e ∈ m.payloads → DomEap e :=
  ⟨fun h => ⟨parse_of_parseFull bs m h, parseFull_eap_dom bs m h⟩, fun h => parseFull_of_parse bs m h.1 h.2⟩

/-- **C05, the difference of the two parsers**: a packet outside `DomEap` is one that the library
decodes and re-encodes to the same octets although no sequence of API calls builds it (an unknown
attribute type, a non-zero Reserved word after the Subtype, AT_KDF of two words, an AT_RES whose
bit length is not a multiple of 8 or is below 32, Success / Failure with method data; examples
below).  None is the encoding of a message of the encodable domain. -/
theorem C05_full_difference (bs : Bytes) (m : Msg) (h : Spec.parse bs = some m) :
    Spec.parseFull bs = none ↔ ∃ e, .eap e ∈ m.payloads ∧ ¬ DomEap e := by
  constructor
  · intro hn
    refine Classical.byContradiction fun hc => ?_
    have hall : ∀ e, .eap e ∈ m.payloads → DomEap e :=
      fun e he => Classical.byContradiction fun hd => hc ⟨e, he, hd⟩
    cases (parseFull_of_parse bs m h hall).symm.trans hn
  · rintro ⟨e, he, hd⟩
    cases hf : Spec.parseFull bs with
    | none => rfl
    | some m' =>
      cases (parse_of_parseFull bs m' hf).symm.trans h
      exact absurd (parseFull_eap_dom bs m hf e he) hd

theorem C05_full_agree_on_domain (bs : Bytes) (m : Msg) (hd : m.Dom) :
    Spec.parseFull bs = some m ↔ Spec.parse bs = some m :=
  ⟨parse_of_parseFull bs m, fun h => parseFull_of_parse bs m h (fun e he => hd.2.2 (.eap e) he)⟩

/-- **the library's decoder agrees with the fully independent parser** -/
theorem C05_full_parser_decoder_agree (bs : Bytes) (m : Msg) (hd : m.Dom) (h : Spec.parseFull bs = some m) :
    ∃ m', decodeMsg bs = .ok m' ∧ m'.payloads = m.payloads ∧
      m'.hdr.ispi = m.hdr.ispi ∧ m'.hdr.rspi = m.hdr.rspi ∧ m'.hdr.major = m.hdr.major ∧
      m'.hdr.minor = m.hdr.minor ∧ m'.hdr.exch = m.hdr.exch ∧ m'.hdr.flags = m.hdr.flags ∧
      m'.hdr.mid = m.hdr.mid :=
  C05_parser_decoder_agree bs m hd (parse_of_parseFull bs m h)

theorem C05_full_parse_accepts_wellformed (bs : Bytes) (m : Msg) (h : Spec.parseFull bs = some m) :
    28 ≤ bs.length ∧
    (byteAt bs 24).toNat * 16777216 + (byteAt bs 25).toNat * 65536 + (byteAt bs 26).toNat * 256 +
      (byteAt bs 27).toNat = bs.length ∧
    byteAt bs 16 = firstPayloadType m.payloads ∧
    ∃ l, chainView [] m.payloads = .ok l ∧
      walkChain (bs.drop 28).length (firstPayloadType m.payloads) (bs.drop 28) = some l ∧
      ∀ x ∈ l, x.2.1 = 0 :=
  C05_parse_accepts_wellformed bs m (parse_of_parseFull bs m h)

/-- `C05_full_parser_recovers` on the sample message of C05Parse.lean (ten payload kinds, one of them EAP) -/
example : (match encodeMsg c05pSample with
    | .ok (bs, h') => decide (Spec.parseFull bs = some ⟨h', c05pSample.payloads⟩)
    | _ => false) = true := by decide +kernel

/-- … and applied to the independent encoder's datagram -/
example : (match Spec.encode [] c05pSample with
    | .ok bs => decide (Spec.parseFull bs =
        some ⟨{ c05pSample.hdr with next := 33, payloadBytes := bs.drop 28 }, c05pSample.payloads⟩)
    | _ => false) = true := by decide +kernel

/-- the captured IKE_SA_INIT datagram of message/message_test.go -/
example : (Spec.parseFull c05InitWire).map (·.payloads) = some c05InitMsg.payloads := by decide +kernel

/-- a datagram with one EAP payload carrying the EAP packet `pkt` (IKE_AUTH request, message ID 1) -/
def c05fEapDatagram (pkt : Bytes) : Bytes :=
  zeros 16 ++ [48, 0x20, 35, 8, 0, 0, 0, 1] ++ put32 (UInt32.ofNat (32 + pkt.length)) ++
    [0, 0] ++ put16 (UInt16.ofNat (4 + pkt.length)) ++ pkt

/-- an EAP-AKA' Challenge (RAND, AUTN, MAC, KDF_INPUT "abc", KDF) inside an EAP payload: read by the
fully independent parser down to the attributes -/
example : (Spec.parseFull (c05fEapDatagram ([1, 6, 0, 80, 50, 1, 0, 0] ++ [1, 5, 0, 0] ++ zeros 16 ++
      [2, 5, 0, 0] ++ zeros 16 ++ [11, 5, 0, 0] ++ zeros 16 ++ [23, 2, 0, 24, 97, 98, 99, 0] ++ [24, 1, 0, 1]))).map
      (·.payloads)
    = some [.eap ⟨1, 6, .aka ⟨1, 0, [⟨1, 5, 0, zeros 16⟩, ⟨2, 5, 0, zeros 16⟩, ⟨11, 5, 0, zeros 16⟩,
        ⟨23, 2, 24, [97, 98, 99]⟩, ⟨24, 1, 0, [0, 1]⟩]⟩⟩] := by decide +kernel

/-- **the difference, concretely** — an EAP-AKA' packet with the unknown attribute type 7:
`Spec.parse` (library decoder + re-encoding) accepts the datagram, `Spec.parseFull` refuses it -/
example :
    (Spec.parse (c05fEapDatagram [1, 7, 0, 12, 50, 1, 0, 0, 7, 1, 0, 0])).map (·.payloads)
      = some [.eap ⟨1, 7, .aka ⟨1, 0, [⟨7, 1, 0, []⟩]⟩⟩] ∧
    Spec.parseFull (c05fEapDatagram [1, 7, 0, 12, 50, 1, 0, 0, 7, 1, 0, 0]) = none := by decide +kernel

/-- the other kinds of difference: a non-zero Reserved word after the Subtype (low and high octet),
Success with method data, AT_KDF of two words, AT_RES with a bit length that is not a multiple of
8, AT_RES of 24 bits — each accepted by `Spec.parse`, refused by `Spec.parseFull` -/
example :
    (Spec.parse (c05fEapDatagram [1, 7, 0, 8, 50, 1, 0, 1])).map (·.payloads) = some [.eap ⟨1, 7, .aka ⟨1, 1, []⟩⟩] ∧
    Spec.parseFull (c05fEapDatagram [1, 7, 0, 8, 50, 1, 0, 1]) = none ∧
    (Spec.parse (c05fEapDatagram [1, 7, 0, 8, 50, 1, 1, 0])).map (·.payloads) = some [.eap ⟨1, 7, .aka ⟨1, 256, []⟩⟩] ∧
    Spec.parseFull (c05fEapDatagram [1, 7, 0, 8, 50, 1, 1, 0]) = none ∧
    (Spec.parse (c05fEapDatagram [3, 2, 0, 6, 1, 0x61])).map (·.payloads) = some [.eap ⟨3, 2, .identity [0x61]⟩] ∧
    Spec.parseFull (c05fEapDatagram [3, 2, 0, 6, 1, 0x61]) = none ∧
    (Spec.parse (c05fEapDatagram [1, 7, 0, 16, 50, 1, 0, 0, 24, 2, 1, 2, 3, 4, 5, 6])).map (·.payloads)
      = some [.eap ⟨1, 7, .aka ⟨1, 0, [⟨24, 2, 0, [1, 2, 3, 4, 5, 6]⟩]⟩⟩] ∧
    Spec.parseFull (c05fEapDatagram [1, 7, 0, 16, 50, 1, 0, 0, 24, 2, 1, 2, 3, 4, 5, 6]) = none ∧
    (Spec.parse (c05fEapDatagram [2, 7, 0, 20, 50, 1, 0, 0, 3, 3, 0, 41, 1, 2, 3, 4, 5, 0, 0, 0])).map (·.payloads)
      = some [.eap ⟨2, 7, .aka ⟨1, 0, [⟨3, 3, 41, [1, 2, 3, 4, 5]⟩]⟩⟩] ∧
    Spec.parseFull (c05fEapDatagram [2, 7, 0, 20, 50, 1, 0, 0, 3, 3, 0, 41, 1, 2, 3, 4, 5, 0, 0, 0]) = none ∧
    (Spec.parse (c05fEapDatagram [2, 7, 0, 16, 50, 1, 0, 0, 3, 2, 0, 24, 1, 2, 3, 0])).map (·.payloads)
      = some [.eap ⟨2, 7, .aka ⟨1, 0, [⟨3, 2, 24, [1, 2, 3]⟩]⟩⟩] ∧
    Spec.parseFull (c05fEapDatagram [2, 7, 0, 16, 50, 1, 0, 0, 3, 2, 0, 24, 1, 2, 3, 0]) = none := by decide +kernel

/-- the packets of the two examples above are outside `DomEap` (the right-hand side of
`C05_full_difference`) -/
example : ¬ DomEap ⟨1, 7, .aka ⟨1, 0, [⟨7, 1, 0, []⟩]⟩⟩ ∧ ¬ DomEap ⟨1, 7, .aka ⟨1, 1, []⟩⟩ ∧
    ¬ DomEap ⟨3, 2, .identity [0x61]⟩ ∧ ¬ DomEap ⟨1, 7, .aka ⟨1, 0, [⟨24, 2, 0, [1, 2, 3, 4, 5, 6]⟩]⟩⟩ ∧
    ¬ DomEap ⟨2, 7, .aka ⟨1, 0, [⟨3, 3, 41, [1, 2, 3, 4, 5]⟩]⟩⟩ := by decide +kernel

/-- strictness, evaluated: what `Spec.parse` refuses in the IKE framing, `Spec.parseFull` refuses
(liberties of the sender, a trailing octet), and in addition non-canonical EAP (non-zero padding of
AT_RES, descending attributes), which `Spec.parse` refuses as well because re-encoding differs -/
example : (match Spec.encode [{ flags := 0x80 }] c05pSample with | .ok bs => Spec.parseFull bs | _ => none) = none ∧
    (match Spec.encode [] c05pSample with | .ok bs => Spec.parseFull (bs ++ [0]) | _ => none) = none ∧
    Spec.parseFull (c05fEapDatagram [2, 7, 0, 20, 50, 1, 0, 0, 3, 3, 0, 40, 1, 2, 3, 4, 5, 0, 0, 9]) = none ∧
    Spec.parse (c05fEapDatagram [2, 7, 0, 20, 50, 1, 0, 0, 3, 3, 0, 40, 1, 2, 3, 4, 5, 0, 0, 9]) = none ∧
    Spec.parseFull (c05fEapDatagram [1, 7, 0, 20, 50, 1, 0, 0, 24, 1, 0, 1, 23, 2, 0, 24, 97, 98, 99, 0]) = none := by
  decide +kernel

end Ike
