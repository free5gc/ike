import IkeProofs.Lemmas.Eap
import IkeProofs.Lemmas.PrimsReal

/-! # C15 — EAP-AKA' AT_MAC is HMAC-SHA-256-128 over the packet with the MAC field zeroed

`calcEapAkaPrimeAtMAC P e key` models `(*EAP).CalcEapAkaPrimeAtMAC`: the packet as the call leaves it, and the
result.  HMAC is the parameter `P.mac` (hash number 2 is SHA-256); nothing below unfolds it.

Partial, and why: `C15_receiver_partial` covers packets built through the API — for other well-formed wire forms
the receiver's re-marshalling differs from the octets sent (finding D15, class
`receiver-mac:noncanonical-wire`, witness at the end);
`C15_sensitive_partial` assumes that the truncated HMAC does not collide on the two inputs at hand. -/

namespace Ike

/-! ## the definition -/

/-- **C15, clause "the code equals the first 16 octets of HMAC-SHA-256 under K_aut over the complete
EAP packet … with the AT_MAC value zeroed"**, for every EAP-AKA' packet `a`, built or not; `bs` are the
octets fed to HMAC.  The packet is left carrying the zeroed AT_MAC. -/
theorem C15_def (P : Prims) (e : Eap) (a : Aka) (key : Bytes) (h : e.data = .aka a) :
    ∃ a0 bs,
      akaSetAttr a Facts.atMac (zeros 16) = .ok a0 ∧
      akaGetAttr a0 Facts.atMac = .ok (zeros 16) ∧
      (∀ t, t ≠ Facts.atMac → akaGetAttr a0 t = akaGetAttr a t) ∧
      marshalEap { e with data := .aka a0 } = .ok bs ∧
      calcEapAkaPrimeAtMAC P e key = ({ e with data := .aka a0 }, .ok ((P.mac 2 key bs).take 16)) := by
  obtain ⟨code, ident, data⟩ := e
  dsimp only at h
  subst h
  have hs : akaSetAttr a Facts.atMac (zeros 16) = .ok (akaZeroMac a) := akaInitMac_eq a
  exact ⟨akaZeroMac a, eapAkaWire code ident (akaZeroMac a), hs, (akaGetAttr_set hs).1, (akaGetAttr_set hs).2,
    marshalEap_aka _ _ _, calcEapAkaPrimeAtMAC_aka P code ident a key⟩

/-- on anything that is not an EAP-AKA' packet the call does not compute a code: error (other
methods) or nil-interface panic (no method data), packet untouched -/
theorem C15_def_other (P : Prims) (e : Eap) (key : Bytes) (h : ∀ a, e.data ≠ .aka a) :
    (calcEapAkaPrimeAtMAC P e key).1 = e ∧ ∀ m, (calcEapAkaPrimeAtMAC P e key).2 ≠ .ok m := by
  unfold calcEapAkaPrimeAtMAC
  cases hd : e.data with
  | aka a => exact absurd hd (h a)
  | none => exact ⟨rfl, nofun⟩
  | identity d => exact ⟨rfl, nofun⟩
  | notification d => exact ⟨rfl, nofun⟩
  | nak d => exact ⟨rfl, nofun⟩
  | expanded vid vt d => exact ⟨rfl, nofun⟩

/-- toy primitives satisfying the laws, to show hypotheses about `P` are satisfiable -/
def C15_toyPrims : Prims := ⟨fun _ _ _ => zeros 32, fun _ => 32, fun _ b => b, fun _ b => b⟩

theorem C15_toyPrims_lawful : C15_toyPrims.Lawful :=
  ⟨fun _ _ _ => by simp [C15_toyPrims], fun _ _ h => h, fun _ _ h => h, fun _ _ _ => rfl⟩

example : (calcEapAkaPrimeAtMAC C15_toyPrims ⟨1, 7, .aka ⟨1, 0, [⟨1, 5, 0, zeros 16⟩]⟩⟩ [1, 2, 3]).2
    = .ok (zeros 16) := by decide +kernel

/-! ## independence of the stored MAC -/

/-- **C15, clause "independent of whatever value AT_MAC held before"**: neither the result nor the packet
the call leaves behind changes — for every packet, built or not. -/
theorem C15_ignores_old_mac (P : Prims) (code ident : UInt8) (a a' : Aka) (v key : Bytes)
    (hs : akaSetAttr a Facts.atMac v = .ok a') :
    calcEapAkaPrimeAtMAC P ⟨code, ident, .aka a'⟩ key = calcEapAkaPrimeAtMAC P ⟨code, ident, .aka a⟩ key := by
  obtain ⟨na, hm, rfl⟩ := (akaSetAttr_ok_iff _ _ _ _).mp hs
  obtain ⟨h1, _⟩ := akaMkAttr_ok_fields hm
  rw [calcEapAkaPrimeAtMAC_aka, calcEapAkaPrimeAtMAC_aka, akaZeroMac_setMac a na h1]

/-- the same for an AT_MAC entry of any shape stored in the map (also a decoded one) -/
theorem C15_ignores_old_mac_entry (P : Prims) (code ident : UInt8) (a : Aka) (x : AkaAttr) (key : Bytes)
    (hx : x.atype = Facts.atMac) :
    calcEapAkaPrimeAtMAC P ⟨code, ident, .aka { a with attrs := akaInsert a.attrs x }⟩ key =
      calcEapAkaPrimeAtMAC P ⟨code, ident, .aka a⟩ key := by
  rw [calcEapAkaPrimeAtMAC_aka, calcEapAkaPrimeAtMAC_aka, akaZeroMac_setMac a x hx]

example : (akaSetAttr ⟨1, 0, [⟨1, 5, 0, zeros 16⟩]⟩ Facts.atMac (List.replicate 16 0xaa)).isOk = true := by decide +kernel

/-! ## agreement with RFC 5448 §3.4 on the packet as sent -/

/-- **C15, clause "over the complete EAP packet as it appears on the wire with the AT_MAC value
zeroed"**, against the independent transcription `Spec.atMac` (which parses the *octets*: checks the
Length field, walks the attributes, zeroes the 16 MAC octets in place), for every packet built through
the API that carries AT_MAC. -/
theorem C15_is_rfc (P : Prims) (code ident : UInt8) (a : Aka) (key wire m : Bytes)
    (hb : AkaBuilt a) (hm : akaGetAttr a Facts.atMac = .ok m)
    (hw : marshalEap ⟨code, ident, .aka a⟩ = .ok wire) :
    ∃ mac, (calcEapAkaPrimeAtMAC P ⟨code, ident, .aka a⟩ key).2 = .ok mac ∧
      Spec.atMac P key wire = some mac ∧
      Spec.zeroMac wire = some (eapAkaWire code ident (akaZeroMac a)) := by
  rw [marshalEap_aka] at hw
  cases hw
  have hmem : ∃ x ∈ a.attrs, x.atype = Facts.atMac := by
    rw [akaGetAttr] at hm
    cases hl : akaLookup a.attrs Facts.atMac with
    | none => rw [hl] at hm; nomatch hm
    | some x => exact ⟨x, akaLookup_some_mem hl⟩
  have hz := zeroMac_wire code ident a hb hmem
  exact ⟨_, by rw [calcEapAkaPrimeAtMAC_aka], by rw [Spec.atMac, hz], hz⟩

/-- the sender's form: compute on a built packet (with or without AT_MAC), store any 16-octet value
(in particular the computed one) as AT_MAC, encode -/
theorem C15_is_rfc_sender (P : Prims) (code ident : UInt8) (a a' : Aka) (key wire m : Bytes)
    (hb : AkaBuilt a) (hl : m.length = 16) (hs : akaSetAttr a Facts.atMac m = .ok a')
    (hw : marshalEap ⟨code, ident, .aka a'⟩ = .ok wire) :
    ∃ mac, (calcEapAkaPrimeAtMAC P ⟨code, ident, .aka a⟩ key).2 = .ok mac ∧ Spec.atMac P key wire = some mac := by
  have hb' := akaBuilt_set hb (akaValOk_mac m hl) hs
  obtain ⟨mac, h1, h2, _⟩ := C15_is_rfc P code ident a' key wire m hb' (akaGetAttr_set hs).1 hw
  rw [C15_ignores_old_mac P code ident a a' m key hs] at h1
  exact ⟨mac, h1, h2⟩

example : AkaBuilt ⟨1, 0, [⟨1, 5, 0, zeros 16⟩, ⟨11, 5, 0, List.replicate 16 0xaa⟩, ⟨23, 2, 24, [97, 98, 99]⟩]⟩ ∧
    akaGetAttr ⟨1, 0, [⟨1, 5, 0, zeros 16⟩, ⟨11, 5, 0, List.replicate 16 0xaa⟩, ⟨23, 2, 24, [97, 98, 99]⟩]⟩
      Facts.atMac = .ok (List.replicate 16 0xaa) := by decide +kernel

/-! ## both ends agree (packets built through the API) -/

/-- **C15, clause "a receiver that decodes the transmitted packet and computes the code with the
same key obtains the transmitted value" — PARTIAL: packets built through the API.**

Sender: `CalcEapAkaPrimeAtMAC` on a built packet gives `mac` and leaves packet `a1`; the sender
stores `mac` as AT_MAC (`a2`) and encodes (`wire`).  Receiver: `Unmarshal wire` into a fresh packet,
`CalcEapAkaPrimeAtMAC` with the same key.  Then the receiver obtains `mac`, and the AT_MAC value it
reads from the decoded packet is `mac` too, so its comparison succeeds.

Full statement of the property also quantifies over well-formed packets "produced by an
independent encoder in any attribute order"; that part is **false** for the library (known finding
D15) — see the witness below. -/
theorem C15_receiver_partial (P : Prims) (hP : P.Lawful) (h16 : 16 ≤ P.macLen 2)
    (code ident : UInt8) (a a1 a2 : Aka) (key mac wire : Bytes) (hb : AkaBuilt a)
    (hc : calcEapAkaPrimeAtMAC P ⟨code, ident, .aka a⟩ key = (⟨code, ident, .aka a1⟩, .ok mac))
    (hs : akaSetAttr a1 Facts.atMac mac = .ok a2)
    (hw : marshalEap ⟨code, ident, .aka a2⟩ = .ok wire) :
    recvEapAkaPrimeAtMAC P wire key = .ok mac ∧
    ∃ d, unmarshalEap wire = .ok ⟨code, ident, .aka d⟩ ∧ akaGetAttr d Facts.atMac = .ok mac := by
  rw [calcEapAkaPrimeAtMAC_aka] at hc
  simp only [Prod.mk.injEq, Eap.mk.injEq, EapData.aka.injEq, Res.ok.injEq, true_and] at hc
  obtain ⟨ha1, hmac⟩ := hc
  subst ha1
  have hlen : mac.length = 16 := by
    rw [← hmac, List.length_take, hP.mac_len]; omega
  have hb1 := akaZeroMac_built hb
  have hb2 := akaBuilt_set hb1 (akaValOk_mac mac hlen) hs
  have hsz := akaBuilt_size hb2
  have hrt := rt_eap_anycode ⟨code, ident, .aka a2⟩ wire hb2 (by dsimp only; omega) hw
  refine ⟨?_, a2, hrt, (akaGetAttr_set hs).1⟩
  unfold recvEapAkaPrimeAtMAC
  rw [hrt]
  dsimp only
  rw [C15_ignores_old_mac P code ident (akaZeroMac a) a2 mac key hs, calcEapAkaPrimeAtMAC_aka]
  dsimp only
  rw [show akaZeroMac (akaZeroMac a) = akaZeroMac a from akaZeroMac_setMac a akaZeroMacAttr rfl, hmac]

/-- the hypotheses of `C15_receiver_partial` are satisfiable for every built packet, key, code and
identifier: the sender's steps always succeed (so the theorem is not vacuous) -/
theorem C15_receiver_hyps_exist (P : Prims) (hP : P.Lawful) (h16 : 16 ≤ P.macLen 2)
    (code ident : UInt8) (a : Aka) (key : Bytes) :
    ∃ a1 mac a2 wire,
      calcEapAkaPrimeAtMAC P ⟨code, ident, .aka a⟩ key = (⟨code, ident, .aka a1⟩, .ok mac) ∧
      akaSetAttr a1 Facts.atMac mac = .ok a2 ∧ marshalEap ⟨code, ident, .aka a2⟩ = .ok wire := by
  have hlen : ((P.mac 2 key (eapAkaWire code ident (akaZeroMac a))).take 16).length = 16 := by
    rw [List.length_take, hP.mac_len]; omega
  generalize hmac : (P.mac 2 key (eapAkaWire code ident (akaZeroMac a))).take 16 = mac at hlen
  obtain ⟨a2, hs⟩ : ∃ a2, akaSetAttr (akaZeroMac a) Facts.atMac mac = .ok a2 :=
    ⟨_, by rw [akaSetAttr, akaMkAttr_fixed16 _ _ (Or.inr (Or.inr rfl)), if_pos hlen]; rfl⟩
  exact ⟨akaZeroMac a, mac, a2, _, by rw [calcEapAkaPrimeAtMAC_aka, hmac], hs, marshalEap_aka _ _ _⟩

example : C15_toyPrims.Lawful ∧ 16 ≤ C15_toyPrims.macLen 2 ∧
    AkaBuilt ⟨1, 0, [⟨1, 5, 0, zeros 16⟩, ⟨3, 3, 40, [1, 2, 3, 4, 5]⟩]⟩ :=
  ⟨C15_toyPrims_lawful, by decide, by decide +kernel⟩

/-! ## sensitivity -/

/-- **C15, clause "obtains a different value if any octet of the packet or the key differs" —
PARTIAL: under `hNoColl`.**  The HMAC input of packet `i` is `wᵢ`, the encoding of the packet with
AT_MAC zeroed.  Assumed (`hNoColl`): the truncated HMAC-SHA-256 does not collide on the two
(key, input) pairs at hand.  Proved: (i) different inputs or different keys give different codes;
(ii) for packets built through the API the input is an injective function of
(code, identifier, subtype, all attributes other than the AT_MAC value): if the zero-MAC packets
differ, the inputs differ, hence the codes differ.
Not covered (and false, D15): a *wire* octet string that differs from the sender's but decodes
to the same in-memory packet gives the same code at the receiver. -/
theorem C15_sensitive_partial (P : Prims) (c1 i1 c2 i2 : UInt8) (a1 a2 : Aka) (k1 k2 : Bytes)
    (hNoColl : (P.mac 2 k1 (eapAkaWire c1 i1 (akaZeroMac a1))).take 16 =
               (P.mac 2 k2 (eapAkaWire c2 i2 (akaZeroMac a2))).take 16 →
               k1 = k2 ∧ eapAkaWire c1 i1 (akaZeroMac a1) = eapAkaWire c2 i2 (akaZeroMac a2)) :
    ((k1 ≠ k2 ∨ eapAkaWire c1 i1 (akaZeroMac a1) ≠ eapAkaWire c2 i2 (akaZeroMac a2)) →
      (calcEapAkaPrimeAtMAC P ⟨c1, i1, .aka a1⟩ k1).2 ≠ (calcEapAkaPrimeAtMAC P ⟨c2, i2, .aka a2⟩ k2).2) ∧
    (AkaBuilt a1 → AkaBuilt a2 →
      (⟨c1, i1, .aka (akaZeroMac a1)⟩ : Eap) ≠ ⟨c2, i2, .aka (akaZeroMac a2)⟩ →
      (calcEapAkaPrimeAtMAC P ⟨c1, i1, .aka a1⟩ k1).2 ≠ (calcEapAkaPrimeAtMAC P ⟨c2, i2, .aka a2⟩ k2).2) := by
  have main : (k1 ≠ k2 ∨ eapAkaWire c1 i1 (akaZeroMac a1) ≠ eapAkaWire c2 i2 (akaZeroMac a2)) →
      (calcEapAkaPrimeAtMAC P ⟨c1, i1, .aka a1⟩ k1).2 ≠ (calcEapAkaPrimeAtMAC P ⟨c2, i2, .aka a2⟩ k2).2 := by
    intro hne heq
    rw [calcEapAkaPrimeAtMAC_aka, calcEapAkaPrimeAtMAC_aka] at heq
    simp only [Res.ok.injEq] at heq
    obtain ⟨hk, hw⟩ := hNoColl heq
    rcases hne with h | h
    · exact h hk
    · exact h hw
  refine ⟨main, fun hb1 hb2 hne => main (Or.inr ?_)⟩
  intro hw
  apply hne
  have z1 := akaZeroMac_built hb1
  have z2 := akaZeroMac_built hb2
  have s1 := akaBuilt_size z1
  have s2 := akaBuilt_size z2
  have r1 := rt_eap_anycode ⟨c1, i1, .aka (akaZeroMac a1)⟩ _ z1 (by dsimp only; omega) (marshalEap_aka _ _ _)
  have r2 := rt_eap_anycode ⟨c2, i2, .aka (akaZeroMac a2)⟩ _ z2 (by dsimp only; omega) (marshalEap_aka _ _ _)
  rw [hw, r2] at r1
  simpa using r1.symm

/-! ## the known finding D15, witnessed

A well-formed EAP-AKA' Request as a peer may send it (RFC 5448 challenges put AT_KDF (24) before
AT_KDF_INPUT (23)): header, AT_KDF, AT_KDF_INPUT "ab", AT_MAC = aa…aa. -/

def C15_d15Raw : Bytes :=
  [1, 7, 0, 40, 50, 1, 0, 0,
   24, 1, 0, 1,
   23, 2, 0, 16, 97, 98, 0, 0,
   11, 5, 0, 0] ++ List.replicate 16 0xaa

def C15_d15Decoded : Eap :=
  ⟨1, 7, .aka ⟨1, 0, [⟨11, 5, 0, List.replicate 16 0xaa⟩, ⟨23, 2, 16, [97, 98]⟩, ⟨24, 1, 0, [0, 1]⟩]⟩⟩

/-- the library decodes it … -/
theorem C15_d15_decodes : unmarshalEap C15_d15Raw = .ok C15_d15Decoded := by decide +kernel

/-- … the decoded packet is even in the API-built domain, but re-encoding it does not give the
octets received (attributes come out in ascending order): the wire form is outside the image of
`marshalEap`, so `C15_receiver_partial` does not apply to it … -/
example : DomEap C15_d15Decoded ∧ marshalEap C15_d15Decoded ≠ .ok C15_d15Raw := by decide +kernel

/-- … and the octets the receiver feeds to HMAC differ from the RFC 5448 §3.4 input computed from the
octets on the wire, for every key and every `P`: the receiver's code is `take 16 (HMAC key w)` while
the RFC value is `take 16 (HMAC key z)` with `w ≠ z`. -/
theorem C15_D15_witness (P : Prims) (key : Bytes) :
    ∃ w z, recvEapAkaPrimeAtMAC P C15_d15Raw key = .ok ((P.mac 2 key w).take 16) ∧
      Spec.atMac P key C15_d15Raw = some ((P.mac 2 key z).take 16) ∧ w ≠ z := by
  have hz : Spec.zeroMac C15_d15Raw = some ([1, 7, 0, 40, 50, 1, 0, 0, 24, 1, 0, 1, 23, 2, 0, 16, 97, 98, 0, 0,
      11, 5, 0, 0] ++ zeros 16) := by decide +kernel
  refine ⟨eapAkaWire 1 7 (akaZeroMac ⟨1, 0, [⟨11, 5, 0, List.replicate 16 0xaa⟩, ⟨23, 2, 16, [97, 98]⟩,
      ⟨24, 1, 0, [0, 1]⟩]⟩),
    [1, 7, 0, 40, 50, 1, 0, 0, 24, 1, 0, 1, 23, 2, 0, 16, 97, 98, 0, 0, 11, 5, 0, 0] ++ zeros 16, ?_, ?_, ?_⟩
  · unfold recvEapAkaPrimeAtMAC
    rw [C15_d15_decodes]
    dsimp only
    unfold C15_d15Decoded
    rw [calcEapAkaPrimeAtMAC_aka]
  · unfold Spec.atMac
    rw [hz]
  · decide +kernel

/-- The hypothesis `P.Lawful` of the theorems above (the AT_MAC theorems) is not an assumption about the
primitives the model actually runs: the executable SHA-256 / SHA-1 / MD5 / HMAC / AES of
`IkeModel/Crypto` — the ones the correspondence suites compare byte for byte with Go's standard
library — satisfy it (digest lengths; AES block length; `dec k (enc k b) = b` for every key and
block, proved from FIPS-197's inverse structure in `Lemmas/PrimsReal.lean`). -/
theorem C15_real_lawful : Prims.real.Lawful := Prims.real_lawful

end Ike
