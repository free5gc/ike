import IkeProofs.RefineSa.Transfer
import IkeProofs.Theorems.C17

/-! C17 over the translated `ike.go` and `security/security.go`.  What a history can change in an SA object are the
write buffers of its hash objects (`Integ_i`, `Integ_r`, `Prf_d`): (1) no successful call changes anything else, so the
object stays in its class `≈ₛ`; (2) the output of a call is the same for any two objects of one class.  About the
object after a call that returned an ERROR the translation says nothing (`Res.err` carries no state): that part of C17
rests on the model, `C17_step` / `C17_history`. -/

namespace Ike
open Ike.RefineSa Ike.GenAbsSa

/-- (2) for `EncodeEncrypt`: two objects of one class (same descriptors and keys, ANY buffers) produce the same
datagram, the same message and leave the random source in the same state -/
theorem C17_gen_protect_output (P : Prims) (hP : P.Lawful) (k1 k2 : Gen.security.IKESAKey)
    (h1 : SaWF k1) (h2 : SaWF k2) (i1 : IntegRegistered k1.IntegInfo) (i2 : IntegRegistered k2.IntegInfo)
    (hsim : absSa k1 ≈ₛ absSa k2) (role : Bool) (r : Rand) (m : Msg) :
    (Gen.ike.EncodeEncrypt P r (GenAbs.repMsg m) (some k1) role).map (fun x => (x.1, GenAbs.absMsg x.2.1, x.2.2.2)) =
    (Gen.ike.EncodeEncrypt P r (GenAbs.repMsg m) (some k2) role).map (fun x => (x.1, GenAbs.absMsg x.2.1, x.2.2.2)) := by
  refine map_eq_of_refines (fun (x : Rand × Option Msg × SAKey × Bytes) => (x.1, x.2.1, x.2.2.2))
    (Enc.EncodeEncrypt_refines_registered P hP k1 h1 i1 role r m)
    (Enc.EncodeEncrypt_refines_registered P hP k2 h2 i2 role r m) ?_
  have hs := (protect_sim P hsim role r m).1
  generalize protect P (absSa k1) role r m = p1 at hs
  generalize protect P (absSa k2) role r m = p2 at hs
  obtain ⟨s1, r1, q1⟩ := p1
  obtain ⟨s2, r2, q2⟩ := p2
  simp only [Prod.mk.injEq] at hs
  obtain ⟨rfl, rfl⟩ := hs
  cases q1 with
  | ok x => obtain ⟨o, m'⟩ := x; rfl
  | err => rfl
  | fault => rfl

/-- (2) for `DecodeDecrypt`: two objects of one class accept the same byte strings and return the same message
(or both refuse, or both fault) -/
theorem C17_gen_unprotect_output (P : Prims) (hP : P.Lawful) (k1 k2 : Gen.security.IKESAKey)
    (h1 : SaWF k1) (h2 : SaWF k2) (i1 : IntegRegistered k1.IntegInfo) (i2 : IntegRegistered k2.IntegInfo)
    (hsim : absSa k1 ≈ₛ absSa k2) (role : Bool) (h : Option Header) (bs : Bytes) :
    (Gen.ike.DecodeDecrypt P bs (h.map GenAbs.repHeader) (some k1) role).map (fun x => GenAbs.absMsg x.2) =
    (Gen.ike.DecodeDecrypt P bs (h.map GenAbs.repHeader) (some k2) role).map (fun x => GenAbs.absMsg x.2) := by
  refine map_eq_of_refines (fun (x : SAKey × Option Msg) => x.2)
    (Dec.DecodeDecrypt_refines P hP k1 h1 (Dec.IntegOk_of_registered i1) role h bs)
    (Dec.DecodeDecrypt_refines P hP k2 h2 (Dec.IntegOk_of_registered i2) role h bs) ?_
  obtain ⟨a', b', n, res, ha, hb, _⟩ := unprotect_sim P hsim role h bs
  rw [ha, hb]
  cases res <;> rfl

/-- (2) for `GenerateKeyForChildSA`: the four keys depend on `Prf_d`'s key and hash only, not on what earlier
derivations left in its buffer -/
theorem C17_gen_child_output (P : Prims) (hP : P.Lawful) (k1 k2 : Gen.security.IKESAKey) (c : Gen.security.ChildSAKey)
    (p1 : k1.PrfInfo ≠ .nil_) (p2 : k2.PrfInfo ≠ .nil_)
    (d1 : Go.Mac.isNil k1.Prf_d = false) (d2 : Go.Mac.isNil k2.Prf_d = false)
    (he : c.EncrKInfo = .EncrAesCbc ⟨16⟩ ∨ c.EncrKInfo = .EncrAesCbc ⟨24⟩ ∨ c.EncrKInfo = .EncrAesCbc ⟨32⟩)
    (hi : c.IntegKInfo = .nil_ ∨ c.IntegKInfo = .AuthHmacMd5_95 ⟨16, 12⟩ ∨ c.IntegKInfo = .AuthHmacSha1_96 ⟨20, 12⟩ ∨
      c.IntegKInfo = .AuthHmacSha2_256_128 ⟨32, 16⟩)
    (hsim : (absSa k1).prf_d.Sim (absSa k2).prf_d) (nonce : Bytes) :
    (Gen.security.ChildSAKey.GenerateKeyForChildSA P (some c) (some k1) nonce).map (fun x => absChild x.1) =
    (Gen.security.ChildSAKey.GenerateKeyForChildSA P (some c) (some k2) nonce).map (fun x => absChild x.1) := by
  refine map_eq_of_refines (fun (x : SAKey × ChildSAKey) => x.2)
    (GenerateKeyForChildSA_refines P hP k1 c p1 d1 he hi nonce)
    (GenerateKeyForChildSA_refines P hP k2 c p2 d2 he hi nonce) ?_
  have hs := genKeyForChildSA_out_sim P (absSa k1) (absSa k2) hsim (absChild c) nonce
  generalize genKeyForChildSA P (absSa k1) (absChild c) nonce = q1 at hs
  generalize genKeyForChildSA P (absSa k2) (absChild c) nonce = q2 at hs
  obtain ⟨g1, s1⟩ := q1
  obtain ⟨g2, s2⟩ := q2
  simp only at hs
  subst hs
  cases s1 <;> rfl

/-- (1) `EncodeEncrypt`: the object that comes back is in the class of the object passed in -/
theorem C17_gen_protect_invariant (P : Prims) (hP : P.Lawful) (k : Gen.security.IKESAKey) (hk : SaWF k)
    (hi : IntegRegistered k.IntegInfo) (role : Bool) (r : Rand) (m : Msg)
    (r' : Rand) (gm' : Gen.message.IKEMessage) (k' : Gen.security.IKESAKey) (out : Bytes)
    (h : Gen.ike.EncodeEncrypt P r (GenAbs.repMsg m) (some k) role = .ok (r', gm', k', out)) :
    SaWF k' ∧ IntegRegistered k'.IntegInfo ∧ absSa k' ≈ₛ absSa k := by
  obtain ⟨m', _, hp⟩ := gen_protect_ok P hP k hk hi role r m r' gm' k' out h
  have hf := Enc.EncodeEncrypt_frame P k hk role r (GenAbs.repMsg m) r' gm' k' out h
  refine ⟨hf.1, by unfold IntegRegistered; rw [hf.2.2.2.1]; exact hi, ?_⟩
  have := protect_sim_self P (absSa k) role r m
  rw [hp] at this
  exact this

/-- (1) `GenerateKeyForChildSA`: nothing of the IKE SA object changes but `Prf_d`'s buffer -/
theorem C17_gen_child_invariant (P : Prims) (k : Gen.security.IKESAKey) (c : Gen.security.ChildSAKey) (nonce : Bytes)
    (c' : Gen.security.ChildSAKey) (k' : Gen.security.IKESAKey) (hwf : SaWF k)
    (h : Gen.security.ChildSAKey.GenerateKeyForChildSA P (some c) (some k) nonce = .ok (c', k')) :
    k' = { k with Prf_d := k'.Prf_d } ∧ k'.Prf_d.h = k.Prf_d.h ∧ k'.Prf_d.key = k.Prf_d.key ∧ SaWF k' :=
  have f := GenerateKeyForChildSA_frame P k c nonce c' k' h
  ⟨f.1, f.2.1, f.2.2, GenerateKeyForChildSA_wf P k c nonce c' k' h hwf⟩

end Ike
