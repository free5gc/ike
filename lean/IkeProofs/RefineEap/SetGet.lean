import IkeProofs.Refine.Basic
import IkeModel.GenAbsEap
import IkeProofs.RefineEap.AkaMap
import IkeProofs.RefineEap.Simple

/-! Package `eap`, EAP-AKA' attribute map: `setAttr`, `SetAttr`, `GetAttr`, `initMAC`,
`NewEapAkaPrime` as generated ⊑ the hand-written model (`akaMkAttr`, `akaSetAttr`, `akaGetAttr`),
and the round trip `absAka (repAka a) = a` for sorted attribute lists. -/


namespace Ike.RefineEap
open Ike Ike.Gen.eap Ike.Refine

/-- `copy(make([]byte, len(v)), v)` gives `v` -/
theorem copyInto_zeros (v : Bytes) :
    Go.copyInto (zeros v.length) 0 (zeros v.length).length v = Res.ok (v, v.length) := by
  unfold Go.copyInto
  have hl : (zeros v.length).length = v.length := by simp [zeros]
  rw [hl]
  rw [if_pos ⟨Nat.zero_le _, Nat.le_refl _⟩]
  simp [hl]

/-- the length octet of AT_RES / AT_KDF_INPUT: Go's `int` arithmetic (truncated `%` and `/`) agrees
with the model's natural-number arithmetic for every length (including wrap-around of `uint8`).  Both sides
are written as they stand in `setAttr` and in `akaMkAttr` (hence `1 + 1 + 2 + n`), so that `simp only` finds them. -/
theorem padLen_eq (n : Nat) :
    Go.toU8 (Int.tdiv (((4 + n : Nat) : Int) + Int.tmod ((4 : Int) - ((4 + n : Nat) : Int) % 4) (4 : Int)) (4 : Int))
      = UInt8.ofNat ((1 + 1 + 2 + n + (4 - ((1 + 1 + 2 + n) % 4)) % 4) / 4) := by
  have hle : (4 + n) % 4 ≤ 4 := Nat.le_of_lt (Nat.mod_lt _ (by decide))
  rw [show (4 : Int) = ((4 : Nat) : Int) from rfl, ← Int.natCast_emod, ← Int.natCast_sub hle, ← Int.ofNat_tmod,
    ← Int.natCast_add, ← Int.ofNat_tdiv, Go.toU8_natCast]

theorem setAttr_refines (t : UInt8) (v : Bytes) :
    (EapAkaPrimeAttr.setAttr {} t v).map GenAbs.absAkaAttr = akaMkAttr t v := by
  unfold EapAkaPrimeAttr.setAttr akaMkAttr
  simp only [Facts.atMac, Facts.atRand, Facts.atAutn, Facts.atRes, Facts.atKdfInput, Facts.atKdf,
    Facts.atCheckcode, copyInto_zeros, Res.bind_ok, padLen_eq, Bool.or_eq_true, u8_beq, Bool.false_eq_true, if_false, or_assoc,
    if_true, Res.map_ite, map_ok', map_err']
  refine ite_congr rfl (fun _ => rfl) fun _ => ite_congr rfl (fun _ => ?_) fun _ => rfl
  by_cases h3 : t = 3
  · simp only [h3, if_true, beq_self_eq_true, Bool.true_and, Bool.or_eq_true, decide_eq_true_eq]
    rfl
  · simp only [h3, if_false, u8_beq, Bool.and_eq_true, false_and]
    rfl

theorem setAttr_attrType (t : UInt8) (v : Bytes) (a : Gen.eap.EapAkaPrimeAttr)
    (h : EapAkaPrimeAttr.setAttr {} t v = .ok a) : a.attrType = t := by
  have h' := setAttr_refines t v
  rw [h, map_ok'] at h'
  exact (akaMkAttr_ok_fields h'.symm).1

theorem NewEapAkaPrime_refines (st : UInt8) :
    (NewEapAkaPrime st).map GenAbs.absAka = Res.ok ⟨st, 0, []⟩ := rfl

theorem NewEapAkaPrime_wf (st : UInt8) (g) (h : NewEapAkaPrime st = .ok g) : GenAbs.AkaWF g := by
  unfold NewEapAkaPrime at h
  cases h
  rw [AkaWF_iff]
  exact entriesWF_nil

theorem SetAttr_some (st : UInt8) (rs : UInt16) (l : List (UInt8 × Gen.eap.EapAkaPrimeAttr))
    (t : UInt8) (v : Bytes) :
    EapAkaPrime.SetAttr { subType := st, reserved := rs, attributes := some l } t v =
      (EapAkaPrimeAttr.setAttr {} t v) >>= fun a =>
        Res.ok { subType := st, reserved := rs, attributes := some (Go.mapSetList l a.attrType a) } := by
  unfold EapAkaPrime.SetAttr
  dsimp only
  rw [if_neg (by simp)]
  cases EapAkaPrimeAttr.setAttr {} t v with
  | ok a => simp [Go.mapSet]
  | err => rfl
  | fault => rfl

/-- `SetAttr` on a nil map makes the map first -/
theorem SetAttr_none (st : UInt8) (rs : UInt16) (t : UInt8) (v : Bytes) :
    EapAkaPrime.SetAttr { subType := st, reserved := rs, attributes := none } t v =
      EapAkaPrime.SetAttr { subType := st, reserved := rs, attributes := some [] } t v := by
  rw [SetAttr_some]
  unfold EapAkaPrime.SetAttr
  dsimp only
  rw [if_pos rfl]
  cases EapAkaPrimeAttr.setAttr {} t v with
  | ok a => simp [Go.mapSet]
  | err => rfl
  | fault => rfl

theorem SetAttr_eq (g : Gen.eap.EapAkaPrime) (t : UInt8) (v : Bytes) :
    EapAkaPrime.SetAttr g t v =
      (EapAkaPrimeAttr.setAttr {} t v) >>= fun a =>
        Res.ok { subType := g.subType, reserved := g.reserved,
                 attributes := some (Go.mapSetList (Go.mapEntries g.attributes) a.attrType a) } := by
  obtain ⟨st, rs, m⟩ := g
  cases m with
  | none => rw [SetAttr_none, SetAttr_some]; rfl
  | some l => rw [SetAttr_some]; rfl

theorem SetAttr_refines (g : Gen.eap.EapAkaPrime) (hwf : GenAbs.AkaWF g) (t : UInt8) (v : Bytes) :
    (EapAkaPrime.SetAttr g t v).map GenAbs.absAka = akaSetAttr (GenAbs.absAka g) t v := by
  rw [SetAttr_eq g]
  unfold akaSetAttr
  rw [← setAttr_refines]
  cases EapAkaPrimeAttr.setAttr {} t v with
  | ok a =>
    simp only [Res.bind_ok, map_ok']
    rw [AkaWF_iff] at hwf
    have key := absAkaEntries_mapSet _ a hwf
    show Res.ok (⟨g.subType, g.reserved,
        GenAbs.absAkaEntries (Go.mapSetList (Go.mapEntries g.attributes) a.attrType a)⟩ : Aka) =
      Res.ok ⟨g.subType, g.reserved,
        akaInsert (GenAbs.absAkaEntries (Go.mapEntries g.attributes)) (GenAbs.absAkaAttr a)⟩
    rw [key]
  | err => rfl
  | fault => rfl

theorem SetAttr_wf (g : Gen.eap.EapAkaPrime) (hwf : GenAbs.AkaWF g) (t : UInt8) (v : Bytes) (g')
    (h : EapAkaPrime.SetAttr g t v = .ok g') : GenAbs.AkaWF g' := by
  rw [SetAttr_eq g] at h
  cases hs : EapAkaPrimeAttr.setAttr {} t v with
  | ok a =>
    rw [hs, Res.bind_ok] at h
    cases h
    rw [AkaWF_iff] at hwf ⊢
    exact entriesWF_mapSet _ a hwf
  | err => rw [hs] at h; cases h
  | fault => rw [hs] at h; cases h

/-- the search loop finds what the map lookup finds (entries stored under their own type) -/
theorem GetAttr_loop1_eq (l : List (UInt8 × Gen.eap.EapAkaPrimeAttr)) (idx : Nat) (t : UInt8)
    (h : ∀ p ∈ l, p.1 = p.2.attrType) :
    EapAkaPrime.GetAttr.loop1 l idx t =
      Res.ok (match Go.mapGetList l t with
              | some a => Sum.inr a
              | none => Sum.inl ()) := by
  induction l generalizing idx with
  | nil => rfl
  | cons p rest ih =>
    obtain ⟨k0, v0⟩ := p
    unfold EapAkaPrime.GetAttr.loop1
    dsimp only
    have hk : k0 = v0.attrType := h (k0, v0) List.mem_cons_self
    rw [mapGetList_cons, ← hk]
    by_cases c : k0 = t
    · rw [if_pos c, if_pos c]
    · rw [if_neg c, if_neg c]
      exact ih (idx + 1) (fun q hq => h q (List.mem_cons_of_mem _ hq))

theorem GetAttr_refines (g : Gen.eap.EapAkaPrime) (hwf : GenAbs.AkaWF g) (t : UInt8) :
    (EapAkaPrime.GetAttr g t).map (fun a => a.value) = akaGetAttr (GenAbs.absAka g) t := by
  obtain ⟨st, rs, m⟩ := g
  rw [AkaWF_iff] at hwf
  unfold EapAkaPrime.GetAttr akaGetAttr GenAbs.absAka
  cases m with
  | none => rfl
  | some l =>
    simp only [Go.mapEntries] at hwf ⊢
    rw [if_neg (by simp), GetAttr_loop1_eq l 0 t hwf.1, akaLookup_absAkaEntries l t hwf]
    cases Go.mapGetList l t with
    | some a => rfl
    | none => rfl

theorem initMAC_refines (g : Gen.eap.EapAkaPrime) (hwf : GenAbs.AkaWF g) :
    (EapAkaPrime.initMAC g).map GenAbs.absAka = akaSetAttr (GenAbs.absAka g) Facts.atMac (zeros 16) := by
  rw [← SetAttr_refines g hwf]
  unfold EapAkaPrime.initMAC
  simp only [Facts.atMac]
  cases EapAkaPrime.SetAttr g 11 (zeros 16) <;> rfl

theorem repAka_wf (a : Aka) (hs : AkaSorted a.attrs) : GenAbs.AkaWF (GenAbs.repAka a) := by
  rw [AkaWF_iff]
  exact entriesWF_rep a.attrs hs

theorem absAka_repAka (a : Aka) (hs : AkaSorted a.attrs) : GenAbs.absAka (GenAbs.repAka a) = a := by
  obtain ⟨st, rs, xs⟩ := a
  unfold GenAbs.absAka GenAbs.repAka
  simp only [Go.mapEntries]
  rw [absAkaEntries_rep xs hs]

end Ike.RefineEap
