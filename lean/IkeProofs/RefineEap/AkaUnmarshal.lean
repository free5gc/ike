import IkeProofs.RefineEap.AkaMap
import IkeProofs.Lemmas.NoFault

/-! `EapAkaPrime.Unmarshal` (eap_aka_prime.go:186) as generated ⊑ `unmarshalAka`.

Route: (1) `Go.readFull r (zeros n)` evaluated (`akaU_readFull_ge`: enough octets; `akaU_readFull_short`:
a count ≠ `n` and an error ≠ nil, either of which the generated code turns into `Res.err`); (2) one
iteration of the generated loop on `t :: len :: body` is `parseAkaBody t len body` followed by the map
store under `t` (`akaUnmarshal_loop1_step`), the two EOF exits (`akaUnmarshal_loop1_nil`,
`akaUnmarshal_loop1_single`); (3) the loop for all fuel > the reader length, with invariant
"`absAkaEntries entries = acc` and `EntriesWF entries`" (`akaUnmarshal_loop1_spec`); (4) the wrapper
(`akaUnmarshal_spec`). -/


namespace Ike.RefineEap
open Ike Ike.Gen.eap Ike.Refine

theorem akaU_readByte_cons (x : UInt8) (r : Bytes) : Go.readByte (x :: r) = (r, x, Go.Err.none) := rfl

theorem akaU_readByte_nil : Go.readByte [] = ([], 0, Go.Err.eof) := rfl

theorem akaU_readFull_ge (r : Bytes) (n : Nat) (h : n ≤ r.length) :
    Go.readFull r (zeros n) = (r.drop n, r.take n, n, Go.Err.none) := by
  unfold Go.readFull
  simp [zeros, Nat.min_eq_left h]

/-- too few octets: `io.ReadFull` returns a short count and `io.EOF` or `io.ErrUnexpectedEOF` -/
theorem akaU_readFull_short {r : Bytes} {n : Nat} (h : ¬ n ≤ r.length) :
    ((Go.readFull r (zeros n)).2.2.1 : Int) ≠ n ∧ (Go.readFull r (zeros n)).2.2.2 ≠ Go.Err.none := by
  unfold Go.readFull
  simp only [zeros_length, Nat.min_eq_right (Nat.le_of_not_le h)]
  refine ⟨by omega, ?_⟩
  rw [if_neg (by omega)]
  split <;> simp

private theorem u8_16 : (16 : UInt8).toNat = 16 := rfl

private theorem u16_add4 (a : UInt16) : a + 1 + 1 + 2 = a + 4 := by
  rw [UInt16.add_assoc, UInt16.add_assoc]; rfl

private theorem u16_sub4 (a : UInt16) : a - 1 - 1 - 2 = a - 4 := by
  simp only [UInt16.sub_eq_add_neg, UInt16.add_assoc]; rfl

private theorem beU16_take2 (b : Bytes) (h : 2 ≤ b.length) :
    Go.beU16 (b.take 2) = .ok (be16 (byteAt (b.take 2) 0) (byteAt (b.take 2) 1)) := by
  unfold Go.beU16
  rw [if_pos]
  rw [List.length_take]; omega

private theorem valLen_len5 : (4 : UInt8) * 5 - 1 - 1 - 2 = 16 := by decide

/-- One iteration of the generated loop against `parseAkaBody`.  Both are executed symbolically, side by
side: `hX` holds what is left of the loop body (its `let`s still folded), `hP` what is left of the model's
parser.  A conditional is decided on both by `of_ite_pos` / `of_ite_neg`; the result of a `ReadFull` is
named by `extract_lets` (the names given are those of the generated `let`s at the head of `hX`, in order:
the buffer, then the `rdN` it is read into), equated with what `akaU_readFull_ge` gives and substituted,
while `readN_ge` does the same for the model; at a leaf both are values and the goal compares them. -/
theorem akaUnmarshal_loop1_step (fuel : Nat) (g : Gen.eap.EapAkaPrime) (l : List (UInt8 × Gen.eap.EapAkaPrimeAttr))
    (hl : g.attributes = some l) (e0 : Go.Err) (n0 : Int) (t len : UInt8) (body : Bytes) :
    match parseAkaBody t len body with
    | .ok (a, k) => a.atype = t ∧ ∃ e n, EapAkaPrime.Unmarshal.loop1 (fuel + 1) g e0 n0 (t :: len :: body) =
        EapAkaPrime.Unmarshal.loop1 fuel { g with attributes := some (Go.mapSetList l t (GenAbs.repAkaAttr a)) } e n
          (body.drop k)
    | .err => EapAkaPrime.Unmarshal.loop1 (fuel + 1) g e0 n0 (t :: len :: body) = .err
    | .fault => False := by
  generalize hX : EapAkaPrime.Unmarshal.loop1 (fuel + 1) g e0 n0 (t :: len :: body) = X
  generalize hP : parseAkaBody t len body = p
  rw [EapAkaPrime.Unmarshal.loop1] at hX
  rw [parseAkaBody] at hP
  replace hX := of_ite_neg (of_ite_neg (of_ite_pos hX trivial) (fun h => h rfl)) (fun h => h rfl)
  extract_lets +onlyGivenNames tag7 jp9 at hX
  dsimp -zeta only [Go.readByte] at hX tag7
  -- AT_MAC, AT_RAND, AT_AUTN: length 5, two reserved octets, 16 octets of value
  by_cases c1 : t = 11 ∨ t = 1 ∨ t = 2
  · replace hX := of_ite_pos hX c1
    replace hP := of_ite_pos hP (beq_or3.mpr c1)
    by_cases c5 : len = 5
    · replace hX := of_ite_neg hX (fun h => h c5)
      replace hP := of_ite_neg hP (fun h => (u8_bne _ _).mp h c5)
      by_cases h2 : 2 ≤ body.length
      · rw [readN_ge h2] at hP
        extract_lets +onlyGivenNames reserved_3 rd19 at hX
        rw [show rd19 = _ from akaU_readFull_ge _ _ h2] at hX
        replace hX := of_ite_neg (of_ite_neg hX (fun h => h rfl)) (fun h => h rfl)
        subst c5
        replace hX := of_ite_neg hX (fun h => h valLen_len5)
        simp -zeta only [valLen_len5, u8_16] at hX
        by_cases h16 : 16 ≤ (body.drop 2).length
        · extract_lets +onlyGivenNames attr rd20 at hX
          rw [show rd20 = _ from akaU_readFull_ge _ _ h16] at hX
          replace hX := of_ite_neg (of_ite_neg hX (fun h => h rfl)) (fun h => h rfl)
          dsimp only at hP
          rw [readN_ge h16] at hP
          subst hP hX
          refine ⟨rfl, ?_⟩
          simp only [jp9, hl, Go.mapSet, Res.bind_ok, List.drop_drop]
          exact ⟨_, _, rfl⟩
        · dsimp only at hP
          rw [readN_lt h16] at hP
          subst hP
          extract_lets +onlyGivenNames attr rd20 at hX
          exact (of_ite_pos hX (akaU_readFull_short h16).1).symm
      · rw [readN_lt h2] at hP
        subst hP
        exact (of_ite_pos hX (akaU_readFull_short h2).1).symm
    · cases of_ite_pos hP ((u8_bne _ _).mpr c5)
      exact (of_ite_pos hX c5).symm
  · replace hX := of_ite_neg hX c1
    replace hP := of_ite_neg hP (mt beq_or3.mp c1)
    -- AT_KDF_INPUT, AT_RES: bit length, value, padding up to `4 * len`
    by_cases c2 : t = 23 ∨ t = 3
    · replace hX := of_ite_pos hX c2
      replace hP := of_ite_pos hP (beq_or2.mpr c2)
      by_cases h2 : 2 ≤ body.length
      · rw [readN_ge h2] at hP
        extract_lets +onlyGivenNames reserved_2 rd15 at hX
        rw [show rd15 = _ from akaU_readFull_ge _ _ h2] at hX
        replace hX := of_ite_neg (of_ite_neg hX (fun h => h rfl)) (fun h => h rfl)
        simp -zeta only [beU16_take2 body h2, Res.bind_ok, u16_add4, u16_sub4] at hX
        dsimp only at hP
        generalize be16 (byteAt (body.take 2) 0) (byteAt (body.take 2) 1) = bits at hX hP
        by_cases ct : len.toUInt16 * 4 < bits / 8 + 4
        · cases of_ite_pos hP ct
          exact (of_ite_pos hX ct).symm
        · replace hX := of_ite_neg hX ct
          replace hP := of_ite_neg hP ct
          by_cases hv : (bits / 8).toNat ≤ (body.drop 2).length
          · rw [readN_ge hv] at hP
            extract_lets +onlyGivenNames paddingLen attr rd17 at hX
            rw [show rd17 = _ from akaU_readFull_ge _ _ hv] at hX
            replace hX := of_ite_neg (of_ite_neg hX (fun h => h rfl)) (fun h => h rfl)
            by_cases cp : len.toUInt16 * 4 - bits / 8 - 4 > 0
            · replace hX := of_ite_pos hX cp
              replace hP := of_ite_pos hP cp
              by_cases hp : (len.toUInt16 * 4 - bits / 8 - 4).toNat ≤ ((body.drop 2).drop (bits / 8).toNat).length
              · rw [readN_ge hp] at hP
                extract_lets +onlyGivenNames padding rd18 at hX
                rw [show rd18 = _ from akaU_readFull_ge _ _ hp] at hX
                replace hX := of_ite_neg hX (fun h => h rfl)
                subst hP hX
                refine ⟨rfl, ?_⟩
                simp only [jp9, hl, Go.mapSet, Res.bind_ok, List.drop_drop, Nat.add_assoc]
                exact ⟨_, _, rfl⟩
              · rw [readN_lt hp] at hP
                subst hP
                extract_lets +onlyGivenNames padding rd18 at hX
                exact (of_ite_pos hX (akaU_readFull_short hp).2).symm
            · replace hX := of_ite_neg hX cp
              replace hP := of_ite_neg hP cp
              subst hP hX
              refine ⟨rfl, ?_⟩
              simp only [jp9, hl, Go.mapSet, Res.bind_ok, List.drop_drop]
              exact ⟨_, _, rfl⟩
          · rw [readN_lt hv] at hP
            subst hP
            extract_lets +onlyGivenNames paddingLen attr rd17 at hX
            exact (of_ite_pos hX (akaU_readFull_short hv).1).symm
      · rw [readN_lt h2] at hP
        subst hP
        exact (of_ite_pos hX (akaU_readFull_short h2).1).symm
    · replace hX := of_ite_neg hX c2
      replace hP := of_ite_neg hP (mt beq_or2.mp c2)
      -- AT_KDF: `4 * len - 2` octets of value, no reserved field
      by_cases c3 : t = 24
      · replace hX := of_ite_pos hX c3
        replace hP := of_ite_pos hP ((u8_beq _ _).mpr c3)
        dsimp only at hP
        by_cases hv : (4 * len - 1 - 1).toNat ≤ body.length
        · rw [readN_ge hv] at hP
          extract_lets +onlyGivenNames valLen_2 attr rd14 at hX
          rw [show rd14 = _ from akaU_readFull_ge _ _ hv] at hX
          replace hX := of_ite_neg (of_ite_neg hX (fun h => h rfl)) (fun h => h rfl)
          subst hP hX
          refine ⟨rfl, ?_⟩
          simp only [jp9, hl, Go.mapSet, Res.bind_ok]
          exact ⟨_, _, rfl⟩
        · rw [readN_lt hv] at hP
          subst hP
          extract_lets +onlyGivenNames valLen_2 attr rd14 at hX
          exact (of_ite_pos hX (akaU_readFull_short hv).1).symm
      · replace hX := of_ite_neg hX c3
        replace hP := of_ite_neg hP (mt (u8_beq _ _).mp c3)
        -- any other type: two reserved octets and `4 * len - 4` octets of value; `len = 0` is refused
        by_cases c0 : len = 0
        · cases of_ite_pos hP ((u8_beq _ _).mpr c0)
          exact (of_ite_pos hX c0).symm
        · replace hX := of_ite_neg hX c0
          replace hP := of_ite_neg hP (mt (u8_beq _ _).mp c0)
          by_cases h2 : 2 ≤ body.length
          · rw [readN_ge h2] at hP
            extract_lets +onlyGivenNames reserved rd10 at hX
            rw [show rd10 = _ from akaU_readFull_ge _ _ h2] at hX
            replace hX := of_ite_neg hX (fun h => h.elim (· rfl) (· rfl))
            have hI : 4 * (len.toNat : Int) - 1 - 1 - 2 = ((4 * len.toNat - 4 : Nat) : Int) := by
              have : len.toNat ≠ 0 := fun h => c0 (UInt8.toNat_inj.mp h)
              omega
            simp only [beU16_take2 body h2, Res.bind_ok, hI, Go.make_natCast] at hX
            dsimp only at hP
            by_cases hv : 4 * len.toNat - 4 ≤ (body.drop 2).length
            · rw [readN_ge hv] at hP
              rw [akaU_readFull_ge _ _ hv] at hX
              replace hX := of_ite_neg hX (fun h => h.elim (· rfl) (· rfl))
              subst hP hX
              refine ⟨rfl, ?_⟩
              simp only [jp9, hl, Go.mapSet, Res.bind_ok, List.drop_drop]
              exact ⟨_, _, rfl⟩
            · rw [readN_lt hv] at hP
              subst hP
              exact (of_ite_pos hX (Or.inl (akaU_readFull_short hv).1)).symm
          · rw [readN_lt h2] at hP
            subst hP
            extract_lets +onlyGivenNames reserved rd10 at hX
            exact (of_ite_pos hX (Or.inl (akaU_readFull_short h2).1)).symm

theorem akaUnmarshal_loop1_nil (fuel : Nat) (g : Gen.eap.EapAkaPrime) (e0 : Go.Err) (n0 : Int) :
    EapAkaPrime.Unmarshal.loop1 (fuel + 1) g e0 n0 [] = .ok (g, Go.Err.eof, n0, []) := by
  unfold EapAkaPrime.Unmarshal.loop1
  simp [akaU_readByte_nil]

theorem akaUnmarshal_loop1_single (fuel : Nat) (g : Gen.eap.EapAkaPrime) (e0 : Go.Err) (n0 : Int) (t : UInt8) :
    EapAkaPrime.Unmarshal.loop1 (fuel + 1) g e0 n0 [t] = .ok (g, Go.Err.eof, n0, []) := by
  unfold EapAkaPrime.Unmarshal.loop1
  simp [akaU_readByte_nil, akaU_readByte_cons]

/-- result of the generated loop related to the result of the model's loop -/
def AkaLoopRel (g : Gen.eap.EapAkaPrime) (x : Res (Gen.eap.EapAkaPrime × Go.Err × Int × Go.Reader))
    (y : Res (List AkaAttr)) : Prop :=
  match x with
  | .ok s => ∃ l', s.1 = { g with attributes := some l' } ∧ EntriesWF l' ∧ y = .ok (GenAbs.absAkaEntries l')
  | .err => y = .err
  | .fault => False

theorem akaU_unmarshalAkaAttrs_err (t len : UInt8) (body : Bytes) (acc : List AkaAttr)
    (hp : parseAkaBody t len body = .err) : unmarshalAkaAttrs (t :: len :: body) acc = .err := by
  rw [unmarshalAkaAttrs]
  simp only [hp]

theorem akaUnmarshal_loop1_spec (fuel : Nat) : ∀ (r : Bytes) (g : Gen.eap.EapAkaPrime) (l : List (UInt8 × Gen.eap.EapAkaPrimeAttr))
    (e0 : Go.Err) (n0 : Int), r.length < fuel → g.attributes = some l → EntriesWF l →
    AkaLoopRel g (EapAkaPrime.Unmarshal.loop1 fuel g e0 n0 r) (unmarshalAkaAttrs r (GenAbs.absAkaEntries l)) := by
  induction fuel with
  | zero => intro r g l e0 n0 h; omega
  | succ fuel ih =>
    intro r g l e0 n0 hf hl hwf
    match r with
    | [] =>
      rw [akaUnmarshal_loop1_nil, unmarshalAkaAttrs]
      exact ⟨l, by cases g; simp only at hl; subst hl; rfl, hwf, rfl⟩
    | [t] =>
      rw [akaUnmarshal_loop1_single, unmarshalAkaAttrs]
      exact ⟨l, by cases g; simp only at hl; subst hl; rfl, hwf, rfl⟩
    | t :: len :: body =>
      have hstep := akaUnmarshal_loop1_step fuel g l hl e0 n0 t len body
      cases hp : parseAkaBody t len body with
      | fault => rw [hp] at hstep; exact hstep.elim
      | err =>
        rw [hp] at hstep
        simp only at hstep
        rw [hstep, akaU_unmarshalAkaAttrs_err _ _ _ _ hp]
        rfl
      | ok p =>
        obtain ⟨a, k⟩ := p
        rw [hp] at hstep
        obtain ⟨rfl, e, n, heq⟩ := hstep
        have hk := parseAkaBody_len _ len body a k hp
        rw [heq, unmarshalAkaAttrs_cons _ _ _ _ _ _ hp hk]
        have hlen : (body.drop k).length < fuel := by
          rw [List.length_drop]; simp only [List.length_cons] at hf; omega
        have habs : GenAbs.absAkaEntries (Go.mapSetList l a.atype (GenAbs.repAkaAttr a)) =
            akaInsert (GenAbs.absAkaEntries l) a :=
          (absAkaEntries_mapSet l (GenAbs.repAkaAttr a) hwf).trans (congrArg _ (absAkaAttr_repAkaAttr a))
        have := ih (body.drop k) { g with attributes := some (Go.mapSetList l a.atype (GenAbs.repAkaAttr a)) } _
          e n hlen rfl (entriesWF_mapSet l (GenAbs.repAkaAttr a) hwf)
        rw [habs] at this
        exact this

/-- the wrapper: header of four octets, then the loop on a fresh (empty, non-nil) map -/
theorem akaUnmarshal_spec (raw : Bytes) :
    match EapAkaPrime.Unmarshal {} raw with
    | .ok g => GenAbs.AkaWF g ∧ unmarshalAka raw = .ok (GenAbs.absAka g)
    | .err => unmarshalAka raw = .err
    | .fault => False := by
  match raw with
  | [] | [_] | [_, _] | [_, _, _] => rfl
  | a :: b :: c :: d :: rest =>
    have hm : unmarshalAka (a :: b :: c :: d :: rest) =
        if (a != 50) = true then .err else unmarshalAkaAttrs rest [] >>= fun attrs => .ok ⟨b, be16 c d, attrs⟩ := rfl
    rw [hm]
    generalize hX : EapAkaPrime.Unmarshal {} (a :: b :: c :: d :: rest) = X
    rw [EapAkaPrime.Unmarshal] at hX
    replace hX := of_ite_neg (of_ite_neg hX (by simp)) (fun h => h rfl)
    by_cases ha : a = 50
    · replace hX := of_ite_neg (of_ite_neg hX (fun h => h ha)) (fun h => h rfl)
      extract_lets +onlyGivenNames eapAkaPrime buf rd3 at hX
      rw [show rd3 = _ from akaU_readFull_ge _ 2 (Nat.le_add_left 2 rest.length)] at hX
      replace hX := of_ite_neg (of_ite_neg hX (fun h => h rfl)) (fun h => h rfl)
      dsimp -zeta only [Go.readByte, List.take_succ_cons, List.take_zero, List.drop_succ_cons, List.drop_zero] at hX
      rw [show Go.beU16 [c, d] = .ok (be16 c d) from rfl, Res.bind_ok] at hX
      replace hX : (EapAkaPrime.Unmarshal.loop1 (rest.length + 2) { subType := b, reserved := be16 c d, attributes := some [] }
          Go.Err.none 2 rest >>= fun s => .ok s.1) = X := of_ite_pos hX rfl
      have hloop := akaUnmarshal_loop1_spec (rest.length + 2) rest
        { subType := b, reserved := be16 c d, attributes := some [] } [] Go.Err.none 2 (by omega) rfl entriesWF_nil
      rw [absAkaEntries_nil] at hloop
      have hb : (a != 50) = false := by rw [ha]; rfl
      subst hX
      cases hres : EapAkaPrime.Unmarshal.loop1 (rest.length + 2)
          { subType := b, reserved := be16 c d, attributes := some [] } Go.Err.none 2 rest with
      | fault => rw [hres] at hloop; exact hloop.elim
      | err =>
        rw [hres] at hloop
        have : unmarshalAkaAttrs rest [] = .err := hloop
        simp only [this, Res.bind_err, hb, Bool.false_eq_true, if_false]
      | ok s =>
        rw [hres] at hloop
        obtain ⟨l', hs, hwf, hm⟩ := hloop
        simp only [hm, Res.bind_ok, hs, hb, Bool.false_eq_true, if_false]
        exact ⟨hwf, rfl⟩
    · have : (a != 50) = true := (u8_bne a 50).mpr ha
      rw [if_pos this, ← of_ite_pos hX ha]

theorem EapAkaPrime_Unmarshal_refines (raw : Bytes) :
    (EapAkaPrime.Unmarshal {} raw).map GenAbs.absAka = unmarshalAka raw := by
  have h := akaUnmarshal_spec raw
  cases hres : EapAkaPrime.Unmarshal {} raw with
  | fault => rw [hres] at h; exact h.elim
  | err => rw [hres] at h; rw [show unmarshalAka raw = .err from h]; rfl
  | ok g => rw [hres] at h; rw [h.2]; rfl

theorem EapAkaPrime_Unmarshal_wf (raw : Bytes) (g : Gen.eap.EapAkaPrime)
    (h : EapAkaPrime.Unmarshal {} raw = .ok g) : GenAbs.AkaWF g := by
  have h' := akaUnmarshal_spec raw
  rw [h] at h'
  exact h'.1

end Ike.RefineEap
