import IkeProofs.RefineEap.Glue
import IkeModel.Generated.Gen_lib
import IkeModel.EapMac
import IkeModel.EapKeys
import IkeModel.Security.Sa
import IkeModel.GenAbsSa
import IkeProofs.Lemmas.PrimsReal

/-! The functions of package `eap` and `security/lib` that use a cryptographic primitive, as translated
(`Ike.Gen.eap.EapAkaPrimePRF`, `Ike.Gen.eap.EAP.CalcEapAkaPrimeAtMAC`, `Ike.Gen.lib.PrfPlus`) compute
what the hand-written model computes (`akaPrf`, `calcEapAkaPrimeAtMAC`, `prfPlus`), for every
primitives record `P : Prims`.

Two of the three need a hypothesis on the LENGTH of what `P.mac` returns (nothing else of
`Prims.Lawful`), because the model truncates with `List.take`/`List.drop` where Go slices (and so
panics on a short operand); the counter-examples without the hypothesis are proved at the end
(`CalcEapAkaPrimeAtMAC_needs_len`, `PrfPlus_needs_len`). -/


namespace Ike.RefineEap
open Ike Ike.Gen.eap Ike.Refine

/-- a generated `hash.Hash` object as the model's `HashObj` -/
def absMac (m : Go.Mac) : HashObj := ⟨m.h, m.key, m.buf⟩

@[simp] theorem absMac_reset (m : Go.Mac) : absMac (Go.Mac.reset m) = (absMac m).reset := rfl
@[simp] theorem absMac_write (m : Go.Mac) (x : Bytes) : absMac (Go.Mac.write m x) = (absMac m).write x := rfl
@[simp] theorem absMac_sum (P : Prims) (m : Go.Mac) (b : Bytes) : Go.Mac.sum P m b = (absMac m).sum P b := rfl
@[simp] theorem absMac_size (P : Prims) (m : Go.Mac) : Go.Mac.size P m = (absMac m).size P := rfl

/-- `copy(make([]byte, len(v)+1), v)` -/
theorem copyInto_zeros_succ (v : Bytes) :
    Go.copyInto (zeros (v.length + 1)) 0 (zeros (v.length + 1)).length v = Res.ok (v ++ [0], v.length) := by
  unfold Go.copyInto
  have hl : (zeros (v.length + 1)).length = v.length + 1 := by simp [zeros]
  rw [hl]
  rw [if_pos ⟨Nat.zero_le _, Nat.le_refl _⟩]
  have hm : min (v.length + 1 - 0) v.length = v.length := by omega
  simp only [hm, List.take_zero, List.nil_append, List.take_length, Nat.zero_add]
  have : (zeros (v.length + 1)).drop v.length = [0] := by
    simp [zeros, List.drop_replicate]
  rw [this]

theorem setN_last (v : Bytes) (x y : UInt8) : Go.setN (v ++ [x]) v.length y = Res.ok (v ++ [y]) := by
  unfold Go.setN
  rw [if_pos (by simp)]
  simp

/-- the PRF' loop: `7 - i` more rounds -/
theorem EapAkaPrimePRF_loop1_eq (P : Prims) (key sBase : Bytes) :
    ∀ (fuel : Nat) (i : Nat) (MK prev : Bytes), i ≤ 7 → 7 - i + 1 ≤ fuel →
      ∃ pv, EapAkaPrimePRF.loop1 P fuel key sBase sBase.length false MK prev i =
        Res.ok (false, akaPrfLoop P key sBase (7 - i) i MK prev, pv, 7) := by
  intro fuel
  induction fuel with
  | zero => intro i MK prev h1 h2; omega
  | succ f ih =>
    intro i MK prev h1 h2
    unfold EapAkaPrimePRF.loop1
    by_cases hi : i < 7
    · simp only [hi, if_true, copyInto_zeros_succ, Res.bind_ok, setN_last, copyInto_zeros,
        Bool.false_eq_true, if_false]
      obtain ⟨pv, hpv⟩ := ih (i + 1) (MK ++ Go.Mac.sum P (Go.Mac.write (Go.Mac.new 2 key)
        (prev ++ (sBase ++ [UInt8.ofNat (i + 1)]))) []) (Go.Mac.sum P (Go.Mac.write (Go.Mac.new 2 key)
        (prev ++ (sBase ++ [UInt8.ofNat (i + 1)]))) []) (by omega) (by omega)
      refine ⟨pv, ?_⟩
      rw [hpv]
      have e : 7 - i = (7 - (i + 1)) + 1 := by omega
      rw [e, akaPrfLoop]
      simp [Go.Mac.sum, Go.Mac.write, Go.Mac.new]
    · have h7 : i = 7 := by omega
      subst h7
      exact ⟨prev, by simp [akaPrfLoop]⟩

theorem EapAkaPrimePRF_refines (P : Prims) (ik ck ident : Bytes) :
    (Gen.eap.EapAkaPrimePRF P ik ck ident).map (fun k => (⟨k.1, k.2.1, k.2.2.1, k.2.2.2.1, k.2.2.2.2⟩ : AkaKeys)) = akaPrf P ik ck ident := by
  unfold Gen.eap.EapAkaPrimePRF akaPrf
  by_cases h0 : ik.length = 0 ∨ ck.length = 0
  · have : (ik.length = 0 || ck.length = 0) = true := by simpa using h0
    simp only [h0, this, if_true, map_err']
  · have : ¬ (ik.length = 0 || ck.length = 0) = true := by simpa using h0
    simp only [h0, this, if_false]
    obtain ⟨pv, hpv⟩ := EapAkaPrimePRF_loop1_eq P (zeros 0 ++ ik ++ ck) ([69, 65, 80, 45, 65, 75, 65, 39] ++ ident)
      (7 - 0 + 2) 0 (zeros 0) (zeros 0) (by omega) (by omega)
    rw [hpv]
    simp only [Res.bind_ok]
    have hk : zeros 0 ++ ik ++ ck = ik ++ ck := by simp [zeros]
    have hz : zeros 0 = ([] : Bytes) := rfl
    have hl : ([69, 65, 80, 45, 65, 75, 65, 39] : Bytes) = akaLabel := rfl
    have hr : akaPrfRounds = 7 - 0 := rfl
    rw [hk, hz, hl, hr]
    generalize akaPrfLoop P (ik ++ ck) (akaLabel ++ ident) (7 - 0) 0 [] [] = mk
    by_cases hm : mk.length < 208
    · simp [hm]
    · simp only [hm, if_false]
      simp only [Res.map_bind, map_ok']
      rfl

theorem initMAC_wf (g : Gen.eap.EapAkaPrime) (hwf : GenAbs.AkaWF g) (g' : Gen.eap.EapAkaPrime)
    (h : EapAkaPrime.initMAC g = .ok g') : GenAbs.AkaWF g' := by
  unfold EapAkaPrime.initMAC at h
  dsimp only at h
  cases hs : EapAkaPrime.SetAttr g 11 (zeros 16) with
  | ok a =>
    rw [hs, Res.bind_ok] at h
    cases h
    exact SetAttr_wf g hwf 11 (zeros 16) _ hs
  | err => rw [hs] at h; cases h
  | fault => rw [hs] at h; cases h

/-- `hmac.New(sha256.New, key)`, one `Write`, `Sum(nil)` -/
theorem mac_once (P : Prims) (key x : Bytes) :
    Go.Mac.sum P (Go.Mac.write (Go.Mac.new 2 key) x) [] = P.mac 2 key x := by
  simp [Go.Mac.sum, Go.Mac.write, Go.Mac.new]

/-- everything `CalcEapAkaPrimeAtMAC` does, with the packet it leaves on success -/
theorem CalcEapAkaPrimeAtMAC_eq (P : Prims) (e : Gen.eap.EAP) (hwf : EapWF e) (key : Bytes) :
    Gen.eap.EAP.CalcEapAkaPrimeAtMAC P e key =
      (match e.EapTypeData with
       | .nil_ => Res.fault
       | .EapAkaPrime g =>
         (EapAkaPrime.initMAC g) >>= fun g' =>
         (marshalEap (GenAbs.absEap { e with EapTypeData := .EapAkaPrime g' })) >>= fun bytes =>
         (goSlice (P.mac 2 key bytes) 0 16) >>= fun m =>
         Res.ok ({ e with EapTypeData := .EapAkaPrime g' }, m)
       | _ => Res.err) := by
  obtain ⟨c, i, d⟩ := e
  unfold Gen.eap.EAP.CalcEapAkaPrimeAtMAC
  cases d with
  | nil_ => rfl
  | EapAkaPrime g =>
    simp only [EapTypeData.Type_, EapAkaPrime.Type_, Res.bind_ok, ne_eq, not_true_eq_false, if_false]
    cases hi : EapAkaPrime.initMAC g with
    | ok g' =>
      simp only [Res.bind_ok]
      have hwf' : EapWF { Code := c, Identifier := i, EapTypeData := .EapAkaPrime g' } :=
        initMAC_wf g hwf g' hi
      rw [Gen_EAP_Marshal _ hwf']
      cases marshalEap (GenAbs.absEap { Code := c, Identifier := i, EapTypeData := .EapAkaPrime g' }) with
      | ok bytes => simp only [Res.bind_ok, Bool.false_eq_true, if_false, mac_once]
      | err => rfl
      | fault => rfl
    | err => rfl
    | fault => rfl
  | EapExpanded v => rfl
  | EapIdentity v => rfl
  | EapNak v => rfl
  | EapNotification v => rfl

theorem CalcEapAkaPrimeAtMAC_refines (P : Prims) (hlen : ∀ k m, 16 ≤ (P.mac 2 k m).length)
    (e : Gen.eap.EAP) (hwf : EapWF e) (key : Bytes) :
    (Gen.eap.EAP.CalcEapAkaPrimeAtMAC P e key).map (fun r => (GenAbs.absEap r.1, r.2)) =
      (match calcEapAkaPrimeAtMAC P (GenAbs.absEap e) key with
       | (e', .ok m) => Res.ok (e', m) | (_, .err) => Res.err | (_, .fault) => Res.fault) := by
  rw [CalcEapAkaPrimeAtMAC_eq P e hwf key]
  obtain ⟨c, i, d⟩ := e
  unfold calcEapAkaPrimeAtMAC
  cases d with
  | nil_ => rfl
  | EapAkaPrime g =>
    simp only [GenAbs.absEap, GenAbs.absEapData, akaInitMac]
    rw [← initMAC_refines g hwf]
    cases hi : EapAkaPrime.initMAC g with
    | ok g' =>
      simp only [Res.bind_ok, map_ok']
      cases marshalEap ⟨c, i, .aka (GenAbs.absAka g')⟩ with
      | ok bytes => simp only [Res.bind_ok, goSlice_ok (Nat.zero_le 16) (hlen _ _), List.drop_zero, map_ok']
      | err => rfl
      | fault => rfl
    | err => rfl
    | fault => rfl
  | EapExpanded v => rfl
  | EapIdentity v => rfl
  | EapNak v => rfl
  | EapNotification v => rfl

theorem CalcEapAkaPrimeAtMAC_wf (P : Prims) (e : Gen.eap.EAP) (hwf : EapWF e) (key : Bytes) (e' : Gen.eap.EAP) (m : Bytes)
    (h : Gen.eap.EAP.CalcEapAkaPrimeAtMAC P e key = .ok (e', m)) : EapWF e' := by
  rw [CalcEapAkaPrimeAtMAC_eq P e hwf key] at h
  obtain ⟨c, i, d⟩ := e
  cases d with
  | EapAkaPrime g =>
    simp only at h
    cases hi : EapAkaPrime.initMAC g with
    | ok g' =>
      rw [hi, Res.bind_ok] at h
      cases hm : marshalEap (GenAbs.absEap { Code := c, Identifier := i, EapTypeData := .EapAkaPrime g' }) with
      | ok bytes =>
        rw [hm, Res.bind_ok] at h
        cases hs : goSlice (P.mac 2 key bytes) 0 16 with
        | ok t =>
          rw [hs, Res.bind_ok, Res.ok.injEq, Prod.mk.injEq] at h
          rw [← h.1]
          exact initMAC_wf g hwf g' hi
        | err => rw [hs] at h; cases h
        | fault => rw [hs] at h; cases h
      | err => rw [hm] at h; cases h
      | fault => rw [hm] at h; cases h
    | err => rw [hi] at h; cases h
    | fault => rw [hi] at h; cases h
  | nil_ => cases h
  | EapExpanded v => cases h
  | EapIdentity v => cases h
  | EapNak v => cases h
  | EapNotification v => cases h

/-- the model's `HashObj` as a generated `hash.Hash` object (inverse of `absMac`) -/
def repMac (h : HashObj) : Go.Mac := { h := h.alg, key := h.key, buf := h.buf }

/-- the SA-level abstraction `GenAbsSa` has the same pair under its own names -/
theorem absMac_eq_genAbsSa : absMac = GenAbsSa.absMac ∧ repMac = GenAbsSa.repMac := ⟨rfl, rfl⟩

@[simp] theorem repMac_absMac (m : Go.Mac) : repMac (absMac m) = m := rfl
@[simp] theorem absMac_repMac (h : HashObj) : absMac (repMac h) = h := rfl

theorem sliceFrom_ok_or_fault {α : Type} (l : List α) (lo : Int) :
    (∃ r, Go.sliceFrom l lo = Res.ok r) ∨ Go.sliceFrom l lo = Res.fault := by
  unfold Go.sliceFrom
  split
  · exact Or.inl ⟨_, rfl⟩
  · exact Or.inr rfl

/-- The loop of `PrfPlus` for an arbitrary accumulated state (`stream`, `block`, `i`), for every fuel:
with one unit of fuel more than the model's loop it ends in the state the model's loop ends in,
provided that state's stream is long enough, and is out of fuel (`fault`) otherwise.  The branch
`Sum.inr` (`return nil` after a failing `Write`) is never taken.

`hlen` (every digest of hash `prf.h` is at least `Size()` octets long) is what keeps
`stream[len(stream)-prf.Size():]` in range. -/
theorem PrfPlus_loop1_eq (P : Prims) (s : Bytes) (n : Nat) :
    ∀ (fuel : Nat) (prf : Go.Mac) (stream block : Bytes) (i : Nat),
      (∀ k m, P.macLen prf.h ≤ (P.mac prf.h k m).length) →
      ∃ blk j, Gen.lib.PrfPlus.loop1 P (fuel + 1) s (n : Int) prf stream block i =
        (if (prfPlusLoop P s n fuel (absMac prf) i stream block).2.length < n then Res.fault
         else Res.ok (Sum.inl (repMac (prfPlusLoop P s n fuel (absMac prf) i stream block).1,
                               (prfPlusLoop P s n fuel (absMac prf) i stream block).2, blk, j))) := by
  intro fuel
  induction fuel with
  | zero =>
    intro prf stream block i hlen
    unfold Gen.lib.PrfPlus.loop1 prfPlusLoop
    by_cases c : stream.length < n
    · have c' : (stream.length : Int) < (n : Int) := Int.ofNat_lt.mpr c
      refine ⟨[], 0, ?_⟩
      simp only [c, c', if_true, Bool.false_eq_true, if_false]
      unfold Gen.lib.PrfPlus.loop1
      rcases sliceFrom_ok_or_fault (Go.Mac.sum P (Go.Mac.write (Go.Mac.reset prf) (block ++ s ++ [UInt8.ofNat i])) stream)
        (((Go.Mac.sum P (Go.Mac.write (Go.Mac.reset prf) (block ++ s ++ [UInt8.ofNat i])) stream).length : Int) -
          ((Go.Mac.size P (Go.Mac.write (Go.Mac.reset prf) (block ++ s ++ [UInt8.ofNat i])) : Nat) : Int)) with ⟨r, hr⟩ | hr
      · rw [hr]; rfl
      · rw [hr]; rfl
    · have c' : ¬ (stream.length : Int) < (n : Int) := fun h => c (Int.ofNat_lt.mp h)
      refine ⟨block, i, ?_⟩
      simp only [c, c', if_false, repMac_absMac]
  | succ f ih =>
    intro prf stream block i hlen
    unfold Gen.lib.PrfPlus.loop1 prfPlusLoop
    by_cases c : stream.length < n
    · have c' : (stream.length : Int) < (n : Int) := Int.ofNat_lt.mpr c
      simp only [c, c', if_true, Bool.false_eq_true, if_false]
      have hsz : Go.Mac.size P (Go.Mac.write (Go.Mac.reset prf) (block ++ s ++ [UInt8.ofNat i])) ≤
          (Go.Mac.sum P (Go.Mac.write (Go.Mac.reset prf) (block ++ s ++ [UInt8.ofNat i])) stream).length := by
        have := hlen prf.key (block ++ s ++ [UInt8.ofNat i])
        simp only [Go.Mac.size, Go.Mac.sum, Go.Mac.write, Go.Mac.reset, List.length_append, List.nil_append]
        omega
      rw [Go.sliceFrom_len_sub _ _ hsz]
      simp only [Res.bind_ok]
      exact ih (Go.Mac.write (Go.Mac.reset prf) (block ++ s ++ [UInt8.ofNat i])) _ _ (i + 1) hlen
    · have c' : ¬ (stream.length : Int) < (n : Int) := fun h => c (Int.ofNat_lt.mp h)
      refine ⟨block, i, ?_⟩
      simp only [c, c', if_false, repMac_absMac]

theorem PrfPlus_refines (P : Prims) (prf : Go.Mac) (hlen : ∀ k m, P.macLen prf.h ≤ (P.mac prf.h k m).length)
    (s : Bytes) (n : Nat) :
    (Gen.lib.PrfPlus P prf s (n : Int)).map (fun r => (absMac r.1, r.2)) =
      (match prfPlus P (absMac prf) s n with | (h', .ok b) => Res.ok (h', b) | (_, .err) => Res.err | (_, .fault) => Res.fault) := by
  unfold Gen.lib.PrfPlus prfPlus
  have hf : ((n : Int) - (([] : Bytes).length : Int)).toNat + 2 = (n + 1) + 1 := by
    simp only [List.length_nil]; omega
  simp only [hf]
  obtain ⟨blk, j, h⟩ := PrfPlus_loop1_eq P s n (n + 1) prf [] [] 1 hlen
  rw [h]
  generalize prfPlusLoop P s n (n + 1) (absMac prf) 1 [] [] = r
  obtain ⟨h', stream⟩ := r
  by_cases c : stream.length < n
  · have : ¬ n ≤ stream.length := Nat.not_le.mpr c
    simp [c, goTo, this]
  · have c2 : n ≤ stream.length := Nat.le_of_not_lt c
    have c3 : (0 : Int) ≤ (n : Int) ∧ (n : Int) ≤ (stream.length : Int) := ⟨Int.natCast_nonneg n, Int.ofNat_le.mpr c2⟩
    simp [c, goTo, c2, Go.sliceTo, c3]

theorem CalcEapAkaPrimeAtMAC_refines_lawful (P : Prims) (hP : P.Lawful) (h16 : 16 ≤ P.macLen 2)
    (e : Gen.eap.EAP) (hwf : EapWF e) (key : Bytes) :
    (Gen.eap.EAP.CalcEapAkaPrimeAtMAC P e key).map (fun r => (GenAbs.absEap r.1, r.2)) =
      (match calcEapAkaPrimeAtMAC P (GenAbs.absEap e) key with
       | (e', .ok m) => Res.ok (e', m) | (_, .err) => Res.err | (_, .fault) => Res.fault) :=
  CalcEapAkaPrimeAtMAC_refines P (fun k m => by rw [hP.mac_len]; exact h16) e hwf key

theorem CalcEapAkaPrimeAtMAC_refines_real (e : Gen.eap.EAP) (hwf : EapWF e) (key : Bytes) :
    (Gen.eap.EAP.CalcEapAkaPrimeAtMAC Prims.real e key).map (fun r => (GenAbs.absEap r.1, r.2)) =
      (match calcEapAkaPrimeAtMAC Prims.real (GenAbs.absEap e) key with
       | (e', .ok m) => Res.ok (e', m) | (_, .err) => Res.err | (_, .fault) => Res.fault) :=
  CalcEapAkaPrimeAtMAC_refines_lawful Prims.real Prims.real_lawful (by decide) e hwf key

theorem PrfPlus_refines_lawful (P : Prims) (hP : P.Lawful) (prf : Go.Mac) (s : Bytes) (n : Nat) :
    (Gen.lib.PrfPlus P prf s (n : Int)).map (fun r => (absMac r.1, r.2)) =
      (match prfPlus P (absMac prf) s n with | (h', .ok b) => Res.ok (h', b) | (_, .err) => Res.err | (_, .fault) => Res.fault) :=
  PrfPlus_refines P prf (fun k m => by rw [hP.mac_len]; exact Nat.le_refl _) s n

theorem PrfPlus_refines_real (prf : Go.Mac) (s : Bytes) (n : Nat) :
    (Gen.lib.PrfPlus Prims.real prf s (n : Int)).map (fun r => (absMac r.1, r.2)) =
      (match prfPlus Prims.real (absMac prf) s n with | (h', .ok b) => Res.ok (h', b) | (_, .err) => Res.err | (_, .fault) => Res.fault) :=
  PrfPlus_refines_lawful Prims.real Prims.real_lawful prf s n

/-- a primitives record whose MAC is empty (shorter than the 16 octets `sum[:16]` needs) -/
def shortMacPrims : Prims := ⟨fun _ _ _ => [], fun _ => 0, fun _ b => b, fun _ b => b⟩

/-- Without `hlen` the statement of `CalcEapAkaPrimeAtMAC_refines` is false: with an empty MAC the Go code
panics in `sum[:16]` (generated: `fault`) while the model's `take 16` returns the short MAC. -/
theorem CalcEapAkaPrimeAtMAC_needs_len :
    ∃ (P : Prims) (e : Gen.eap.EAP) (_ : EapWF e) (key : Bytes),
      Gen.eap.EAP.CalcEapAkaPrimeAtMAC P e key = Res.fault ∧
      (calcEapAkaPrimeAtMAC P (GenAbs.absEap e) key).2 = Res.ok [] := by
  refine ⟨shortMacPrims, { Code := 1, Identifier := 0, EapTypeData := .EapAkaPrime { subType := 1, attributes := some [] } }, ?_, [], ?_, ?_⟩
  · exact NewEapAkaPrime_wf 1 _ rfl
  · decide
  · decide

/-- a primitives record whose MAC (1 octet) is shorter than the `Size()` it announces (2) -/
def shortSizePrims : Prims := ⟨fun _ _ _ => [0], fun _ => 2, fun _ b => b, fun _ b => b⟩

/-- Without `hlen` the statement of `PrfPlus_refines` is false: when a digest is shorter than `Size()`
the Go code panics in `stream[len(stream)-prf.Size():]` (generated: `fault`) while the model's
`drop (len - size)` (natural-number subtraction) keeps the whole stream and goes on. -/
theorem PrfPlus_needs_len :
    ∃ (P : Prims) (prf : Go.Mac) (s : Bytes) (n : Nat),
      Gen.lib.PrfPlus P prf s (n : Int) = Res.fault ∧ (prfPlus P (absMac prf) s n).2 = Res.ok [0] := by
  refine ⟨shortSizePrims, {}, [], 1, ?_, ?_⟩
  · decide
  · decide

end Ike.RefineEap
