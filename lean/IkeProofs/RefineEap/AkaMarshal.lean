import IkeProofs.Refine.Basic
import IkeModel.GenAbsEap
import IkeProofs.RefineEap.AkaMap

/-! Package `eap`: `EapAkaPrime.getAttrsKeys` and `EapAkaPrime.Marshal` as generated ⊑ the
hand-written model (`marshalAka`).  The generated code iterates over the sorted keys of the
attribute map and looks every key up; the model iterates over its list sorted by type. -/


namespace Ike.RefineEap
open Ike Ike.Gen.eap

theorem getAttrsKeys_loop1_eq (xs : List (UInt8 × Gen.eap.EapAkaPrimeAttr)) (idx : Nat)
    (result : List UInt8) :
    EapAkaPrime.getAttrsKeys.loop1 xs idx result = Res.ok (result ++ xs.map (·.1)) := by
  induction xs generalizing idx result with
  | nil => unfold EapAkaPrime.getAttrsKeys.loop1; simp
  | cons p rest ih =>
    unfold EapAkaPrime.getAttrsKeys.loop1
    dsimp only
    rw [ih]
    simp

theorem getAttrsKeys_eq (g : Gen.eap.EapAkaPrime) :
    EapAkaPrime.getAttrsKeys g = Res.ok (Go.sortU8 ((Go.mapEntries g.attributes).map (·.1))) := by
  unfold EapAkaPrime.getAttrsKeys
  simp only [getAttrsKeys_loop1_eq, Res.bind_ok, zeros, List.replicate_zero, List.nil_append]

theorem getAttrsKeys_refines (g : Gen.eap.EapAkaPrime) (hwf : GenAbs.AkaWF g) :
    EapAkaPrime.getAttrsKeys g = Res.ok ((GenAbs.absAka g).attrs.map (·.atype)) := by
  rw [getAttrsKeys_eq, sortU8_keys_abs _ ((AkaWF_iff g).mp hwf)]
  rfl

/-- `v := m[k]` when the association list has `k` -/
theorem mapGet_of_mapGetList (m : Go.Map UInt8 Gen.eap.EapAkaPrimeAttr) (k : UInt8)
    (v : Gen.eap.EapAkaPrimeAttr) (h : Go.mapGetList (Go.mapEntries m) k = some v) :
    (Go.mapGet m k).1 = v := by
  cases m with
  | none => simp [Go.mapEntries, Go.mapGetList] at h
  | some l =>
    unfold Go.mapGet
    simp only [Go.mapEntries] at h
    simp only [h]

/-- the padding computation in `Int` (and `make`, which cannot fault in the positive branch) is the
model's truncated subtraction.  The left-hand side is the generated text of the loop body as it stands
(`4 * L - 1 - 1 - 2 - n`), `K` the rest of that body. -/
theorem padding_eq {β : Type} (L n : Nat) (buf : Bytes) (K : Bytes → Res β) :
    (if ((((((4 : Int) * (L : Int)) - (1 : Int)) - (1 : Int)) - (2 : Int)) - (n : Int)) > (0 : Int) then
        (Go.make (α := UInt8) ((((((4 : Int) * (L : Int)) - (1 : Int)) - (1 : Int)) - (2 : Int)) - (n : Int)))
          >>= fun t4 => K (buf ++ t4)
      else K buf) = K (buf ++ zeros (4 * L - 4 - n)) := by
  by_cases h : 4 + n < 4 * L
  · have e : ((((((4 : Int) * (L : Int)) - (1 : Int)) - (1 : Int)) - (2 : Int)) - (n : Int))
        = ((4 * L - 4 - n : Nat) : Int) := by omega
    rw [e, if_pos (by omega), Go.make_natCast]
    rfl
  · rw [if_neg (by omega), show 4 * L - 4 - n = 0 by omega]
    exact congrArg K (List.append_nil buf).symm

/-- the octets the generated loop body appends for one attribute -/
theorem marshalAkaAttr_abs (a : Gen.eap.EapAkaPrimeAttr) :
    marshalAkaAttr (GenAbs.absAkaAttr a) =
      [a.attrType, a.length_] ++ (if a.attrType ≠ 24 then put16 a.reserved else []) ++ a.value ++
        (if a.attrType = 3 ∨ a.attrType = 23 then zeros (4 * a.length_.toNat - 4 - a.value.length) else []) := by
  unfold marshalAkaAttr GenAbs.absAkaAttr
  simp only [Facts.atKdf, Facts.atRes, Facts.atKdfInput, Refine.u8_bne, Bool.or_eq_true, Refine.u8_beq, ite_not]

/-- the key loop: over keys all of which are present, the loop appends the marshalled attributes -/
theorem marshal_loop1_eq (g : Gen.eap.EapAkaPrime) (ks : List UInt8) (xs : List AkaAttr)
    (h : ks.map (fun k => (Go.mapGetList (Go.mapEntries g.attributes) k).map GenAbs.absAkaAttr)
          = xs.map some)
    (idx : Nat) (buf : Bytes) :
    EapAkaPrime.Marshal.loop1 ks idx g buf false = Res.ok (buf ++ marshalAkaAttrs xs, false) := by
  induction ks generalizing xs idx buf with
  | nil =>
    cases xs with
    | nil => unfold EapAkaPrime.Marshal.loop1; simp [marshalAkaAttrs]
    | cons x rest => simp at h
  | cons k rest ih =>
    cases xs with
    | nil => simp at h
    | cons x xs' =>
      rw [List.map_cons, List.map_cons, List.cons.injEq] at h
      obtain ⟨hk, hrest⟩ := h
      cases hg : Go.mapGetList (Go.mapEntries g.attributes) k with
      | none => rw [hg] at hk; cases hk
      | some v =>
        rw [hg] at hk
        have hx : GenAbs.absAkaAttr v = x := by simpa using hk
        have hv := mapGet_of_mapGetList g.attributes k v hg
        unfold EapAkaPrime.Marshal.loop1
        simp only [hv, EapAkaPrimeAttrType.Value, Res.bind_ok, Bool.false_eq_true, if_false]
        rw [marshalAkaAttrs, ← hx, marshalAkaAttr_abs]
        by_cases h24 : v.attrType = 24
        · have h3 : ¬ (v.attrType = 3 ∨ v.attrType = 23) := by
            rw [h24]; decide
          rw [if_neg (fun hn => hn h24), if_neg h3, if_neg (fun hn => hn h24), if_neg h3, ih xs' hrest]
          simp
        · by_cases h3 : v.attrType = 3 ∨ v.attrType = 23
          · rw [if_pos h24, if_pos h3, if_pos h24, if_pos h3]
            refine (padding_eq v.length_.toNat v.value.length _
              (fun b => EapAkaPrime.Marshal.loop1 rest (idx + 1) g b false)).trans ?_
            rw [ih xs' hrest]
            simp
          · rw [if_pos h24, if_neg h3, if_pos h24, if_neg h3, ih xs' hrest]
            simp

theorem EapAkaPrime_Marshal_refines (g : Gen.eap.EapAkaPrime) (hwf : GenAbs.AkaWF g) :
    EapAkaPrime.Marshal g = marshalAka (GenAbs.absAka g) := by
  have hl := lookup_sorted_keys _ ((AkaWF_iff g).mp hwf)
  unfold EapAkaPrime.Marshal
  simp only [getAttrsKeys_eq, Res.bind_ok, Bool.false_eq_true, if_false]
  rw [marshal_loop1_eq g _ _ hl]
  simp [marshalAka, GenAbs.absAka, Facts.eapTypeAkaPrime]

end Ike.RefineEap
