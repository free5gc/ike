import IkeProofs.RefineEap.Simple
import IkeProofs.RefineEap.AkaMap
import IkeProofs.RefineEap.SetGet
import IkeProofs.RefineEap.AkaUnmarshal
import IkeProofs.RefineEap.AkaMarshal
import IkeProofs.RefineEap.Packet

/-! Package `eap` as translated from the current source (`Ike.Gen.eap.*`) computes exactly what the
hand-written model computes, for every input: the EAP-AKA' method theorems discharge the hypotheses
of the packet-level theorems. -/

namespace Ike.RefineEap
open Ike Ike.Gen.eap

theorem akaRefines : AkaRefines :=
  ⟨EapAkaPrime_Unmarshal_refines, EapAkaPrime_Unmarshal_wf, EapAkaPrime_Marshal_refines⟩

/-- `new(EAP).Unmarshal(b)` -/
theorem Gen_EAP_Unmarshal (b : Bytes) : (EAP.Unmarshal {} b).map GenAbs.absEap = unmarshalEap b :=
  EAP_Unmarshal_refines akaRefines b

theorem Gen_EAP_Unmarshal_wf (b : Bytes) (e : Gen.eap.EAP) (h : EAP.Unmarshal {} b = .ok e) : EapWF e :=
  EAP_Unmarshal_wf akaRefines b e h

/-- `e.Marshal()` for every packet whose EAP-AKA' attribute map satisfies its invariant -/
theorem Gen_EAP_Marshal (e : Gen.eap.EAP) (hwf : EapWF e) : EAP.Marshal e = marshalEap (GenAbs.absEap e) :=
  EAP_Marshal_refines akaRefines e hwf

theorem Gen_EAP_Unmarshal_reuse (old : Gen.eap.EAP) (b : Bytes) (hb : b ≠ []) :
    (EAP.Unmarshal old b).map GenAbs.absEap = unmarshalEap b :=
  EAP_Unmarshal_reuse akaRefines old b hb

/-- an EAP-AKA' method body has its attributes sorted by type (what `repEap` needs to produce a well-formed
generated packet, `repEap_wf`, and to be undone by `absEap`, `absEap_repEap`) -/
def EapSorted (e : Eap) : Prop := match e.data with | .aka a => AkaSorted a.attrs | _ => True

/-- the packets of `DomEap` (the domain of the model's round trip, `C14_roundtrip`) are sorted -/
theorem domEap_sorted (e : Eap) (hd : DomEap e) : EapSorted e := by
  unfold EapSorted
  cases hdata : e.data <;> simp only []
  case aka a =>
    have h := hd.2.1
    rw [hdata] at h
    exact h.2.1

theorem repEap_wf (e : Eap) (hs : EapSorted e) : EapWF (GenAbs.repEap e) := by
  unfold EapWF GenAbs.repEap
  cases hd : e.data <;> simp only [GenAbs.repEapData]
  case aka a =>
    unfold EapSorted at hs; rw [hd] at hs
    exact repAka_wf a hs

theorem absEap_repEap (e : Eap) (hs : EapSorted e) : GenAbs.absEap (GenAbs.repEap e) = e := by
  cases e with
  | mk c i d =>
    unfold GenAbs.absEap GenAbs.repEap
    cases d <;> simp only [GenAbs.repEapData, GenAbs.absEapData]
    case aka a =>
      have : AkaSorted a.attrs := hs
      rw [absAka_repAka a this]

theorem Gen_EAP_Marshal_rep (e : Eap) (hs : EapSorted e) : EAP.Marshal (GenAbs.repEap e) = marshalEap e := by
  rw [Gen_EAP_Marshal _ (repEap_wf e hs), absEap_repEap e hs]

end Ike.RefineEap
