import IkeProofs.Refine.Basic
import IkeModel.GenAbsEap
import IkeProofs.RefineEap.Simple
import IkeProofs.RefineEap.AkaMap

/-! Package `eap`, the packet level: the interface dispatchers `EapTypeData.Marshal` /
`EapTypeData.Unmarshal` and `EAP.Marshal` / `EAP.Unmarshal`, as generated ⊑ the hand-written
model (`marshalEap`, `unmarshalEap`).  The EAP-AKA' method theorems are taken as hypotheses
(`AkaRefines`); they are proved in `AkaMarshal.lean` and `AkaUnmarshal.lean` and supplied in `Glue.lean`. -/

namespace Ike.RefineEap
open Ike Ike.Gen.eap Ike.Refine

/-- the EAP-AKA' method theorems (`AkaMarshal`, `AkaUnmarshal`; assembled in `Glue`), bundled -/
structure AkaRefines : Prop where
  unmarshal : ∀ raw : Bytes, (EapAkaPrime.Unmarshal {} raw).map GenAbs.absAka = unmarshalAka raw
  unmarshal_wf : ∀ (raw : Bytes) (g : Gen.eap.EapAkaPrime), EapAkaPrime.Unmarshal {} raw = .ok g → GenAbs.AkaWF g
  marshal : ∀ g : Gen.eap.EapAkaPrime, GenAbs.AkaWF g → EapAkaPrime.Marshal g = marshalAka (GenAbs.absAka g)

/-- well-formed packet: an EAP-AKA' method body satisfies the attribute-map invariant -/
def EapWF (e : Gen.eap.EAP) : Prop := match e.EapTypeData with | .EapAkaPrime g => GenAbs.AkaWF g | _ => True

/-- the same invariant on a method body alone -/
def EapDataWF (d : Gen.eap.EapTypeData) : Prop := match d with | .EapAkaPrime g => GenAbs.AkaWF g | _ => True

theorem EapWF_iff (e : Gen.eap.EAP) : EapWF e ↔ EapDataWF e.EapTypeData := Iff.rfl

theorem EapTypeData_Marshal_refines (ha : AkaRefines) (d : Gen.eap.EapTypeData) (hn : d ≠ .nil_)
    (hwf : EapDataWF d) : EapTypeData.Marshal d = marshalEapData (GenAbs.absEapData d) := by
  cases d with
  | nil_ => exact absurd rfl hn
  | EapAkaPrime v =>
    simp only [EapTypeData.Marshal, bind_ok_id, GenAbs.absEapData, marshalEapData]
    exact ha.marshal v hwf
  | EapExpanded v =>
    simp only [EapTypeData.Marshal, bind_ok_id, GenAbs.absEapData]
    exact EapExpanded_Marshal_refines v
  | EapIdentity v =>
    simp only [EapTypeData.Marshal, bind_ok_id, GenAbs.absEapData]
    exact EapIdentity_Marshal_refines v
  | EapNak v =>
    simp only [EapTypeData.Marshal, bind_ok_id, GenAbs.absEapData]
    exact EapNak_Marshal_refines v
  | EapNotification v =>
    simp only [EapTypeData.Marshal, bind_ok_id, GenAbs.absEapData]
    exact EapNotification_Marshal_refines v

/-- on the nil interface the method call is a nil dereference -/
theorem EapTypeData_Marshal_nil : EapTypeData.Marshal .nil_ = Res.fault := rfl
theorem EapTypeData_Unmarshal_nil (b : Bytes) : EapTypeData.Unmarshal .nil_ b = Res.fault := rfl

theorem EapTypeData_Unmarshal_identity (b : Bytes) :
    (EapTypeData.Unmarshal (.EapIdentity {}) b).map GenAbs.absEapData
      = unmarshalSimple Facts.eapTypeIdentity .identity b := by
  simp only [EapTypeData.Unmarshal, Res.map_bind_ok]
  exact EapIdentity_Unmarshal_refines b

theorem EapTypeData_Unmarshal_notification (b : Bytes) :
    (EapTypeData.Unmarshal (.EapNotification {}) b).map GenAbs.absEapData
      = unmarshalSimple Facts.eapTypeNotification .notification b := by
  simp only [EapTypeData.Unmarshal, Res.map_bind_ok]
  exact EapNotification_Unmarshal_refines b

theorem EapTypeData_Unmarshal_nak (b : Bytes) :
    (EapTypeData.Unmarshal (.EapNak {}) b).map GenAbs.absEapData
      = unmarshalSimple Facts.eapTypeNak .nak b := by
  simp only [EapTypeData.Unmarshal, Res.map_bind_ok]
  exact EapNak_Unmarshal_refines b

theorem EapTypeData_Unmarshal_expanded (b : Bytes) :
    (EapTypeData.Unmarshal (.EapExpanded {}) b).map GenAbs.absEapData = unmarshalExpanded b := by
  simp only [EapTypeData.Unmarshal, Res.map_bind_ok]
  exact EapExpanded_Unmarshal_refines b

theorem EapTypeData_Unmarshal_aka (ha : AkaRefines) (b : Bytes) :
    (EapTypeData.Unmarshal (.EapAkaPrime {}) b).map GenAbs.absEapData
      = (unmarshalAka b >>= fun a => Res.ok (EapData.aka a)) := by
  simp only [EapTypeData.Unmarshal, Res.map_bind_ok]
  rw [← ha.unmarshal b]
  cases EapAkaPrime.Unmarshal {} b <;> rfl

/-- the dispatcher keeps the dynamic type, and an EAP-AKA' result satisfies the map invariant -/
theorem EapTypeData_Unmarshal_wf (ha : AkaRefines) (d r : Gen.eap.EapTypeData) (b : Bytes)
    (hd : d = .EapAkaPrime {} ∨ ∀ g, d ≠ .EapAkaPrime g)
    (h : EapTypeData.Unmarshal d b = .ok r) : EapDataWF r := by
  cases d with
  | nil_ => cases h
  | EapAkaPrime v =>
    rcases hd with hd | hd
    · cases hd
      obtain ⟨g, hu, h⟩ := Res.bind_eq_ok h
      cases h
      exact ha.unmarshal_wf b g hu
    · exact absurd rfl (hd v)
  | _ =>
    obtain ⟨r, _, h⟩ := Res.bind_eq_ok h
    cases h
    trivial

/-- the four-octet header written by `EAP.Marshal`, with the method body appended before the
length is stored -/
theorem header_putU16 (c i : UInt8) (td : Bytes) :
    Go.putU16 ([c, i, 0, 0] ++ td) 2 4 (UInt16.ofNat ([c, i, 0, 0] ++ td).length)
      = Res.ok ([c, i] ++ put16 (UInt16.ofNat (4 + td.length)) ++ td) := by
  rw [show ([c, i, 0, 0] ++ td).length = 4 + td.length by rw [List.length_append]; rfl]
  exact Go.putU16_mid [c, i] [0, 0] td 2 4 _ rfl rfl rfl

theorem EAP_Marshal_refines (ha : AkaRefines) (e : Gen.eap.EAP) (hwf : EapWF e) :
    EAP.Marshal e = marshalEap (GenAbs.absEap e) := by
  unfold EAP.Marshal marshalEap
  have h1 : Go.setN (zeros 4) 0 e.Code = Res.ok [e.Code, 0, 0, 0] := rfl
  have h2 : Go.setN [e.Code, 0, 0, 0] 1 e.Identifier = Res.ok [e.Code, e.Identifier, 0, 0] := rfl
  simp only [h1, h2, Res.bind_ok, GenAbs.absEap]
  by_cases hn : e.EapTypeData = .nil_
  · simp only [hn, ne_eq, not_true_eq_false, if_false, GenAbs.absEapData, marshalEapData,
      Res.bind_ok]
    rw [bind_ok_id]
    exact header_putU16 e.Code e.Identifier []
  · simp only [ne_eq, hn, not_false_eq_true, if_true]
    rw [EapTypeData_Marshal_refines ha _ hn hwf]
    refine bind_congr fun td => ?_
    rw [bind_ok_id]
    exact header_putU16 e.Code e.Identifier td

/-- decoding into an object that was used before gives the same packet (Go sets Code, Identifier and
EapTypeData afresh).  Both sides are the same chain of reads and tests: the abstraction is pushed to the
leaves, where the dispatcher lemmas apply. -/
theorem EAP_Unmarshal_reuse (ha : AkaRefines) (old : Gen.eap.EAP) (b : Bytes) (hb : b ≠ []) :
    (EAP.Unmarshal old b).map GenAbs.absEap = unmarshalEap b := by
  have hpos : b.length > 0 := List.length_pos_iff.mpr hb
  unfold EAP.Unmarshal unmarshalEap
  by_cases h4 : b.length < 4
  · simp only [hpos, Nat.ne_of_gt hpos, h4, if_true, if_false, map_err']
  have h4' : 4 ≤ b.length := Nat.le_of_not_lt h4
  simp only [hpos, Nat.ne_of_gt hpos, if_true, h4, if_false, u16At_eq _ 2 4 rfl, Res.map_bind, Res.map_ite, map_err',
    map_ok', goFrom_ok h4', Res.bind_ok, u8_beq, u16_beq, Res.bind_err]
  simp only [← EapTypeData_Unmarshal_identity, ← EapTypeData_Unmarshal_notification,
    ← EapTypeData_Unmarshal_nak, ← EapTypeData_Unmarshal_aka ha, ← EapTypeData_Unmarshal_expanded, Res.bind_map]
  rfl

theorem EAP_Unmarshal_refines (ha : AkaRefines) (b : Bytes) :
    (EAP.Unmarshal {} b).map GenAbs.absEap = unmarshalEap b := by
  by_cases hb : b = []
  · subst hb
    simp [EAP.Unmarshal, unmarshalEap, GenAbs.absEap, GenAbs.absEapData]
  · exact EAP_Unmarshal_reuse ha {} b hb

/-- the tail of `EAP.Unmarshal` after the type switch (the join point `jp8`) -/
private theorem jp_wf (ha : AkaRefines) (c i : UInt8) (e : Gen.eap.EAP) (b : Bytes) (d : Gen.eap.EapTypeData)
    (hd : d = .EapAkaPrime {} ∨ ∀ g, d ≠ .EapAkaPrime g)
    (h : ((goFrom b 4 >>= fun t6 => EapTypeData.Unmarshal d t6 >>= fun t7 =>
        Res.ok { Code := c, Identifier := i, EapTypeData := t7 }) : Res Gen.eap.EAP) = .ok e) : EapWF e := by
  obtain ⟨body, _, h⟩ := Res.bind_eq_ok h
  obtain ⟨r, hu, h⟩ := Res.bind_eq_ok h
  cases h
  exact EapTypeData_Unmarshal_wf ha d r body hd hu

/-- the invariant holds after decoding into any object whose own method body satisfies it
(the empty slice leaves the object untouched) -/
theorem EAP_Unmarshal_wf_reuse (ha : AkaRefines) (old : Gen.eap.EAP) (hold : EapWF old) (b : Bytes)
    (e : Gen.eap.EAP) (h : EAP.Unmarshal old b = .ok e) : EapWF e := by
  rw [EAP.Unmarshal] at h
  by_cases hpos : b.length > 0
  · replace h := of_ite_pos h hpos
    by_cases h4 : b.length < 4
    · cases of_ite_pos h h4
    obtain ⟨pl, _, h⟩ := Res.bind_eq_ok (of_ite_neg h h4)
    by_cases c1 : pl < 4
    · cases of_ite_pos h c1
    replace h := of_ite_neg h c1
    by_cases c2 : b.length ≠ pl.toNat
    · cases of_ite_pos h c2
    obtain ⟨code, _, h⟩ := Res.bind_eq_ok (of_ite_neg h c2)
    obtain ⟨ident, _, h⟩ := Res.bind_eq_ok h
    by_cases c4 : pl = 4
    · cases of_ite_pos h c4
      trivial
    obtain ⟨ty, _, h⟩ := Res.bind_eq_ok (of_ite_neg h c4)
    by_cases t1 : ty = 1
    · exact jp_wf ha _ _ e b _ (Or.inr fun _ h => by cases h) (of_ite_pos h t1)
    replace h := of_ite_neg h t1
    by_cases t2 : ty = 2
    · exact jp_wf ha _ _ e b _ (Or.inr fun _ h => by cases h) (of_ite_pos h t2)
    replace h := of_ite_neg h t2
    by_cases t3 : ty = 3
    · exact jp_wf ha _ _ e b _ (Or.inr fun _ h => by cases h) (of_ite_pos h t3)
    replace h := of_ite_neg h t3
    by_cases t50 : ty = 50
    · exact jp_wf ha _ _ e b _ (Or.inl rfl) (of_ite_pos h t50)
    replace h := of_ite_neg h t50
    by_cases t254 : ty = 254
    · exact jp_wf ha _ _ e b _ (Or.inr fun _ h => by cases h) (of_ite_pos h t254)
    cases of_ite_neg h t254
  · cases of_ite_neg h hpos
    exact hold

theorem EAP_Unmarshal_wf (ha : AkaRefines) (b : Bytes) (e : Gen.eap.EAP)
    (h : EAP.Unmarshal {} b = .ok e) : EapWF e :=
  EAP_Unmarshal_wf_reuse ha {} trivial b e h

end Ike.RefineEap
