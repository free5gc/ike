import IkeProofs.Refine.Basic
import IkeModel.GenAbsEap
import IkeProofs.Lemmas.Eap

/-! Library relating the generated code's EAP-AKA' attribute map (insertion-ordered association
list, `Go.mapSetList` / `Go.mapGetList` / `Go.mapEntries` / `Go.sortU8`) to the model's attribute
list sorted by type (`akaInsert` / `akaLookup` / `AkaSorted`) through `GenAbs.absAkaEntries`.

Route: an `AkaSorted` list is determined by its lookups (`akaSorted_ext`); the lookups of
`absAkaEntries l` are those of the association list (`akaLookup_absAkaEntries`); so equations
between abstractions reduce to equations between lookups.

The association-list facts (`mapGetList_cons` … `mapSetList_keys_nodup`) are about this map's `UInt8` keys;
those about the registries' maps (`Go.mapGet`, any key type) are in `RefineReg/Maps.lean`. -/


namespace Ike.RefineEap
open Ike Ike.Gen.eap

/-- invariant of an entry list: every entry stored under its own type, keys unique (`GenAbs.AkaWF g` is this
of the entries of `g.attributes`, `AkaWF_iff`) -/
def EntriesWF (l : List (UInt8 × Gen.eap.EapAkaPrimeAttr)) : Prop :=
  (∀ p ∈ l, p.1 = p.2.attrType) ∧ (l.map (·.1)).Nodup

theorem AkaWF_iff (g : Gen.eap.EapAkaPrime) :
    GenAbs.AkaWF g ↔ EntriesWF (Go.mapEntries g.attributes) := Iff.rfl

theorem entriesWF_nil : EntriesWF [] := by
  refine ⟨?_, ?_⟩
  · intro p hp; cases hp
  · simp

theorem entriesWF_tail {p : UInt8 × Gen.eap.EapAkaPrimeAttr} {l} (h : EntriesWF (p :: l)) :
    EntriesWF l := by
  obtain ⟨h1, h2⟩ := h
  refine ⟨fun q hq => h1 q (List.mem_cons_of_mem _ hq), ?_⟩
  rw [List.map_cons, List.nodup_cons] at h2
  exact h2.2

theorem entriesWF_head_notMem {p : UInt8 × Gen.eap.EapAkaPrimeAttr} {l} (h : EntriesWF (p :: l)) :
    p.1 ∉ l.map (·.1) := by
  obtain ⟨h1, h2⟩ := h
  rw [List.map_cons, List.nodup_cons] at h2
  exact h2.1

@[simp] theorem absAkaAttr_repAkaAttr (x : AkaAttr) : GenAbs.absAkaAttr (GenAbs.repAkaAttr x) = x := by
  cases x; rfl

@[simp] theorem repAkaAttr_absAkaAttr (a : Gen.eap.EapAkaPrimeAttr) :
    GenAbs.repAkaAttr (GenAbs.absAkaAttr a) = a := by
  cases a; rfl

@[simp] theorem absAkaAttr_atype (a : Gen.eap.EapAkaPrimeAttr) : (GenAbs.absAkaAttr a).atype = a.attrType := rfl

@[simp] theorem repAkaAttr_attrType (x : AkaAttr) : (GenAbs.repAkaAttr x).attrType = x.atype := rfl

theorem akaLookup_cons (x : AkaAttr) (rest : List AkaAttr) (k : UInt8) :
    akaLookup (x :: rest) k = if x.atype = k then some x else akaLookup rest k := by
  rw [akaLookup]
  simp only [Refine.u8_beq]

theorem akaLookup_some {l : List AkaAttr} {k : UInt8} {y : AkaAttr} (h : akaLookup l k = some y) :
    y ∈ l ∧ y.atype = k := by
  induction l with
  | nil => cases h
  | cons x rest ih =>
    rw [akaLookup_cons] at h
    by_cases c : x.atype = k
    · rw [if_pos c] at h
      cases h
      exact ⟨List.mem_cons_self, c⟩
    · rw [if_neg c] at h
      exact ⟨List.mem_cons_of_mem _ (ih h).1, (ih h).2⟩

theorem akaLookup_eq_none_iff {l : List AkaAttr} {k : UInt8} :
    akaLookup l k = none ↔ ∀ y ∈ l, y.atype ≠ k := by
  induction l with
  | nil => exact ⟨fun _ y hy => (nomatch hy), fun _ => rfl⟩
  | cons x rest ih =>
    rw [akaLookup_cons, List.forall_mem_cons]
    by_cases c : x.atype = k
    · rw [if_pos c]
      exact ⟨fun h => (nomatch h), fun h => (h.1 c).elim⟩
    · rw [if_neg c, ih]
      exact ⟨fun h => ⟨c, h⟩, fun h => h.2⟩

theorem akaLookup_sorted_mem {l : List AkaAttr} (hs : AkaSorted l) {x : AkaAttr} (hx : x ∈ l) :
    akaLookup l x.atype = some x := by
  induction l with
  | nil => cases hx
  | cons y rest ih =>
    have hs' := List.pairwise_cons.mp hs
    rw [akaLookup_cons]
    rcases List.mem_cons.mp hx with rfl | hx
    · rw [if_pos rfl]
    · rw [if_neg (UInt8.ne_of_lt (hs'.1 x hx)), ih hs'.2 hx]

theorem akaLookup_akaInsert (l : List AkaAttr) (a : AkaAttr) (k : UInt8) :
    akaLookup (akaInsert l a) k = if a.atype = k then some a else akaLookup l k := by
  by_cases c : a.atype = k
  · rw [if_pos c, ← c]; exact akaLookup_insert_same l a
  · rw [if_neg c]; exact akaLookup_insert_other l a k (fun h => c h.symm)

theorem akaSorted_ext (l1 l2 : List AkaAttr) (h1 : AkaSorted l1) (h2 : AkaSorted l2)
    (h : ∀ k, akaLookup l1 k = akaLookup l2 k) : l1 = l2 := by
  induction l1 generalizing l2 with
  | nil =>
    cases l2 with
    | nil => rfl
    | cons y r2 =>
      have := h y.atype
      rw [akaLookup_cons, if_pos rfl] at this
      cases this
  | cons x r1 ih =>
    cases l2 with
    | nil =>
      have := h x.atype
      rw [akaLookup_cons, if_pos rfl] at this
      cases this
    | cons y r2 =>
      have hx : akaLookup (y :: r2) x.atype = some x := by rw [← h, akaLookup_cons, if_pos rfl]
      have hy : akaLookup (x :: r1) y.atype = some y := by rw [h, akaLookup_cons, if_pos rfl]
      have h1' := List.pairwise_cons.mp h1
      have h2' := List.pairwise_cons.mp h2
      have hxy : x = y := by
        rcases List.mem_cons.mp (akaLookup_some hx).1 with e | hxm
        · exact e
        · rcases List.mem_cons.mp (akaLookup_some hy).1 with e | hym
          · exact e.symm
          · exact (UInt8.lt_asymm (h1'.1 y hym) (h2'.1 x hxm)).elim
      subst hxy
      congr 1
      refine ih r2 h1'.2 h2'.2 fun k => ?_
      by_cases c : x.atype = k
      · subst c
        rw [akaLookup_eq_none_iff.mpr (fun y hy => (UInt8.ne_of_lt (h1'.1 y hy)).symm),
            akaLookup_eq_none_iff.mpr (fun y hy => (UInt8.ne_of_lt (h2'.1 y hy)).symm)]
      · have := h k
        rwa [akaLookup_cons, akaLookup_cons, if_neg c, if_neg c] at this

theorem mapGetList_cons {ν : Type} (k0 : UInt8) (v0 : ν) (rest : List (UInt8 × ν)) (k : UInt8) :
    Go.mapGetList ((k0, v0) :: rest) k = if k0 = k then some v0 else Go.mapGetList rest k := rfl

theorem mapSetList_cons {ν : Type} (k0 : UInt8) (v0 : ν) (rest : List (UInt8 × ν)) (k : UInt8) (v : ν) :
    Go.mapSetList ((k0, v0) :: rest) k v =
      if k0 = k then (k, v) :: rest else (k0, v0) :: Go.mapSetList rest k v := rfl

theorem mapGetList_isSome_iff {ν : Type} (l : List (UInt8 × ν)) (k : UInt8) :
    (Go.mapGetList l k).isSome ↔ k ∈ l.map (·.1) := by
  induction l with
  | nil => exact ⟨fun h => (nomatch h), fun h => (nomatch h)⟩
  | cons p rest ih =>
    obtain ⟨k', v'⟩ := p
    rw [mapGetList_cons, List.map_cons, List.mem_cons]
    by_cases c : k' = k
    · rw [if_pos c]
      exact ⟨fun _ => Or.inl c.symm, fun _ => rfl⟩
    · rw [if_neg c, ih]
      exact ⟨Or.inr, fun h => h.resolve_left fun e => c e.symm⟩

theorem mapGetList_none_of_notMem {ν : Type} (l : List (UInt8 × ν)) (k : UInt8)
    (h : k ∉ l.map (·.1)) : Go.mapGetList l k = none :=
  Option.not_isSome_iff_eq_none.mp fun hs => h ((mapGetList_isSome_iff l k).mp hs)

theorem mapGetList_some_mem {ν : Type} (l : List (UInt8 × ν)) (k : UInt8) (v : ν)
    (h : Go.mapGetList l k = some v) : (k, v) ∈ l := by
  induction l with
  | nil => cases h
  | cons p rest ih =>
    obtain ⟨k', v'⟩ := p
    rw [mapGetList_cons] at h
    by_cases c : k' = k
    · rw [if_pos c] at h
      cases h
      exact c ▸ List.mem_cons_self
    · rw [if_neg c] at h
      exact List.mem_cons_of_mem _ (ih h)

theorem mapGetList_mapSetList {ν : Type} (l : List (UInt8 × ν)) (k k' : UInt8) (v : ν) :
    Go.mapGetList (Go.mapSetList l k v) k' = if k = k' then some v else Go.mapGetList l k' := by
  induction l with
  | nil => rfl
  | cons p rest ih =>
    obtain ⟨k0, v0⟩ := p
    rw [mapSetList_cons]
    by_cases c0 : k0 = k
    · subst c0
      rw [if_pos rfl, mapGetList_cons, mapGetList_cons]
      by_cases c : k0 = k'
      · rw [if_pos c, if_pos c]
      · rw [if_neg c, if_neg c, if_neg c]
    · rw [if_neg c0, mapGetList_cons, mapGetList_cons]
      by_cases c1 : k0 = k'
      · rw [if_pos c1, if_pos c1, if_neg fun e : k = k' => c0 (c1.trans e.symm)]
      · rw [if_neg c1, if_neg c1, ih]

theorem mapSetList_mem {ν : Type} (l : List (UInt8 × ν)) (k : UInt8) (v : ν) (p : UInt8 × ν)
    (h : p ∈ Go.mapSetList l k v) : p = (k, v) ∨ p ∈ l := by
  induction l with
  | nil => exact Or.inl (List.mem_singleton.mp h)
  | cons q rest ih =>
    obtain ⟨k0, v0⟩ := q
    rw [mapSetList_cons] at h
    by_cases c0 : k0 = k
    · rw [if_pos c0] at h
      exact (List.mem_cons.mp h).imp_right (List.mem_cons_of_mem _)
    · rw [if_neg c0] at h
      rcases List.mem_cons.mp h with e | e
      · exact Or.inr (e ▸ List.mem_cons_self)
      · exact (ih e).imp_right (List.mem_cons_of_mem _)

/-- a store keeps the keys distinct: it overwrites the entry of a present key and appends an absent one -/
theorem mapSetList_keys_nodup {ν : Type} (l : List (UInt8 × ν)) (k : UInt8) (v : ν)
    (h : (l.map (·.1)).Nodup) : ((Go.mapSetList l k v).map (·.1)).Nodup := by
  induction l with
  | nil => exact List.nodup_cons.mpr ⟨List.not_mem_nil, List.nodup_nil⟩
  | cons q rest ih =>
    obtain ⟨k0, v0⟩ := q
    rw [List.map_cons, List.nodup_cons] at h
    rw [mapSetList_cons]
    by_cases c0 : k0 = k
    · rw [if_pos c0, List.map_cons, List.nodup_cons]
      exact ⟨c0 ▸ h.1, h.2⟩
    · rw [if_neg c0, List.map_cons, List.nodup_cons]
      refine ⟨fun hm => ?_, ih h.2⟩
      obtain ⟨p, hp, e⟩ := List.mem_map.mp hm
      rcases mapSetList_mem rest k v p hp with rfl | hp'
      · exact c0 e.symm
      · exact h.1 (List.mem_map.mpr ⟨p, hp', e⟩)

theorem absAkaEntries_nil : GenAbs.absAkaEntries [] = [] := rfl

private theorem foldl_sorted (l : List (UInt8 × Gen.eap.EapAkaPrimeAttr)) (acc : List AkaAttr)
    (h : AkaSorted acc) :
    AkaSorted (l.foldl (fun acc p => akaInsert acc (GenAbs.absAkaAttr p.2)) acc) := by
  induction l generalizing acc with
  | nil => exact h
  | cons p rest ih =>
    rw [List.foldl_cons]
    exact ih _ (akaInsert_sorted _ _ h)

theorem absAkaEntries_sorted (l : List (UInt8 × Gen.eap.EapAkaPrimeAttr)) :
    AkaSorted (GenAbs.absAkaEntries l) := by
  unfold GenAbs.absAkaEntries
  exact foldl_sorted l [] List.Pairwise.nil

private theorem foldl_lookup (l : List (UInt8 × Gen.eap.EapAkaPrimeAttr)) (acc : List AkaAttr) (k : UInt8)
    (h : EntriesWF l) :
    akaLookup (l.foldl (fun acc p => akaInsert acc (GenAbs.absAkaAttr p.2)) acc) k =
      match Go.mapGetList l k with
      | some v => some (GenAbs.absAkaAttr v)
      | none => akaLookup acc k := by
  induction l generalizing acc with
  | nil => rfl
  | cons p rest ih =>
    obtain ⟨k0, v0⟩ := p
    rw [List.foldl_cons, ih _ (entriesWF_tail h)]
    have hk0 : k0 = v0.attrType := h.1 (k0, v0) List.mem_cons_self
    have hnm := entriesWF_head_notMem h
    simp only at hnm
    rw [mapGetList_cons]
    by_cases c : k0 = k
    · rw [if_pos c]
      rw [mapGetList_none_of_notMem rest k (c ▸ hnm)]
      simp only
      rw [akaLookup_akaInsert, if_pos (by show v0.attrType = k; rw [← hk0]; exact c)]
    · rw [if_neg c]
      cases hg : Go.mapGetList rest k with
      | some v => rfl
      | none =>
        simp only
        rw [akaLookup_akaInsert, if_neg (by show ¬ v0.attrType = k; rw [← hk0]; exact c)]

theorem akaLookup_absAkaEntries (l : List (UInt8 × Gen.eap.EapAkaPrimeAttr)) (k : UInt8) (h : EntriesWF l) :
    akaLookup (GenAbs.absAkaEntries l) k = (Go.mapGetList l k).map GenAbs.absAkaAttr := by
  unfold GenAbs.absAkaEntries
  rw [foldl_lookup l [] k h]
  cases Go.mapGetList l k with
  | some v => rfl
  | none => rfl

theorem atype_mem_absAkaEntries {l : List (UInt8 × Gen.eap.EapAkaPrimeAttr)} (h : EntriesWF l) (k : UInt8) :
    k ∈ (GenAbs.absAkaEntries l).map (·.atype) ↔ k ∈ l.map (·.1) := by
  rw [← mapGetList_isSome_iff]
  constructor
  · intro hk
    obtain ⟨y, hy, rfl⟩ := List.mem_map.mp hk
    have hl := akaLookup_sorted_mem (absAkaEntries_sorted l) hy
    rw [akaLookup_absAkaEntries l _ h] at hl
    cases hg : Go.mapGetList l y.atype with
    | none => rw [hg] at hl; cases hl
    | some v => rfl
  · intro hk
    cases hg : Go.mapGetList l k with
    | none => rw [hg] at hk; cases hk
    | some v =>
      have hl := akaLookup_absAkaEntries l k h
      rw [hg] at hl
      obtain ⟨hm, ht⟩ := akaLookup_some hl
      exact List.mem_map.mpr ⟨_, hm, ht⟩

theorem entriesWF_mapSet (l : List (UInt8 × Gen.eap.EapAkaPrimeAttr)) (v : Gen.eap.EapAkaPrimeAttr)
    (h : EntriesWF l) : EntriesWF (Go.mapSetList l v.attrType v) := by
  refine ⟨?_, mapSetList_keys_nodup l _ _ h.2⟩
  intro p hp
  rcases mapSetList_mem l _ _ p hp with e | e
  · subst e; rfl
  · exact h.1 p e

/-- `m[v.attrType] = v` on the map is `akaInsert` on the abstraction -/
theorem absAkaEntries_mapSet (l : List (UInt8 × Gen.eap.EapAkaPrimeAttr)) (v : Gen.eap.EapAkaPrimeAttr)
    (h : EntriesWF l) :
    GenAbs.absAkaEntries (Go.mapSetList l v.attrType v) =
      akaInsert (GenAbs.absAkaEntries l) (GenAbs.absAkaAttr v) := by
  apply akaSorted_ext
  · exact absAkaEntries_sorted _
  · exact akaInsert_sorted _ _ (absAkaEntries_sorted _)
  · intro k
    rw [akaLookup_absAkaEntries _ k (entriesWF_mapSet l v h), mapGetList_mapSetList,
        akaLookup_akaInsert, akaLookup_absAkaEntries l k h]
    show Option.map _ (if v.attrType = k then _ else _) = if v.attrType = k then _ else _
    by_cases c : v.attrType = k
    · rw [if_pos c, if_pos c]; rfl
    · rw [if_neg c, if_neg c]

/-- the first entry can be inserted last -/
theorem absAkaEntries_cons (p : UInt8 × Gen.eap.EapAkaPrimeAttr) (l : List (UInt8 × Gen.eap.EapAkaPrimeAttr))
    (h : EntriesWF (p :: l)) :
    GenAbs.absAkaEntries (p :: l) = akaInsert (GenAbs.absAkaEntries l) (GenAbs.absAkaAttr p.2) := by
  have hk : p.1 = p.2.attrType := h.1 p List.mem_cons_self
  have hnm := entriesWF_head_notMem h
  apply akaSorted_ext
  · exact absAkaEntries_sorted _
  · exact akaInsert_sorted _ _ (absAkaEntries_sorted _)
  · intro k
    rw [akaLookup_absAkaEntries _ k h, akaLookup_akaInsert, akaLookup_absAkaEntries l k (entriesWF_tail h)]
    obtain ⟨k0, v0⟩ := p
    simp only at hk hnm
    show Option.map _ (Go.mapGetList ((k0, v0) :: l) k) = if v0.attrType = k then _ else _
    rw [mapGetList_cons, ← hk]
    by_cases c : k0 = k
    · rw [if_pos c, if_pos c]; rfl
    · rw [if_neg c, if_neg c]

theorem insertU8_atype (L : List AkaAttr) (a : AkaAttr) (h : a.atype ∉ L.map (·.atype)) :
    (akaInsert L a).map (·.atype) = Go.insertU8 a.atype (L.map (·.atype)) := by
  induction L with
  | nil => rfl
  | cons x rest ih =>
    rw [List.map_cons, List.mem_cons, not_or] at h
    rw [List.map_cons, Go.insertU8]
    rcases akaInsert_cons x rest a with ⟨c, e⟩ | ⟨c, _⟩ | ⟨c, e⟩
    · rw [e, if_pos (UInt8.le_of_lt c)]
      rfl
    · exact (h.1 c).elim
    · rw [e, if_neg (UInt8.not_le.mpr c), List.map_cons, ih h.2]

/-- the sorted key list that `getAttrsKeys` produces is the list of types of the abstraction -/
theorem sortU8_keys_abs (l : List (UInt8 × Gen.eap.EapAkaPrimeAttr)) (h : EntriesWF l) :
    Go.sortU8 (l.map (·.1)) = (GenAbs.absAkaEntries l).map (·.atype) := by
  induction l with
  | nil => rfl
  | cons p rest ih =>
    have hk : p.1 = p.2.attrType := h.1 p List.mem_cons_self
    have hnm := entriesWF_head_notMem h
    have ht := entriesWF_tail h
    rw [absAkaEntries_cons p rest h, insertU8_atype, ← ih ht]
    · rw [List.map_cons, Go.sortU8, hk]
      rfl
    · rw [atype_mem_absAkaEntries ht]
      show p.2.attrType ∉ _
      rw [← hk]; exact hnm

/-- looking each sorted key up gives the abstraction's elements in order -/
theorem lookup_sorted_keys (l : List (UInt8 × Gen.eap.EapAkaPrimeAttr)) (h : EntriesWF l) :
    (Go.sortU8 (l.map (·.1))).map (fun k => ((Go.mapGetList l k).map GenAbs.absAkaAttr)) =
      (GenAbs.absAkaEntries l).map some := by
  rw [sortU8_keys_abs l h, List.map_map]
  apply List.map_congr_left
  intro x hx
  show Option.map _ (Go.mapGetList l x.atype) = some x
  rw [← akaLookup_absAkaEntries l _ h]
  exact akaLookup_sorted_mem (absAkaEntries_sorted l) hx

theorem entriesWF_rep (xs : List AkaAttr) (hs : AkaSorted xs) :
    EntriesWF (xs.map (fun x => (x.atype, GenAbs.repAkaAttr x))) := by
  refine ⟨?_, ?_⟩
  · intro p hp
    obtain ⟨x, _, rfl⟩ := List.mem_map.mp hp
    rfl
  · rw [List.map_map]
    unfold AkaSorted at hs
    show (List.map (fun x : AkaAttr => x.atype) xs).Nodup
    unfold List.Nodup
    rw [List.pairwise_map]
    exact hs.imp (fun hlt => UInt8.ne_of_lt hlt)

theorem absAkaEntries_rep (xs : List AkaAttr) (hs : AkaSorted xs) :
    GenAbs.absAkaEntries (xs.map (fun x => (x.atype, GenAbs.repAkaAttr x))) = xs := by
  induction xs with
  | nil => rfl
  | cons x rest ih =>
    have hwf := entriesWF_rep (x :: rest) hs
    unfold AkaSorted at hs
    rw [List.pairwise_cons] at hs
    rw [List.map_cons] at hwf ⊢
    rw [absAkaEntries_cons _ _ hwf, ih hs.2]
    show akaInsert rest (GenAbs.absAkaAttr (GenAbs.repAkaAttr x)) = x :: rest
    rw [absAkaAttr_repAkaAttr]
    exact akaInsert_front rest x hs.1

/-! ### further algebra of `absAkaEntries` and `akaInsert`

The fold unrolled at its last entry, membership in the abstraction, and insertions commuting or
overwriting each other.  The refinement proofs compare lookups (`akaSorted_ext`) and do not call these. -/

theorem absAkaEntries_snoc (l : List (UInt8 × Gen.eap.EapAkaPrimeAttr)) (p : UInt8 × Gen.eap.EapAkaPrimeAttr) :
    GenAbs.absAkaEntries (l ++ [p]) = akaInsert (GenAbs.absAkaEntries l) (GenAbs.absAkaAttr p.2) := by
  unfold GenAbs.absAkaEntries
  rw [List.foldl_append]
  rfl

theorem mem_absAkaEntries {l : List (UInt8 × Gen.eap.EapAkaPrimeAttr)} (h : EntriesWF l) {y : AkaAttr}
    (hy : y ∈ GenAbs.absAkaEntries l) : ∃ p ∈ l, y = GenAbs.absAkaAttr p.2 := by
  have hl := akaLookup_sorted_mem (absAkaEntries_sorted l) hy
  rw [akaLookup_absAkaEntries l _ h] at hl
  cases hg : Go.mapGetList l y.atype with
  | none => rw [hg] at hl; cases hl
  | some v =>
    rw [hg] at hl
    have e : GenAbs.absAkaAttr v = y := by simpa using hl
    exact ⟨(y.atype, v), mapGetList_some_mem l _ _ hg, e.symm⟩

theorem akaInsert_comm (l : List AkaAttr) (a b : AkaAttr) (hs : AkaSorted l) (h : a.atype ≠ b.atype) :
    akaInsert (akaInsert l a) b = akaInsert (akaInsert l b) a := by
  apply akaSorted_ext
  · exact akaInsert_sorted _ _ (akaInsert_sorted _ _ hs)
  · exact akaInsert_sorted _ _ (akaInsert_sorted _ _ hs)
  · intro k
    simp only [akaLookup_akaInsert]
    by_cases ca : a.atype = k
    · have cb : ¬ b.atype = k := fun e => h (ca.trans e.symm)
      rw [if_pos ca, if_neg cb, if_pos ca]
    · rw [if_neg ca, if_neg ca]

set_option linter.unusedVariables false in
theorem akaInsert_overwrite (l : List AkaAttr) (a b : AkaAttr) (hs : AkaSorted l) (h : a.atype = b.atype) :
    akaInsert (akaInsert l a) b = akaInsert l b :=
  akaInsert_insert_same l a b h

end Ike.RefineEap

