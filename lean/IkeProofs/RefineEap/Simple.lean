import IkeProofs.Refine.Basic
import IkeModel.GenAbsEap

/-! Package `eap`, the simple methods: Identity / Notification / Nak / Expanded
`Type`, `Marshal`, `Unmarshal`, and the EAP-AKA' accessors, as generated ⊑ the hand-written model. -/


namespace Ike.RefineEap
open Ike Ike.Gen.eap Ike.Refine

/-- the body shared by `EapIdentity.Unmarshal`, `EapNotification.Unmarshal`, `EapNak.Unmarshal` on a fresh
receiver: more than one octet, the first being the type code, is that method's data; anything shorter is
accepted and ignored.  `EapIdentity.Unmarshal {} b` is `simpleVia 1 (fun d => { IdentityData := d }) b` by unfolding
(likewise the other two): the three `_Unmarshal_refines` below are `simpleVia_refines` read through that. -/
def simpleVia {σ : Type} (code : UInt8) (mk : Bytes → σ) (b : Bytes) : Res σ :=
  if b.length > 1 then
    goIndex b 0 >>= fun t => if t ≠ code then .err else goFrom b 1 >>= fun d => .ok (mk d)
  else .ok (mk [])

theorem simpleVia_refines {σ : Type} (code : UInt8) (mk : Bytes → σ) (f : σ → EapData) (g : Bytes → EapData)
    (h : ∀ d, f (mk d) = g d) (b : Bytes) :
    (simpleVia code mk b).map f = unmarshalSimple code g b := by
  unfold simpleVia unmarshalSimple
  simp only [Res.map_ite, Res.map_bind, map_ok', map_err', h, u8_bne]

theorem EapIdentity_Unmarshal_refines (b : Bytes) :
    (EapIdentity.Unmarshal {} b).map (fun v => GenAbs.absEapData (.EapIdentity v))
      = unmarshalSimple Facts.eapTypeIdentity .identity b :=
  simpleVia_refines (σ := Gen.eap.EapIdentity) 1 (fun d => { IdentityData := d }) _ .identity (fun _ => rfl) b

theorem EapNotification_Unmarshal_refines (b : Bytes) :
    (EapNotification.Unmarshal {} b).map (fun v => GenAbs.absEapData (.EapNotification v))
      = unmarshalSimple Facts.eapTypeNotification .notification b :=
  simpleVia_refines (σ := Gen.eap.EapNotification) 2 (fun d => { NotificationData := d }) _ .notification
    (fun _ => rfl) b

theorem EapNak_Unmarshal_refines (b : Bytes) :
    (EapNak.Unmarshal {} b).map (fun v => GenAbs.absEapData (.EapNak v))
      = unmarshalSimple Facts.eapTypeNak .nak b :=
  simpleVia_refines (σ := Gen.eap.EapNak) 3 (fun d => { NakData := d }) _ .nak (fun _ => rfl) b

theorem EapExpanded_Unmarshal_refines (b : Bytes) :
    (EapExpanded.Unmarshal {} b).map (fun v => GenAbs.absEapData (.EapExpanded v))
      = unmarshalExpanded b := by
  unfold EapExpanded.Unmarshal unmarshalExpanded
  simp only [u32At_eq _ 0 4 rfl, u32At_eq _ 4 8 rfl, Refine.ite_pos_eq, Res.map_ite, Res.map_bind, map_ok', map_err',
    Res.bind_ok, GenAbs.absEapData, List.nil_append]

theorem EapIdentity_Marshal_refines (v : Gen.eap.EapIdentity) :
    EapIdentity.Marshal v = marshalEapData (.identity v.IdentityData) := by
  unfold EapIdentity.Marshal marshalEapData
  by_cases h : v.IdentityData.length = 0 <;> simp [h, Facts.eapTypeIdentity]

theorem EapNotification_Marshal_refines (v : Gen.eap.EapNotification) :
    EapNotification.Marshal v = marshalEapData (.notification v.NotificationData) := by
  unfold EapNotification.Marshal marshalEapData
  by_cases h : v.NotificationData.length = 0 <;> simp [h, Facts.eapTypeNotification]

theorem EapNak_Marshal_refines (v : Gen.eap.EapNak) :
    EapNak.Marshal v = marshalEapData (.nak v.NakData) := by
  unfold EapNak.Marshal marshalEapData
  by_cases h : v.NakData.length = 0 <;> simp [h, Facts.eapTypeNak]

/-- the type octet in the top byte of the first word: the literal the translator folded
`uint32(EapTypeExpanded) << 24` into -/
theorem expanded_type_word : (Facts.eapTypeExpanded.toUInt32 <<< 24 : UInt32) = (4261412864 : UInt32) := by
  decide

theorem EapExpanded_Marshal_refines (v : Gen.eap.EapExpanded) :
    EapExpanded.Marshal v = marshalEapData (.expanded v.VendorID v.VendorType v.VendorData) := by
  unfold EapExpanded.Marshal marshalEapData
  rw [expanded_type_word]
  have hmask : (0x00ffffff : UInt32) = (16777215 : UInt32) := rfl
  have h1 (w : UInt32) : Go.putU32 (zeros 8) 0 4 w = Res.ok (put32 w ++ zeros 4) := Go.putU32_head 0 0 0 0 _ w
  have h2 (w w' : UInt32) : Go.putU32 (put32 w ++ zeros 4) 4 8 w' = Res.ok (put32 w ++ put32 w') :=
    Go.putU32_last _ _ 4 8 w' rfl rfl rfl
  simp only [h1, h2, Res.bind_ok]
  by_cases h : v.VendorData.length = 0
  · have : v.VendorData = [] := List.eq_nil_of_length_eq_zero h
    simp [this]
  · simp [h]

theorem EapIdentity_Type_refines (v : Gen.eap.EapIdentity) :
    EapIdentity.Type_ v = Res.ok Facts.eapTypeIdentity := rfl

theorem EapNotification_Type_refines (v : Gen.eap.EapNotification) :
    EapNotification.Type_ v = Res.ok Facts.eapTypeNotification := rfl

theorem EapNak_Type_refines (v : Gen.eap.EapNak) :
    EapNak.Type_ v = Res.ok Facts.eapTypeNak := rfl

theorem EapExpanded_Type_refines (v : Gen.eap.EapExpanded) :
    EapExpanded.Type_ v = Res.ok Facts.eapTypeExpanded := rfl

theorem EapAkaPrime_Type_refines (v : Gen.eap.EapAkaPrime) :
    EapAkaPrime.Type_ v = Res.ok Facts.eapTypeAkaPrime := rfl

theorem EapAkaPrime_SubType_refines (g : Gen.eap.EapAkaPrime) :
    EapAkaPrime.SubType g = Res.ok (GenAbs.absAka g).subtype := rfl

theorem GetValue_refines (a : Gen.eap.EapAkaPrimeAttr) :
    EapAkaPrimeAttr.GetValue a = Res.ok (GenAbs.absAkaAttr a).value := rfl

theorem GetAttrType_refines (a : Gen.eap.EapAkaPrimeAttr) :
    EapAkaPrimeAttr.GetAttrType a = Res.ok (GenAbs.absAkaAttr a).atype := rfl

theorem AttrType_Value_refines (t : UInt8) : EapAkaPrimeAttrType.Value t = Res.ok t := rfl

end Ike.RefineEap
