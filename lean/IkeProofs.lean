import IkeProofs.Lemmas.Basic
import IkeProofs.Lemmas.Bytes
import IkeProofs.Lemmas.NoFault
import IkeProofs.Lemmas.RoundTrip
import IkeProofs.Lemmas.Keys
import IkeProofs.Lemmas.Dh
import IkeProofs.Lemmas.Cbc
import IkeProofs.Theorems.C04
import IkeProofs.Theorems.C07
import IkeProofs.Theorems.C08
import IkeProofs.Theorems.C09
import IkeProofs.Theorems.C10
import IkeProofs.Theorems.C16
import IkeProofs.Lemmas.Eap
import IkeProofs.Theorems.C03
import IkeProofs.Theorems.C13
import IkeProofs.Theorems.C14
import IkeProofs.Theorems.C15
import IkeProofs.Lemmas.Sk
import IkeProofs.Theorems.C06
import IkeProofs.Theorems.C01
import IkeProofs.Theorems.C02
import IkeProofs.Theorems.C17
import IkeProofs.Theorems.C18
import IkeProofs.Theorems.C20
import IkeProofs.Lemmas.Registry
import IkeProofs.Theorems.C11
import IkeProofs.Theorems.C19
import IkeProofs.Lemmas.Wire
import IkeProofs.Theorems.C05
import IkeProofs.Lemmas.Stable
import IkeProofs.Theorems.C12
import IkeProofs.Lemmas.PrimsReal
import IkeProofs.Lemmas.Steps
import IkeProofs.Theorems.C04Steps
import IkeProofs.Lemmas.Parse
import IkeProofs.Theorems.C05Parse
import IkeProofs.Theorems.C12Canonical
import IkeProofs.Lemmas.SkOpen
import IkeProofs.Theorems.C06Open
import IkeProofs.Lemmas.EapParse
import IkeProofs.Theorems.C14Parse
import IkeProofs.Lemmas.ParseFull
import IkeProofs.Theorems.C05ParseFull
import IkeProofs.Theorems.C12CanonicalFull
import IkeProofs.Theorems.C15Wire
import IkeProofs.Theorems.C20Appends
import IkeProofs.Theorems.C19Appends
import IkeProofs.Theorems.C02Inputs
import IkeProofs.Theorems.C10Inputs
import IkeProofs.Theorems.C08Inputs
import IkeProofs.Theorems.C07State
import IkeProofs.Theorems.C08State
import IkeProofs.Theorems.C09State
import IkeProofs.Theorems.C10State
import IkeProofs.Theorems.C14State
import IkeProofs.Theorems.C16State
import IkeProofs.Theorems.C17State
import IkeProofs.Refine.Basic
import IkeProofs.Refine.Simple
import IkeProofs.Refine.DeleteCP
import IkeProofs.Refine.TS
import IkeProofs.Refine.SAUnmarshal
import IkeProofs.Refine.SAMarshal
import IkeProofs.Refine.Header
import IkeProofs.Refine.ChainMsg
import IkeProofs.Refine.Glue
import IkeProofs.Refine.Transfer
import IkeProofs.Refine.Build
import IkeProofs.Refine.BuildEap5G
import IkeProofs.Theorems.C03Gen
import IkeProofs.Theorems.C04Gen
import IkeProofs.Theorems.C05Gen
import IkeProofs.Theorems.C12Gen
import IkeProofs.Theorems.C13Gen
import IkeProofs.Theorems.C19Gen
import IkeProofs.Theorems.C11State
import IkeProofs.RefineEap.Simple
import IkeProofs.RefineEap.AkaMap
import IkeProofs.RefineEap.SetGet
import IkeProofs.RefineEap.AkaUnmarshal
import IkeProofs.RefineEap.AkaMarshal
import IkeProofs.RefineEap.Packet
import IkeProofs.RefineEap.Glue
import IkeProofs.Theorems.C14Gen
import IkeProofs.RefineEap.Crypto
import IkeProofs.Theorems.C15Gen
import IkeProofs.Theorems.C16Gen
import IkeProofs.Theorems.C07Gen
import IkeProofs.Theorems.C08Gen
import IkeProofs.RefineReg.Maps
import IkeProofs.RefineReg.Registries
import IkeProofs.RefineReg.Dh
import IkeProofs.RefineReg.Cbc
import IkeProofs.Theorems.C09Gen
import IkeProofs.Theorems.C10Gen
import IkeProofs.Theorems.C11Gen
import IkeProofs.RefineSa.Basic
import IkeProofs.RefineSa.Integrity
import IkeProofs.RefineSa.Keys
import IkeProofs.RefineSa.Protect
import IkeProofs.RefineSa.Unprotect
import IkeProofs.RefineSa.Transfer
import IkeProofs.RefineSa.RandNum
import IkeProofs.RefineSa.Select
import IkeProofs.Theorems.C01Gen
import IkeProofs.Theorems.C02Gen
import IkeProofs.Theorems.C06Gen
import IkeProofs.Theorems.C17Gen
